/-
  Model — the built-in functions' `value()` methods (blocc/builtin/builtin_*.cpp), string/bytes/
  conversion family (property C10) plus `int`. Arguments are thunks because the C++ evaluates
  `_args[k]->value(ctx)` lazily, in the order written in each method.

  Hazards modelled (each is a place where the C++ performs an undefined or foreign-exception
  operation): `Integer(double)` casts of out-of-range decimals (floatToInt), signed `int64_t` index
  arithmetic (`sadd`/`ssub`: signedOverflow when the C operation overflows), typed-null operands
  dereferenced without a null test (nullDeref). After the `fix:` commits e2c4824 (substr/subraw: a
  position still negative after adding the length selects nothing), cbe22cc (hex: pad count clamped
  to 16 before the digit loop), fde74fa (abs wraps) and eec6e8e (pow(integer, integer) exact modulo
  2^64) none of the signed operations below can overflow any more: Proofs/C10.lean
  (`text_builtins_no_hazard`, `substr_contract`, `hex_contract`, `abs_contract`, `pow_exact`).
-/
import BlocV.Model.Ops
import BlocV.Model.Strtod

namespace BlocV
open Num

/-- Built-ins run in any monad `m` into which `Res` lifts: `Res` itself for the value-level theorems
and the driver's `bi` command, the interpreter's state monad (Model/Interp.lean) for programs, where
forcing an argument thunk may print, call functions or fail. -/
abbrev Thunk (m : Type → Type) := m Val

section
variable {m : Type → Type} [Monad m] [MonadLiftT Res m]

def liftR {α} (r : Res α) : m α := liftM r

def argTypeErr {α} : m α := liftR (.err Gen.EXC_RT_FUNC_ARG_TYPE_S)
def rerr {α} (code : Nat) : m α := liftR (.err code)

/-- `Value::toInteger(d)`: truncation toward zero when the value is representable (−2^63 ≤ d < 2^63),
the error OUT_OF_RANGE otherwise (NaN, ±inf, beyond the range) — the range-checked conversion every
built-in and member uses for a decimal position, count or element. -/
def castToInt (d : F64) : Res Int64 :=
  match truncInt d with
  | some z => if -2 ^ 63 ≤ z ∧ z < 2 ^ 63 then .ok (Int64.ofInt z) else .err Gen.EXC_RT_OUT_OF_RANGE
  | none => .err Gen.EXC_RT_OUT_OF_RANGE

/-- `int64 + int64` / `int64 - int64` as C signed arithmetic: undefined on overflow. -/
def sadd (a b : Int64) : Res Int64 :=
  let z := a.toInt + b.toInt
  if -2 ^ 63 ≤ z ∧ z < 2 ^ 63 then .ok (a + b) else .haz .signedOverflow
def ssub (a b : Int64) : Res Int64 :=
  let z := a.toInt - b.toInt
  if -2 ^ 63 ≤ z ∧ z < 2 ^ 63 then .ok (a - b) else .haz .signedOverflow

def imin (a b : Int64) : Int64 := if b < a then b else a
def imax (a b : Int64) : Int64 := if a < b then b else a
def lenI (s : Bytes) : Int64 := Int64.ofNat s.length

/-- Outcome of reading a position/count argument in the substr family:
`retVal` = "return the first argument unchanged". -/
inductive PosArg
  | retVal
  | pos (i : Int64)

/-- The `switch (a1.type().major())` that reads an integer position: NO_TYPE → return val; INTEGER /
NUMERIC null → return val; NUMERIC → cast; anything else → FUNC_ARG_TYPE. -/
def readPos (a : Val) : Res PosArg :=
  match a.type.major with
  | .none => .ok .retVal
  | .int => if a.isNull then .ok .retVal else do let i ← a.asInt; pure (.pos i)
  | .num => if a.isNull then .ok .retVal else do let d ← a.asNum; let i ← castToInt d; pure (.pos i)
  | _ => argTypeErr

def sliceBytes (s : Bytes) (a b : Int64) : Bytes := (s.drop a.toNatClampNeg).take b.toNatClampNeg

/-- The index arithmetic of `substr`/`subraw` after `if (c == 0) return val;`, as builtin_substr.cpp /
builtin_subraw.cpp write it on `int64_t` (signed C operations: `sadd`/`ssub`):
    a = (a < 0 ? a + c : a);
    b = (a < 0 ? 0 : std::max<int64_t>(std::min(b, c - a), 0L));
A position that is still negative after adding the length selects nothing, and `c - a` is then not
computed at all (it overflowed for a = INT64_MIN before commit e2c4824). Returns the adjusted (a, b). -/
def substrRange (c a0 b : Int64) : Res (Int64 × Int64) := do
  let a ← if a0 < 0 then sadd a0 c else pure a0
  if a < 0 then pure (a, 0)
  else do
    let d ← ssub c a
    pure (a, imax (imin b d) 0)

/-- Shared body of `substr` (strings) and `subraw` (bytes). `mk` rebuilds the value, `get` is the
typed accessor, `nullTy` the type of the result for an untyped-null first argument. -/
def substrLike (major : Major) (nullTy : Ty) (get : Val → Res Bytes) (mk : Bytes → Val)
    (args : List (Thunk m)) : m Val := do
  match args with
  | t0 :: t1 :: rest =>
    let val ← t0
    if val.type.major == .none then return .null nullTy
    if val.type.major != major then argTypeErr else
    let a1 ← t1
    match ← readPos a1 with
    | .retVal => return val
    | .pos a0 =>
      if val.isNull then return val
      let s ← get val
      let c := lenI s
      let mut b := c
      match rest with
      | t2 :: _ =>
        let a2 ← t2
        match ← readPos a2 with
        | .retVal => return val
        | .pos b0 => b := b0
      | [] => pure ()
      if c == 0 then return val
      let ab ← liftR (substrRange c a0 b)
      if ab.1 ≥ 0 && ab.2 > 0 then return mk (sliceBytes s ab.1 ab.2) else return mk []
  | _ => argTypeErr

def biSubstr (args : List (Thunk m)) : m Val := substrLike .str Ty.str Val.asStr Val.str args
def biSubraw (args : List (Thunk m)) : m Val := substrLike .raw Ty.raw Val.asRaw Val.raw args

/-- `lsubstr` / `rsubstr`. -/
def lrSubstr (left : Bool) (args : List (Thunk m)) : m Val := do
  match args with
  | t0 :: t1 :: _ =>
    let val ← t0
    if val.type.major == .none then return .null Ty.str
    if val.type.major != .str then argTypeErr else
    let a1 ← t1
    match ← readPos a1 with
    | .retVal => return val
    | .pos b =>
      if val.isNull then return val
      let s ← val.asStr
      let c := lenI s
      if c == 0 then return val
      let a := imax (imin b c) 0
      if left then return .str (s.take a.toNatClampNeg)
      else return .str (s.drop (c - a).toNatClampNeg)
  | _ => argTypeErr

/-- `std::string::find(needle, from)`: first index ≥ from at which needle occurs (npos = none). -/
def findFrom (hay needle : Bytes) (from_ : Nat) : Option Nat :=
  if from_ > hay.length then none else
  let rec go (fuel : Nat) (i : Nat) : Option Nat :=
    match fuel with
    | 0 => none
    | fuel + 1 =>
      if i + needle.length > hay.length then none
      else if (hay.drop i).take needle.length == needle then some i
      else go fuel (i + 1)
  go (hay.length + 1) from_

def biStrpos (args : List (Thunk m)) : m Val := do
  match args with
  | t0 :: t1 :: rest =>
    let val ← t0
    let a1 ← t1
    match val.type.major with
    | .none => return .null Ty.int
    | .str =>
      if val.isNull || a1.isNull then return .null Ty.int
      let mut s : Int64 := 0
      match rest with
      | t2 :: _ =>
        let a2 ← t2
        match a2.type.major with
        | .none => return .null Ty.int
        | .int => if !a2.isNull then s ← a2.asInt
        | .num => if !a2.isNull then do let d ← a2.asNum; s ← castToInt d
        | _ => argTypeErr
        if s < 0 then rerr Gen.EXC_RT_INDEX_RANGE_S else pure ()
      | [] => pure ()
      let hay ← val.asStr
      let needle ← a1.asStr
      match findFrom hay needle s.toNatClampNeg with
      | some p => return .int (Int64.ofNat p)
      | none => return .null Ty.int
    | _ => argTypeErr
  | _ => argTypeErr

/-- The replacement loop of `builtin_replace.cpp` for a non-empty needle. -/
def replaceLoop (hay needle repl : Bytes) : Nat → Nat → Bytes → Bytes
  | 0, _, acc => acc
  | fuel + 1, p, acc =>
    if p ≥ hay.length then acc
    else match findFrom hay needle p with
      | some e => replaceLoop hay needle repl fuel (e + needle.length) (acc ++ (hay.drop p).take (e - p) ++ repl)
      | none => acc ++ hay.drop p

def biReplace (args : List (Thunk m)) : m Val := do
  match args with
  | t0 :: t1 :: t2 :: _ =>
    let val ← t0
    let a1 ← t1
    match val.type.major with
    | .none => return .null Ty.str
    | .str =>
      match a1.type.major with
      | .none => return val
      | .str => if a1.isNull then return val else pure ()
      | _ => argTypeErr
      if val.isNull then return val
      let a2 ← t2
      match a2.type.major with
      | .none | .str => pure ()
      | _ => argTypeErr
      let hay ← val.asStr
      let needle ← a1.asStr
      if needle.isEmpty then return val
      let repl ← if a2.isNull then pure [] else a2.asStr
      return .str (replaceLoop hay needle repl (hay.length + 1) 0 [])
    | _ => argTypeErr
  | _ => argTypeErr

def dropWhileSp (s : Bytes) : Bytes := s.dropWhile (· == 32)
def rtrimSp (s : Bytes) : Bytes := (s.reverse.dropWhile (· == 32)).reverse

/-- One-string-argument functions: NO_TYPE → null string; null string → itself. -/
def strMap (f : Bytes → Bytes) (args : List (Thunk m)) : m Val := do
  match args with
  | t0 :: _ =>
    let val ← t0
    match val.type.major with
    | .none => return .null Ty.str
    | .str => if val.isNull then return val else do let s ← val.asStr; return .str (f s)
    | _ => argTypeErr
  | _ => argTypeErr

/-- `::toupper` / `::tolower` in the "C" locale, applied to each `char`. -/
def upperByte (c : UInt8) : UInt8 := if 97 ≤ c ∧ c ≤ 122 then c - 32 else c
def lowerByte (c : UInt8) : UInt8 := if 65 ≤ c ∧ c ≤ 90 then c + 32 else c

def biStrlen (args : List (Thunk m)) : m Val := do
  match args with
  | t0 :: _ =>
    let val ← t0
    match val.type.major with
    | .none => return .null Ty.int
    | .str => if val.isNull then return .null Ty.int else do let s ← val.asStr; return .int (lenI s)
    | _ => argTypeErr
  | _ => argTypeErr

/-- `TOKENIZEExpression::tokenize`. -/
def tokenizeLoop (sep : Bytes) (trim : Bool) : Nat → Bytes → Bytes → List Bytes → List Bytes
  | 0, _, tok, acc => if !trim || !tok.isEmpty then acc ++ [tok] else acc
  | fuel + 1, rest, tok, acc =>
    match rest with
    | [] => if !trim || !tok.isEmpty then acc ++ [tok] else acc
    | c :: rs =>
      if !sep.isEmpty && rest.take sep.length == sep then
        if !trim || !tok.isEmpty then tokenizeLoop sep trim fuel (rest.drop sep.length) [] (acc ++ [tok])
        else tokenizeLoop sep trim fuel (rest.drop sep.length) tok acc
      else tokenizeLoop sep trim fuel rs (tok ++ [c]) acc

def tokenize (s sep : Bytes) (trim : Bool) : List Bytes :=
  if s.isEmpty then [] else tokenizeLoop sep trim (s.length + 1) s [] []

def tabStrTy : Ty := { major := .str, level := 1 }

def biTokenize (args : List (Thunk m)) : m Val := do
  match args with
  | t0 :: t1 :: rest =>
    let val ← t0
    match val.type.major with
    | .none => return .null tabStrTy
    | .str =>
      let a1 ← t1
      let sep ← match a1.type.major with
        | .none => pure []
        | .str => if a1.isNull then pure [] else a1.asStr
        | _ => argTypeErr
      let mut trim := false
      match rest with
      | t2 :: _ =>
        let a2 ← t2
        if !a2.isNull then trim ← a2.asBool
      | [] => pure ()
      if val.isNull then return .null tabStrTy
      let s ← val.asStr
      return .tab tabStrTy [] ((tokenize s sep trim).map Val.str)
    | _ => argTypeErr
  | _ => argTypeErr

/-- `HEXExpression::hex(val, n)`: `n` is first clamped to 16 (`if (n > 16) n = 16;`, commit cbe22cc),
then 15 upper nibbles are printed once a non-zero nibble was seen or the running `n` reached 16, then
the lowest nibble. `n += 1` is a signed C addition (`sadd`); after the clamp it stays ≤ 31. -/
def hexDigitB (c : UInt64) : UInt8 := if c < 10 then (48 + c).toUInt8 else (87 + c).toUInt8

def hexLoop (v : Int64) : Nat → Int64 → Int64 → Bytes → Res Bytes
  | 0, _, _, acc => .ok (acc ++ [hexDigitB (v.toUInt64 &&& 0xf)])
  | k + 1, n, s, acc =>
    -- d = 4 * (k + 1); arithmetic right shift of a signed value, then & 0xf
    let c : UInt64 := (v >>> (Int64.ofNat (4 * (k + 1)))).toUInt64 &&& 0xf
    let s' := s + c.toInt64
    let acc' := if s' != 0 || n ≥ 16 then acc ++ [hexDigitB c] else acc
    match sadd n 1 with
    | .ok n' => hexLoop v k n' s' acc'
    | .err c a => .err c a
    | .haz h => .haz h
    | .unmodelled => .unmodelled

/-- `if (n > Integer(sizeof(buf))) n = Integer(sizeof(buf));` -/
def hexClamp (n : Int64) : Int64 := if n > 16 then 16 else n

/-- `HEXExpression::hex(val, n)` as a whole. -/
def hexStr (v n : Int64) : Res Bytes := hexLoop v 15 (hexClamp n) 0 []

def biHex (args : List (Thunk m)) : m Val := do
  match args with
  | t0 :: rest =>
    let arg0 ← t0
    if arg0.isNull then return .null Ty.str
    let mut n : Int64 := 0
    match rest with
    | t1 :: _ =>
      let arg1 ← t1
      if !arg1.isNull then
        match arg1.type.major with
        | .int => n ← arg1.asInt
        | .num => do let d ← arg1.asNum; n ← castToInt d
        | _ => argTypeErr
    | [] => pure ()
    let v ← match arg0.type.major with
      | .int => arg0.asInt
      | .num => do let d ← arg0.asNum; castToInt d
      | _ => argTypeErr
    let s ← hexStr v n
    return .str s
  | _ => argTypeErr

/-- DJB hash over `char` (signed on this platform): `h = h*33 + (int)c`, 32-bit wrap. -/
def djb32 (s : Bytes) : UInt32 :=
  s.foldl (fun h c => ((h <<< 5) + h) + (if c < 128 then c.toUInt32 else c.toUInt32 + 0xffffff00)) 5381

def biHash (args : List (Thunk m)) : m Val := do
  match args with
  | t0 :: rest =>
    let val ← t0
    let mut maxSize : UInt32 := 0xffffffff
    match rest with
    | t1 :: _ =>
      let a1 ← t1
      match a1.type.major with
      | .none => pure ()
      | .int =>
        if !a1.isNull then
          let i ← a1.asInt
          if i < 1 || i > 4294967295 then rerr Gen.EXC_RT_OUT_OF_RANGE else maxSize := i.toUInt64.toUInt32
      | .num =>
        if !a1.isNull then
          let d ← a1.asNum
          -- !(d >= 1.0 && d <= 4294967295.0) → OUT_OF_RANGE; then (uint32_t)d truncates
          if !(fle 0x3ff0000000000000 d && fle d 0x41efffffffe00000) then rerr Gen.EXC_RT_OUT_OF_RANGE
          else do let i ← castToInt d; maxSize := i.toUInt64.toUInt32
      | _ => argTypeErr
    | [] => pure ()
    match val.type.major with
    | .none => return .null Ty.int
    | .str => if val.isNull then return .null Ty.int else do
        let s ← val.asStr; return .int (djb32 s % maxSize).toUInt64.toInt64
    | .raw => if val.isNull then return .null Ty.int else do
        let s ← val.asRaw; return .int (djb32 s % maxSize).toUInt64.toInt64
    | _ => argTypeErr
  | _ => argTypeErr

def biChr (args : List (Thunk m)) : m Val := do
  match args with
  | t0 :: _ =>
    let val ← t0
    match val.type.major with
    | .none => return .null Ty.str
    | .int =>
      if val.isNull then return .null Ty.str
      let c ← val.asInt
      if c < 0 || c > 255 then rerr Gen.EXC_RT_OUT_OF_RANGE else return .str [c.toUInt64.toUInt8]
    | .num =>
      if val.isNull then return .null Ty.str
      let d ← val.asNum
      -- !(c >= 0.0 && c < 256.0) → OUT_OF_RANGE
      if !(fle 0 d && flt d 0x4070000000000000) then rerr Gen.EXC_RT_OUT_OF_RANGE
      else do let i ← castToInt d; return .str [i.toUInt64.toUInt8]
    | _ => argTypeErr
  | _ => argTypeErr

def biRaw (args : List (Thunk m)) : m Val := do
  match args with
  | [] => return .null Ty.raw
  | t0 :: rest =>
    let val ← t0
    if val.isNull then return .null Ty.raw
    let n ← match val.type.major with
      | .str => do let s ← val.asStr; return .raw s
      | .int => val.asInt
      | .num => do let d ← val.asNum; castToInt d
      | .raw => return val
      | _ => argTypeErr
    if n < 0 then rerr Gen.EXC_RT_INDEX_RANGE_S else
    let mut v : Int64 := 0
    match rest with
    | t1 :: _ =>
      let a1 ← t1
      if !a1.isNull then
        match a1.type.major with
        | .int => v ← a1.asInt
        | .num => do let d ← a1.asNum; v ← castToInt d
        | _ => argTypeErr
      if v < 0 || v > 255 then rerr Gen.EXC_RT_OUT_OF_RANGE else pure ()
    | [] => pure ()
    return .raw (List.replicate n.toNatClampNeg v.toUInt64.toUInt8)

/-! ### abs / pow (blocc/builtin/builtin_abs.cpp, builtin_pow.cpp) -/

/-- `abs(x)`. INTEGER: `l < 0 ? Integer(0 - uint64_t(l)) : l` — computed in `uint64_t`, so INT64_MIN
wraps to itself exactly as the unary minus does (`Num.ineg`; commit fde74fa, before: signed `-l`).
NUMERIC: `std::abs(double)` clears the sign bit (NaN stays NaN: canonical pattern). An untyped null
gives a null decimal, a typed null is returned as it is. IMAGINARY is not modelled. -/
def biAbs (args : List (Thunk m)) : m Val := do
  match args with
  | t0 :: _ =>
    let val ← t0
    match val.type.major with
    | .none => return .null Ty.num
    | .int => if val.isNull then return val else do
        let l ← val.asInt
        return .int (if l < 0 then ineg l else l)
    | .num => if val.isNull then return val else do
        let d ← val.asNum
        return .num (bits (f d).abs)
    | .imag => if val.isNull then return val else liftR .unmodelled
    | _ => argTypeErr
  | _ => argTypeErr

/-- `pow(x, y)`: both arguments are evaluated first, then the nested `switch` on the two majors — the
same cells as the `**` operator (Model/Ops.lean `arith` with `Num.ipow`), but no level test and the
error of a foreign operand is FUNC_ARG_TYPE. INTEGER × INTEGER is the exact power modulo 2^64
(`Num.ipow`: square-and-multiply in `uint64_t`; a negative exponent gives 1/(b**−n) truncated, and
DIVIDE_BY_ZERO for base 0) since commit eec6e8e (before: through `std::pow` on doubles and an undefined
conversion back). Mixed and decimal cells go through `std::pow(double, double)` (`Num.fpow`); cells with
an imaginary operand are not modelled. -/
def biPow (args : List (Thunk m)) : m Val := do
  match args with
  | t0 :: t1 :: _ =>
    let a1 ← t0
    let a2 ← t1
    match a1.type.major, a2.type.major with
    | .none, .none => return .null Ty.num
    | .none, .int | .none, .num | .none, .imag => return .null a2.type
    | .int, .none => return .null Ty.int
    | .num, .none => return .null Ty.num
    | .imag, .none => return .null Ty.imag
    | .int, .int =>
      if a2.isNull || a1.isNull then return .null Ty.int else do
        let x ← a1.asInt; let y ← a2.asInt; let r ← ipow x y; return .int r
    | .int, .num =>
      if a2.isNull || a1.isNull then return .null Ty.num else do
        let x ← a1.asInt; let y ← a2.asNum; return .num (fpow (bits x.toFloat) y)
    | .num, .int =>
      if a2.isNull || a1.isNull then return .null Ty.num else do
        let x ← a1.asNum; let y ← a2.asInt; return .num (fpow x (bits y.toFloat))
    | .num, .num =>
      if a2.isNull || a1.isNull then return .null Ty.num else do
        let x ← a1.asNum; let y ← a2.asNum; return .num (fpow x y)
    | .int, .imag | .num, .imag | .imag, .int | .imag, .num | .imag, .imag =>
      if a2.isNull || a1.isNull then return .null Ty.imag else liftR .unmodelled
    | _, _ => argTypeErr
  | _ => argTypeErr

/-! ### integer / decimal text -/

def natDigits : Nat → Nat → List UInt8
  | 0, _ => []
  | fuel + 1, n => if n < 10 then [UInt8.ofNat (48 + n)] else natDigits fuel (n / 10) ++ [UInt8.ofNat (48 + n % 10)]

/-- `std::to_string(int64_t)`. -/
def intToString (i : Int64) : Bytes :=
  let z := i.toInt
  if z < 0 then 45 :: natDigits 20 z.natAbs else natDigits 20 z.natAbs

def isSpaceC (c : UInt8) : Bool := c == 32 || (9 ≤ c && c ≤ 13)
def isDigitC (c : UInt8) : Bool := 48 ≤ c && c ≤ 57

def hexValC (c : UInt8) : Option Nat :=
  if 48 ≤ c && c ≤ 57 then some (c.toNat - 48)
  else if 97 ≤ c && c ≤ 102 then some (c.toNat - 87)
  else if 65 ≤ c && c ≤ 70 then some (c.toNat - 55) else none

/-- Result of a `strtol`-style scan: no digits (invalid_argument), out of range, or a value. -/
inductive Scan
  | invalid | range | val (z : Int)

/-- `std::stoll(s)` (base 10): skip whitespace, optional sign, digits; at least one digit. -/
def stoll (s : Bytes) : Scan :=
  let s1 := s.dropWhile isSpaceC
  let (neg, s2) := match s1 with
    | 45 :: r => (true, r)
    | 43 :: r => (false, r)
    | r => (false, r)
  let ds := s2.takeWhile isDigitC
  if ds.isEmpty then .invalid else
  let n : Nat := ds.foldl (fun a c => a * 10 + (c.toNat - 48)) 0
  let z : Int := if neg then -(n : Int) else n
  if z < -2 ^ 63 ∨ z ≥ 2 ^ 63 then .range else .val z

/-- `std::stoull(s, nullptr, 16)`: whitespace, optional sign, optional 0x/0X, hex digits; a negative
sign negates modulo 2^64 (strtoull semantics); overflow → out_of_range. -/
def stoull16 (s : Bytes) : Scan :=
  let s1 := s.dropWhile isSpaceC
  let (neg, s2) := match s1 with
    | 45 :: r => (true, r)
    | 43 :: r => (false, r)
    | r => (false, r)
  let s3 := match s2 with
    | 48 :: x :: r => if (x == 120 || x == 88) && (r.head?.bind hexValC).isSome then r else s2
    | r => r
  let ds := s3.takeWhile (fun c => (hexValC c).isSome)
  if ds.isEmpty then .invalid else
  let n : Nat := ds.foldl (fun a c => a * 16 + (hexValC c).getD 0) 0
  if n ≥ 2 ^ 64 then .range else .val (if neg then ((2 ^ 64 - n) % 2 ^ 64 : Nat) else n)

/-- The prefix test of `builtin_int.cpp` deciding between hexadecimal and decimal conversion:
`while (isspace(*it) || *it == '+' || *it == '-') ++it; if (*it == '0' && ++it != end && (*it == 'x' || *it == 'X'))`.
The iterator may reach `end()`, where libstdc++ reads the terminating NUL. -/
def looksHex (s : Bytes) : Bool :=
  match s.dropWhile (fun c => isSpaceC c || c == 43 || c == 45) with
  | 48 :: x :: _ => x == 120 || x == 88
  | _ => false

def biInt (args : List (Thunk m)) : m Val := do
  match args with
  | [] => return .null Ty.int
  | t0 :: _ =>
    let val ← t0
    if val.isNull then return .null Ty.int
    match val.type.major with
    | .str =>
      let s ← val.asStr
      if looksHex s then
        match stoull16 s with
        | .invalid => rerr Gen.EXC_RT_STRING_TO_NUM
        | .range => rerr Gen.EXC_RT_OUT_OF_RANGE
        | .val z => return .int (Int64.ofInt z)
      else match stoll s with
        | .invalid => rerr Gen.EXC_RT_STRING_TO_NUM
        | .range => rerr Gen.EXC_RT_OUT_OF_RANGE
        | .val z => return .int (Int64.ofInt z)
    | .raw =>
      let s ← val.asRaw
      match stoll s with
      | .invalid => rerr Gen.EXC_RT_STRING_TO_NUM
      | .range => rerr Gen.EXC_RT_OUT_OF_RANGE
      | .val z => return .int (Int64.ofInt z)
    | .num => do let d ← val.asNum; let i ← intOfDecimal d; return .int i
    | .int => return val
    | .imag => liftR .unmodelled
    | .bool => do let b ← val.asBool; return .int (if b then 1 else 0)
    | _ => argTypeErr

/-! ### Base64 (blocc/builtin/base64.cpp) -/

def b64chars : List UInt8 :=
  "ABCDEFGHIJKLMNOPQRSTUVWXYZabcdefghijklmnopqrstuvwxyz0123456789+/".toUTF8.toList

def b64char (n : Nat) : UInt8 := b64chars.getD (n % 64) 0

/-- `B64index[256]`: '+' ',' '-' '.' '/' map to 62 63 62 62 63, '_' to 63; everything else not in
the alphabet maps to 0. -/
def b64index (c : UInt8) : Nat :=
  if 65 ≤ c && c ≤ 90 then c.toNat - 65
  else if 97 ≤ c && c ≤ 122 then c.toNat - 71
  else if 48 ≤ c && c ≤ 57 then c.toNat + 4
  else if c == 43 then 62 else if c == 44 then 63 else if c == 45 then 62 else if c == 46 then 62
  else if c == 47 then 63 else if c == 95 then 63 else 0

def b64encode : Bytes → Bytes
  | a :: b :: c :: rest =>
    let n := a.toNat * 65536 + b.toNat * 256 + c.toNat
    b64char (n / 262144) :: b64char (n / 4096) :: b64char (n / 64) :: b64char n :: b64encode rest
  | [a, b] =>
    let n := a.toNat * 256 + b.toNat
    [b64char (n / 1024), b64char (n / 16), b64char (n * 4), 61]
  | [a] => [b64char (a.toNat / 4), b64char (a.toNat * 16), 61, 61]
  | [] => []

/-- Full 4-character groups of the decoder's main loop. -/
def b64decodeGroups : Nat → Bytes → Bytes
  | 0, _ => []
  | k + 1, a :: b :: c :: d :: rest =>
    let n := b64index a * 262144 + b64index b * 4096 + b64index c * 64 + b64index d
    UInt8.ofNat (n / 65536) :: UInt8.ofNat (n / 256) :: UInt8.ofNat n :: b64decodeGroups k rest
  | _, _ => []

def b64decode (p : Bytes) : Bytes :=
  let len := p.length
  if len == 0 then [] else
  let pad1 : Bool := len % 4 != 0 || p.getLast? == some 61
  let pad2 : Bool := pad1 && (len % 4 > 2 || (len % 4 == 0 && (p.drop (len - 2)).head? != some 61))
  let last := (len - (if pad1 then 1 else 0)) / 4 * 4
  let body := b64decodeGroups (last / 4) p
  if pad1 then
    let t := p.drop last
    let n := b64index (t.getD 0 0) * 262144 + (if last + 1 < len then b64index (t.getD 1 0) * 4096 else 0)
    let b1 := UInt8.ofNat (n / 65536)
    if pad2 then
      let n2 := n + b64index (t.getD 2 0) * 64      -- `n |= …`: the fields do not overlap
      body ++ [b1, UInt8.ofNat (n2 / 256)]
    else body ++ [b1]
  else body

def biB64 (enc : Bool) (args : List (Thunk m)) : m Val := do
  match args with
  | t0 :: _ =>
    let a ← t0
    if a.isNull then return .null Ty.str
    match a.type.major with
    | .str => do let s ← a.asStr; return (if enc then .str (b64encode s) else .raw (b64decode s))
    | .raw => do let s ← a.asRaw; return (if enc then .str (b64encode s) else .raw (b64decode s))
    | _ => argTypeErr
  | _ => argTypeErr

/-- `str(x)`: boolean, integer, string, bytes (decimals need `%.16g`: Model/Fmt.lean). -/
def biStr (fmtNum : F64 → Bytes) (args : List (Thunk m)) : m Val := do
  match args with
  | [] => return .null Ty.str
  | t0 :: _ =>
    let val ← t0
    if val.isNull then return .null Ty.str
    match val.type.major with
    | .bool => do let b ← val.asBool; return .str (if b then "TRUE".toUTF8.toList else "FALSE".toUTF8.toList)
    | .int => do let i ← val.asInt; return .str (intToString i)
    | .num => do let d ← val.asNum; return .str (fmtNum d)
    | .str => return val
    | .raw => do let s ← val.asRaw; return .str s
    | _ => argTypeErr

/-! ### num / isnum (blocc/builtin/builtin_num.cpp, builtin_isnum.cpp) -/

/-- `std::stod(s)` with the two `catch` clauses of builtin_num.cpp: `std::invalid_argument` →
STRING_TO_NUM, `std::out_of_range` → OUT_OF_RANGE (Model/Strtod.lean: exact decimal/hexadecimal →
binary64 conversion, glibc's ERANGE rule). -/
def numOfString (s : Bytes) : Res F64 :=
  match Strtod.stod s with
  | .invalid => .err Gen.EXC_RT_STRING_TO_NUM
  | .range => .err Gen.EXC_RT_OUT_OF_RANGE
  | .val b => .ok b

/-- `isnum` on a string: `try { std::stod(s); true } catch (...) { false }`. -/
def isnumString (s : Bytes) : Bool :=
  match Strtod.stod s with
  | .val _ => true
  | _ => false

/-- `num(x)`: no argument or a null → null decimal; string / bytes through `std::stod`; decimal as it is;
integer converted (`Numeric(int64_t)`: round to nearest); boolean 1.0 / 0.0; the real part of an
imaginary is not modelled. -/
def biNum (args : List (Thunk m)) : m Val := do
  match args with
  | [] => return .null Ty.num
  | t0 :: _ =>
    let val ← t0
    if val.isNull then return .null Ty.num
    match val.type.major with
    | .str => do let s ← val.asStr; let d ← liftR (numOfString s); return .num d
    | .raw => do let s ← val.asRaw; let d ← liftR (numOfString s); return .num d
    | .num => do let d ← val.asNum; return .num d
    | .int => do let i ← val.asInt; return .num (bits i.toFloat)
    | .imag => liftR .unmodelled
    | .bool => do let b ← val.asBool; return .num (if b then 0x3ff0000000000000 else 0)
    | _ => argTypeErr

/-- `isnum(x)`: false for a null and for any table; a string / bytes value is tested with `std::stod`
(every exception → false); integer and decimal → true; every other type → false. Never fails. -/
def biIsnum (args : List (Thunk m)) : m Val := do
  match args with
  | t0 :: _ =>
    let val ← t0
    if val.isNull || val.type.level != 0 then return .bool false
    match val.type.major with
    | .str => do let s ← val.asStr; return .bool (isnumString s)
    | .raw => do let s ← val.asRaw; return .bool (isnumString s)
    | .int | .num => return .bool true
    | _ => return .bool false
  | _ => argTypeErr

/-! ### bool / isnull / typeof (builtin_bool.cpp, builtin_isnull.cpp, builtin_typeof.cpp) -/

def biBool (args : List (Thunk m)) : m Val := do
  match args with
  | [] => return .null Ty.bool
  | t0 :: _ =>
    let val ← t0
    if val.isNull then return .null Ty.bool
    match val.type.major with
    | .bool => do let b ← val.asBool; return .bool b
    | .int => do let i ← val.asInt; return .bool (i != 0)
    | .num => do let d ← val.asNum; return .bool (!isZero d)   -- `d != 0.0`: false for ±0.0 only (true for NaN)
    | _ => argTypeErr

def biIsnull (args : List (Thunk m)) : m Val := do
  match args with
  | t0 :: _ => do let val ← t0; return .bool val.isNull
  | _ => argTypeErr

/-- `Type::typeName(major)` (intrinsic_type.h). -/
def majorName : Major → String
  | .none => "undefined" | .bool => "boolean" | .int => "integer" | .num => "decimal" | .str => "string"
  | .obj => "object" | .raw => "bytes" | .tup => "tuple" | .ptr => "pointer" | .imag => "complex"

def biTypeof (args : List (Thunk m)) : m Val := do
  match args with
  | t0 :: _ => do
    let val ← t0
    if val.type.level > 0 then return .str "TABLE".toUTF8.toList
    else return .str (majorName val.type.major).toUTF8.toList
  | _ => argTypeErr

/-! ### one-argument numeric functions -/

/-- `sign(x)`: the result cell starts as a null decimal; integer → −1 / 0 / 1 (null integer stays a null
integer); decimal → −1.0 / 0.0 / 1.0 by `<` and `>` (so NaN and −0.0 give 0.0), a null decimal → null decimal. -/
def biSign (args : List (Thunk m)) : m Val := do
  match args with
  | t0 :: _ =>
    let val ← t0
    match val.type.major with
    | .none => return .null Ty.num
    | .int => if val.isNull then return .null Ty.int else do
        let i ← val.asInt
        return .int (if i < 0 then -1 else if i > 0 then 1 else 0)
    | .num => if val.isNull then return .null Ty.num else do
        let d ← val.asNum
        return .num (if flt d 0 then 0xbff0000000000000 else if flt 0 d then 0x3ff0000000000000 else 0)
    | _ => argTypeErr
  | _ => argTypeErr

/-- The shared body of floor, ceil, sqrt, exp, log, log10, sin, cos, tan, asin, acos, atan, sinh, cosh,
tanh (their `value()` methods are the same text up to the libm function): untyped null → null decimal; a
typed null integer / decimal / imaginary is returned as it is; integer → `fn((double)i)`; decimal →
`fn(d)`; a non-null imaginary is not modelled; anything else FUNC_ARG_TYPE. `fn` is the platform's libm
function on both sides (executed, not reasoned about). -/
def mathMap (fn : Float → Float) (args : List (Thunk m)) : m Val := do
  match args with
  | t0 :: _ =>
    let val ← t0
    match val.type.major with
    | .none => return .null Ty.num
    | .int => if val.isNull then return val else do
        let i ← val.asInt
        return .num (bits (fn i.toFloat))
    | .num => if val.isNull then return val else do
        let d ← val.asNum
        return .num (bits (fn (f d)))
    | .imag => if val.isNull then return val else liftR .unmodelled
    | _ => argTypeErr
  | _ => argTypeErr

/-- `round(x [, n])`: `floor(x * 10^n + 0.5) / 10^n` on doubles (`std::pow(10, n)`); the one-argument form
has no NO_TYPE case (FUNC_ARG_TYPE for an untyped null), the two-argument form reads the digits first. -/
def biRound (args : List (Thunk m)) : m Val := do
  match args with
  | [t0] =>
    let val ← t0
    match val.type.major with
    | .int => if val.isNull then return .null Ty.num else do
        let i ← val.asInt
        return .num (bits (Float.floor (i.toFloat + 0.5)))
    | .num => if val.isNull then return val else do
        let d ← val.asNum
        return .num (bits (Float.floor (f d + 0.5)))
    | .imag => if val.isNull then return val else liftR .unmodelled
    | _ => argTypeErr
  | t0 :: t1 :: _ =>
    let val ← t0
    let a1 ← t1
    let d : Float ← match a1.type.major with
      | .none => pure 1.0
      | .int => if !a1.isNull then do let n ← a1.asInt; pure (Float.pow 10.0 n.toFloat) else pure 1.0
      | .num => if !a1.isNull then do
          let x ← a1.asNum; let n ← castToInt x; pure (Float.pow 10.0 n.toFloat) else pure 1.0
      | _ => argTypeErr
    match val.type.major with
    | .none => return .null Ty.num
    | .int => if val.isNull then return .null Ty.num else do
        let i ← val.asInt
        return .num (bits (Float.floor (i.toFloat + 0.5)))
    | .num => if val.isNull then return val else do
        let x ← val.asNum
        return .num (bits (Float.floor (f x * d + 0.5) / d))
    | .imag => if val.isNull then return val else liftR .unmodelled
    | _ => argTypeErr
  | [] => argTypeErr

/-! ### two-argument numeric functions: max, min, mod, atan2 -/

/-- What the common prologue of builtin_max/min/mod/atan2.cpp leaves to the arithmetic. -/
inductive NumPair
  | ret (v : Val)
  | ii (x y : Int64)
  | id (x : Int64) (y : F64)
  | di (x : F64) (y : Int64)
  | dd (x y : F64)

def isNumMajor (v : Val) : Bool := v.type.major == .int || v.type.major == .num

/-- The prologue: a table operand → FUNC_ARG_TYPE; two number-typed operands of which one is null → a
null (`intTy` when both are integers, else decimal); then the nested `switch`: untyped null first operand →
null decimal; number × untyped null → `intTy`-or-decimal null by the first operand; foreign types →
FUNC_ARG_TYPE. (`intTy` = integer for max/min/mod, decimal for atan2.) The typed accessors are reached
only for non-null operands (Proofs/Lemmas/BuiltinWalk.lean `numPair_no_hazard`). -/
def numPair (intTy : Ty) (a0 a1 : Val) : Res NumPair :=
  if a0.type.level > 0 || a1.type.level > 0 then argTypeErr
  else if isNumMajor a0 && isNumMajor a1 && (a0.isNull || a1.isNull) then
    .ok (.ret (.null (if a0.type.major == .int && a1.type.major == .int then intTy else Ty.num)))
  else match a0.type.major with
    | .none => .ok (.ret (.null Ty.num))
    | .int =>
      match a1.type.major with
      | .none => .ok (.ret (.null intTy))
      | .int => do let x ← a0.asInt; let y ← a1.asInt; pure (.ii x y)
      | .num => do let x ← a0.asInt; let y ← a1.asNum; pure (.id x y)
      | _ => argTypeErr
    | .num =>
      match a1.type.major with
      | .none => .ok (.ret (.null Ty.num))
      | .int => do let x ← a0.asNum; let y ← a1.asInt; pure (.di x y)
      | .num => do let x ← a0.asNum; let y ← a1.asNum; pure (.dd x y)
      | _ => argTypeErr
    | _ => argTypeErr

/-- `std::max<double>(a, b)` = `(a < b) ? b : a`; `std::min<double>(a, b)` = `(b < a) ? b : a`. -/
def fmaxC (a b : F64) : F64 := if flt a b then b else a
def fminC (a b : F64) : F64 := if flt b a then b else a

def biMinMax (isMax : Bool) (args : List (Thunk m)) : m Val := do
  match args with
  | t0 :: t1 :: _ =>
    let a0 ← t0
    let a1 ← t1
    let fm := if isMax then fmaxC else fminC
    match ← liftR (numPair Ty.int a0 a1) with
    | .ret v => return v
    | .ii x y => return .int (if isMax then (if x < y then y else x) else (if y < x then y else x))
    | .id x y => return .num (fm (bits x.toFloat) y)
    | .di x y => return .num (fm x (bits y.toFloat))
    | .dd x y => return .num (fm x y)
  | _ => argTypeErr

/-- `mod(x, y)`: integer × integer as the `%` operator (`Num.imod`: DIVIDE_BY_ZERO, −1 → 0); a decimal
operand → `std::fmod` after the test `y == 0.0` (DIVIDE_BY_ZERO for ±0.0) — `Num.fmod` is the exact model. -/
def biMod (args : List (Thunk m)) : m Val := do
  match args with
  | t0 :: t1 :: _ =>
    let a0 ← t0
    let a1 ← t1
    match ← liftR (numPair Ty.int a0 a1) with
    | .ret v => return v
    | .ii x y => do let r ← liftR (imod x y); return .int r
    | .id x y => if isZero y then rerr Gen.EXC_RT_DIVIDE_BY_ZERO else return .num (fmod (bits x.toFloat) y)
    | .di x y => if y == 0 then rerr Gen.EXC_RT_DIVIDE_BY_ZERO else return .num (fmod x (bits y.toFloat))
    | .dd x y => if isZero y then rerr Gen.EXC_RT_DIVIDE_BY_ZERO else return .num (fmod x y)
  | _ => argTypeErr

def biAtan2 (args : List (Thunk m)) : m Val := do
  match args with
  | t0 :: t1 :: _ =>
    let a0 ← t0
    let a1 ← t1
    match ← liftR (numPair Ty.num a0 a1) with
    | .ret v => return v
    | .ii x y => return .num (bits (Float.atan2 x.toFloat y.toFloat))
    | .id x y => return .num (bits (Float.atan2 x.toFloat (f y)))
    | .di x y => return .num (bits (Float.atan2 (f x) y.toFloat))
    | .dd x y => return .num (bits (Float.atan2 (f x) (f y)))
  | _ => argTypeErr

/-- `clamp(x, lo, hi)`: the type of the first argument selects the accessors of all three; a null among
them returns the first argument as it is; `x < lo ? lo : x > hi ? hi : x` (a NaN `x` is returned). -/
def biClamp (args : List (Thunk m)) : m Val := do
  match args with
  | t0 :: t1 :: t2 :: _ =>
    let a0 ← t0
    let a1 ← t1
    let a2 ← t2
    match a0.type.major with
    | .none => return .null Ty.num
    | .int =>
      if a0.isNull || a1.isNull || a2.isNull then return a0 else do
        let x ← a0.asInt; let y ← a1.asInt; let z ← a2.asInt
        return .int (if x < y then y else if x > z then z else x)
    | .num =>
      if a0.isNull || a1.isNull || a2.isNull then return a0 else do
        let x ← a0.asNum; let y ← a1.asNum; let z ← a2.asNum
        return .num (if flt x y then y else if flt z x then z else x)
    | _ => argTypeErr
  | _ => argTypeErr

/-- The constants `pi`, `ee`, `phi` (builtin_pi.h, builtin_ee.h, builtin_phi.h: 3.141592653589793,
2.718281828459045, 1.618033988749895 as binary64). -/
def constPi : F64 := 0x400921fb54442d18
def constEe : F64 := 0x4005bf0a8b145769
def constPhi : F64 := 0x3ff9e3779b97f4a8

end

end BlocV

namespace BlocV

/-- Dispatch of the built-ins added in round C10 (second table, so that the first keeps its shape):
num, isnum, bool, isnull, typeof, sign, the fifteen one-argument libm functions, round, max, min, mod,
atan2, clamp and the constants pi / ee / phi. Not modelled (`none`): random, read, readln, input,
getsys, getenv (environment), error (needs the context's last error), ii / imag / iconj / iphase
(imaginary numbers), tab / tup (Model/Interp.lean `biTab` / `biTup`, property C09), true / false / null
(constants of the expression language, not calls). -/
def evalBuiltinX {m : Type → Type} [Monad m] [MonadLiftT Res m] (name : String) (args : List (Thunk m)) : Option (m Val) :=
  match name with
  | "num" => some (biNum args)
  | "isnum" => some (biIsnum args)
  | "bool" => some (biBool args)
  | "isnull" => some (biIsnull args)
  | "typeof" => some (biTypeof args)
  | "sign" => some (biSign args)
  | "floor" => some (mathMap Float.floor args)
  | "ceil" => some (mathMap Float.ceil args)
  | "sqrt" => some (mathMap Float.sqrt args)
  | "exp" => some (mathMap Float.exp args)
  | "log" => some (mathMap Float.log args)
  | "log10" => some (mathMap Float.log10 args)
  | "sin" => some (mathMap Float.sin args)
  | "cos" => some (mathMap Float.cos args)
  | "tan" => some (mathMap Float.tan args)
  | "asin" => some (mathMap Float.asin args)
  | "acos" => some (mathMap Float.acos args)
  | "atan" => some (mathMap Float.atan args)
  | "sinh" => some (mathMap Float.sinh args)
  | "cosh" => some (mathMap Float.cosh args)
  | "tanh" => some (mathMap Float.tanh args)
  | "round" => some (biRound args)
  | "max" => some (biMinMax true args)
  | "min" => some (biMinMax false args)
  | "mod" => some (biMod args)
  | "atan2" => some (biAtan2 args)
  | "clamp" => some (biClamp args)
  | "pi" => some (pure (.num constPi))
  | "ee" => some (pure (.num constEe))
  | "phi" => some (pure (.num constPhi))
  | _ => none

/-- Dispatch by keyword for the built-ins modelled so far; `none` = not modelled. -/
def evalBuiltin {m : Type → Type} [Monad m] [MonadLiftT Res m] (fmtNum : Num.F64 → Bytes) (name : String) (args : List (Thunk m)) : Option (m Val) :=
  match name with
  | "substr" => some (biSubstr args)
  | "subraw" => some (biSubraw args)
  | "lsubstr" => some (lrSubstr true args)
  | "rsubstr" => some (lrSubstr false args)
  | "strpos" => some (biStrpos args)
  | "replace" => some (biReplace args)
  | "trim" => some (strMap (fun s => dropWhileSp (rtrimSp s)) args)
  | "ltrim" => some (strMap dropWhileSp args)
  | "rtrim" => some (strMap rtrimSp args)
  | "upper" => some (strMap (·.map upperByte) args)
  | "lower" => some (strMap (·.map lowerByte) args)
  | "strlen" => some (biStrlen args)
  | "tokenize" => some (biTokenize args)
  | "hex" => some (biHex args)
  | "hash" => some (biHash args)
  | "chr" => some (biChr args)
  | "raw" => some (biRaw args)
  | "int" => some (biInt args)
  | "b64enc" => some (biB64 true args)
  | "b64dec" => some (biB64 false args)
  | "str" => some (biStr fmtNum args)
  | "abs" => some (biAbs args)
  | "pow" => some (biPow args)
  | _ => evalBuiltinX name args

end BlocV
