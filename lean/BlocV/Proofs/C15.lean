/-
  C15 — the C API honours its ownership and result contract for every call sequence.
  Model: `BlocV.CApi` (Model/CApi.lean), the handle state machine of
  blocc/bloc_capi.h transcribed from bloc_capi.cpp / context.cpp / value.h.

  What is proved here is about the model; the tie to the library is the correspondence run of
  `./check C15` (every call's result, out-parameters, re-read pointers and error record compared
  token by token under ASan/UBSan/LSan). Memory reclamation is not modelled: no theorem speaks
  about leaks.
-/
import BlocV.Proofs.Lemmas.CApiSeq
import BlocV.Gen.Keywords

namespace BlocV.C15
open BlocV.CApi

/-! ## accessor_contract -/

/-- A typed accessor reports failure (with its `NOT_…` code) exactly when the type does not match. -/
theorem accessor_fails_iff (k : Acc) (v : Val) :
    accessor k v = .fail k.failCode ↔ k.matches v.type = false := by
  unfold accessor
  cases hm : k.matches v.type <;> simp

/-- The only failure code an accessor can report is its own. -/
theorem accessor_fail_code (k : Acc) (v : Val) (code : Nat) (h : accessor k v = .fail code) : code = k.failCode := by
  unfold accessor at h
  split at h
  · cases h; rfl
  · cases h

example : accessor .i (.str [104, 105]) = .fail Gen.EXC_RT_NOT_INTEGER := by decide

/-- `accessor_contract`, the full statement, for all eight accessors and every value: a typed accessor
succeeds iff the type of the value matches, and when it succeeds the data pointer is NULL iff the value is
null. (The two cells `bloc_literal(null string)` / `bloc_tabchar(null bytes)` are the repaired findings
C15.literal_accessor_null_deref, C15.tabchar_accessor_null_deref.) -/
theorem accessor_contract (k : Acc) (v : Val) :
    ((∃ dn, accessor k v = .ok dn) ↔ k.matches v.type = true) ∧
    (∀ dn, accessor k v = .ok dn → dn = v.isNull) := by
  unfold accessor
  cases hm : k.matches v.type <;> simp

example : Acc.l.matches (Val.str [104, 105]).type = true := by decide
example : accessor .l (.str [104, 105]) = .ok false := by decide
example : accessor .n (.null Ty.num) = .ok true := by decide
example : accessor .t (.tab { major := .int, level := 1 } [] [.int 5]) = .ok false := by decide

/-- The documented result on a null value of the right type — `bloc_true` with a NULL data pointer — for every
accessor, `bloc_literal` and `bloc_tabchar` included. -/
theorem accessor_contract_holds_on_null (k : Acc) (v : Val) (hm : k.matches v.type = true) (hn : v.isNull = true) :
    accessor k v = .ok true := by
  simp [accessor, hm, hn]

example : accessor .l (.null Ty.str) = .ok true := by decide
example : accessor .x (.null Ty.raw) = .ok true := by decide
example : Acc.l.matches (Val.null Ty.str).type = true ∧ (Val.null Ty.str).isNull = true := by decide

theorem accessor_succeeds_on_matching_type :
    ∀ (k : Acc) (v : Val), k.matches v.type = true → ∃ dn, accessor k v = .ok dn :=
  fun k v => (accessor_contract k v).1.2

example : ∃ dn, accessor .x (.null Ty.raw) = .ok dn := ⟨true, by decide⟩

/-- No value is accepted by two different accessors: "succeed exactly on the matching type". -/
theorem accessor_unique (k1 k2 : Acc) (ty : Ty) (h1 : k1.matches ty = true) (h2 : k2.matches ty = true) : k1 = k2 :=
  (matches_accFor h1).trans (matches_accFor h2).symm

example : Acc.i.matches Ty.int = true ∧ Acc.n.matches Ty.int = false := by decide

/-! ## error_record_contract -/

/-- `error_record_contract`, failure half: whenever a call reports failure by raising an error (NULL /
`bloc_false` from register, store, a typed accessor, parse, evaluate, run), the process-wide record holds exactly
that error's code and a non-empty message — for every state and every call. -/
theorem error_record_contract (s : State) (o : Op) (code : Nat) (h : (step s o).2.fail = some code) :
    (step s o).1.err = { code := code, msg := true } := by
  rcases (step_call s o).err with h1 | ⟨_, h2⟩
  · rwa [h] at h1
  · rw [h] at h2; cases h2

/-- Calls other than the two parse calls never touch the error record unless they fail. -/
theorem success_keeps_record (s : State) (o : Op) (hp : isParse o = false) (h : (step s o).2.fail = none) :
    (step s o).1.err = s.err := by
  rcases (step_call s o).err with h1 | ⟨h2, _⟩
  · rwa [h] at h1
  · rw [hp] at h2; cases h2

/-- A parse call that succeeds clears the record (`bloc_error_raz`), whatever it held. -/
theorem parse_success_resets_record (s : State) (c k : Nat) :
    (∀ e, (step s (.eparse c k (.good e))).2.res = Res1.unit → (step s (.eparse c k (.good e))).1.err = {}) ∧
    (∀ p pos, (step s (.xparse c k (.good p) pos)).2.res = Res1.unit → (step s (.xparse c k (.good p) pos)).1.err = {}) := by
  -- a `.good` text is parsed as soon as context and slot allow the call: the record is cleared; else the result is `pre`
  constructor
  · intro e
    simp only [step, opEparse]
    split
    · exact fun _ => rfl
    · exact fun h => nomatch h
  · intro p pos
    simp only [step, opXparse]
    split
    · exact fun _ => rfl
    · exact fun h => nomatch h

/-- The documented reading "failure ⇒ `bloc_errno()` ≠ 0" is false on the pinned tree: a text that ends inside
a statement is rejected with code `EXC_PARSE_EOF` = 0 (known finding C15.parse_eof_errno_zero). -/
theorem failed_parse_may_leave_errno_zero :
    ∃ (s : State) (o : Op), (step s o).2.fail = some 0 ∧ (step s o).1.err.code = 0 := by
  refine ⟨(step State.init (.cnew 0)).1, .xparse 0 0 (.bad 2) true, ?_, ?_⟩ <;> decide

/-! ## library_pointer_stable -/

/-- Every epoch in use is older than the clock (holds initially, kept by every call). -/
def WF (s : State) : Prop := ∀ (c : Nat) (x : Ctx), s.ctxs[c]? = some x → x.epoch < s.clock

theorem WF_init : WF State.init :=
  fun _ _ h => init_ctx h ▸ Nat.zero_lt_one

theorem WF_step (s : State) (o : Op) (hw : WF s) : WF (step s o).1 := by
  intro c x1 h1
  obtain ⟨x, h0⟩ := step_ctx_before h1
  have hx := hw c x h0
  cases step_ctx h0 h1 <;> omega

theorem WF_runSeq : ∀ (ops : List Op) (s : State), WF s → WF (runSeq s ops).1 :=
  fun ops s => runSeq_inv ops s fun t o _ => WF_step t o

/-- The host itself does not write into context `c` (no store into it, no assign through a loaded pointer of it)
anywhere in the sequence. -/
def quiet (c : Nat) : State → List Op → Bool
  | _, [] => true
  | s, o :: os => !hostWrite o s c && quiet c (step s o).1 os

/-- Along a call sequence the epoch of a slot never decreases; while it stays and the host does not write, liveness and
values stay. -/
theorem slot_along (c : Nat) : ∀ (ops : List Op) (s : State) (x x' : Ctx), WF s →
    s.ctxs[c]? = some x → (runSeq s ops).1.ctxs[c]? = some x' →
    x.epoch ≤ x'.epoch ∧ (x'.epoch = x.epoch → quiet c s ops = true → x'.vals = x.vals ∧ x'.live = x.live)
  | [], _, x, x', _, h0, h1 => by
    rw [runSeq, h0] at h1; cases h1; exact ⟨Nat.le_refl _, fun _ _ => ⟨rfl, rfl⟩⟩
  | o :: os, s, x, x', hw, h0, h1 => by
    obtain ⟨x1, hx1⟩ := step_ctx_after o h0
    obtain ⟨hm, ih⟩ := slot_along c os (step s o).1 x1 x' (WF_step s o hw) hx1 h1
    have hx := hw c x h0
    cases step_ctx h0 hx1 with
    | write _ hl he1 _ hv =>
      refine ⟨by omega, fun he hq => ?_⟩
      simp only [quiet, Bool.and_eq_true, Bool.not_eq_true'] at hq
      have := ih (by omega) hq.2
      exact ⟨by rw [this.1, hv hq.1], by rw [this.2, hl]⟩
    | renew _ he1 | reset _ he1 => exact ⟨by omega, fun he _ => by omega⟩

/-- `library_pointer_stable`, the invariant over ALL call sequences. Take any well-formed state `s` (every state
reachable from the initial one is: `WF_init`, `WF_runSeq`), any context slot `c`, and ANY sequence of calls `ops` —
creating, cloning, freeing, purging contexts, parsing valid and invalid texts, running, failing, on this or any other context. If
after the sequence slot `c` is at the SAME epoch as before — i.e. none of parse / run / evaluate / register /
purge / free happened in it — and the host itself did not store or assign into that context (`quiet`), then the
context is exactly as live as it was and EVERY variable slot holds exactly the value it held: a pointer handed
out by `bloc_ctx_load_variable` (or by evaluating a variable) denotes the same unmodified cell. -/
theorem library_pointer_stable (c : Nat) : ∀ (ops : List Op) (s : State) (x x' : Ctx), WF s →
    s.ctxs[c]? = some x → (runSeq s ops).1.ctxs[c]? = some x' → x'.epoch = x.epoch → quiet c s ops = true →
    x'.vals = x.vals ∧ x'.live = x.live :=
  fun ops s x x' hw h0 h1 => (slot_along c ops s x x' hw h0 h1).2

/-- The same for what the host holds: a library-owned reference to variable slot `id` of context `c` that is live
before and after the sequence reads the same value. -/
theorem loaded_pointer_reads_same (c id : Nat) (ops : List Op) (s : State) (r : VRef) (hw : WF s)
    (hroot : r.root = .slot c id) (hctx : r.ctx = c) (hk : r.kind ≠ .boxItem)
    (h0 : refLive s r = true) (h1 : refLive (runSeq s ops).1 r = true) (hq : quiet c s ops = true) :
    readRef (runSeq s ops).1 r = readRef s r := by
  obtain ⟨x, g0, hxe⟩ := (refLive_lib hk).1 h0
  obtain ⟨x', g1, hxe'⟩ := (refLive_lib hk).1 h1
  rw [hctx] at g0 g1
  have hs := library_pointer_stable c ops s x x' hw (getCtx_some g0) (getCtx_some g1) (hxe'.trans hxe.symm) hq
  simp only [readRef, hroot, readRoot, g0, g1, hs.1]

/-- Non-vacuity: a load, then calls that are none of parse/run/evaluate/register/purge in that context (here: creating
values, a failing accessor, another context created, parsed in and freed), then a read through the pointer: the model
runs the sequence to its end. -/
example :
    let ops : List Op := [.cnew 0, .reg 0 0 "I1" .int 0, .vint 0 42, .store 0 0 0 true, .load 0 0 1,
                          .vlit 2 none, .acc 2 .i, .cnew 1, .xparse 1 0 (.bad 0) true, .cfree 1, .drop 0 3, .vdump 1]
    ((runSeq State.init ops).2.getLast?.map (·.res)).isSome = true := by decide +kernel

/-! ## api_script_agree -/

/-- api → script: a value stored through `bloc_ctx_store_variable` into the symbol found under `name` is what a
script reads when it evaluates that name (whatever the function table, depth and state of the rest; no `forall` running
in that context, where the name could be an iterator). -/
theorem api_script_agree_store (x x' : Ctx) (name : String) (id : Nat) (b : Val)
    (hf : findSym x name = some id) (hs : storeInto x id b = .ok x') (hv : id < x.vals.length) (hsy : id < x.syms.length)
    (funcs : List Func) (depth fuel : Nat) (st : St) (hst : st.vars = ctxVars x') (hit : st.iters = []) :
    eval funcs depth (fuel + 1) (.var name) st = (.ok b, st) := by
  rw [eval_var _ _ _ _ _ hit, hst]
  obtain ⟨hvals, hnames⟩ := storeInto_ok (List.getElem?_eq_getElem hsy) (List.getElem?_eq_getElem hv) hs
  rw [ctxVars, hvals, lookup_ctxVars ((hnames name).trans hf) (List.getElem?_set_self hv)]

/-- script → api: after a run that left the interpreter's variables `vars`, every slot of the context holds exactly
the value the script's variable of that name has — which is what `bloc_ctx_load_variable` hands out. -/
theorem api_script_agree_load (x : Ctx) (vars : List (String × Val)) (id : Nat) (sy : Sym)
    (h : (writeBack x vars).syms[id]? = some sy) : (writeBack x vars).vals[id]? = some (lookupVar vars sy.name) := by
  simp only [writeBack] at h ⊢
  simp only [List.getElem?_map, List.getElem?_zip_eq_some, Option.map_eq_some_iff] at h ⊢
  obtain ⟨⟨sy0, old, new⟩, ⟨h1, h2, h3⟩, h4⟩ := h
  refine ⟨sy0, h1, ?_⟩
  split at h4 <;> (subst h4; rfl)

example : findSym { syms := [{ name := "I1", ty := Ty.int, safety := false }], vals := [.null Ty.int] } "I1" = some 0 := by decide

/-! ## rejected_parse_contract, one call -/

/-- `rejected_parse_contract`, one call of `bloc_parse_expression`: for EVERY state and EVERY text of the catalog (hand-written
or generated) with its code `code` in that context — the call returns NULL, reports `code`, the error record is exactly
`code`; no handle is created (the expression, executable, symbol and value tables of the host and the sinks are what they were:
in particular every caller-owned value is untouched); context `c` got the fresh epoch and is otherwise unchanged; every OTHER context is unchanged. -/
theorem rejected_parse_contract_expr (s : State) (c e k : Nat) (x : Ctx) (bt : BadText) (code : Nat)
    (hx : getCtx s c = some x) (hslot : s.exprs[e]? = some none) (hb : badExprs[k]? = some bt) (hc : bt.codeIn x = some code) :
    (step s (.eparse c e (.bad k))).2.res = Res1.null ∧
    (step s (.eparse c e (.bad k))).2.fail = some code ∧
    (step s (.eparse c e (.bad k))).1.err = { code := code, msg := true } ∧
    (step s (.eparse c e (.bad k))).1.exprs = s.exprs ∧ (step s (.eparse c e (.bad k))).1.execs = s.execs ∧
    (step s (.eparse c e (.bad k))).1.syms = s.syms ∧ (step s (.eparse c e (.bad k))).1.vals = s.vals ∧
    (step s (.eparse c e (.bad k))).1.sinks = s.sinks ∧
    (step s (.eparse c e (.bad k))).1.ctxs = s.ctxs.set c { x with epoch := s.clock } ∧
    (step s (.eparse c e (.bad k))).1.clock = s.clock + 1 := by
  simp [step, opEparse, hx, hslot, hb, hc, setErr, razErr, bump]

example : (badExprs[0]?).map (·.codeIn {}) = some (some Gen.EXC_PARSE_UNEXPECTED_LEX_S) := by decide

/-- `rejected_parse_contract`, one call of `bloc_parse_executable`: the same, with `*pos`; the context additionally keeps the
symbols the parser registered before it failed (appended) and gets upgraded symbol types back (`parsingEnd`). -/
theorem rejected_parse_contract_prog (s : State) (c xi k : Nat) (pos : Bool) (x : Ctx) (bt : BadText)
    (hx : getCtx s c = some x) (hslot : s.execs[xi]? = some none) (hb : badProgs[k]? = some bt) :
    (step s (.xparse c xi (.bad k) pos)).2.res = (if pos then Res1.nullAt bt.line bt.col else Res1.null) ∧
    (step s (.xparse c xi (.bad k) pos)).2.fail = some bt.code ∧
    (step s (.xparse c xi (.bad k) pos)).1.err = { code := bt.code, msg := true } ∧
    (step s (.xparse c xi (.bad k) pos)).1.exprs = s.exprs ∧ (step s (.xparse c xi (.bad k) pos)).1.execs = s.execs ∧
    (step s (.xparse c xi (.bad k) pos)).1.syms = s.syms ∧ (step s (.xparse c xi (.bad k) pos)).1.vals = s.vals ∧
    (step s (.xparse c xi (.bad k) pos)).1.sinks = s.sinks ∧
    (step s (.xparse c xi (.bad k) pos)).1.ctxs = s.ctxs.set c { restoreBacked (addSyms x bt.newSyms) with epoch := s.clock } ∧
    (step s (.xparse c xi (.bad k) pos)).1.clock = s.clock + 1 := by
  simp [step, opXparse, hx, hslot, hb, setErr, bump]

/-! ## context_reusable_after_error -/

/-- `context_reusable_after_error`, rejected text: after `bloc_parse_executable` rejects a catalogued text the context
is live, in the same generation (every symbol, expression and executable handle stays valid), with the same functions,
returned value and stop condition; every variable keeps its value (the symbols the parser registered before failing are
appended behind them); the executable slot stays free and no handle table of the host changed. Only the epoch moved. -/
theorem context_reusable_after_parse_error (s : State) (c xi k : Nat) (pos : Bool) (x : Ctx) (bt : BadText)
    (hx : getCtx s c = some x) (hslot : s.execs[xi]? = some none) (hb : badProgs[k]? = some bt) :
    ∃ x', getCtx (step s (.xparse c xi (.bad k) pos)).1 c = some x' ∧
      x'.gen = x.gen ∧ x'.funcs = x.funcs ∧ x'.returned = x.returned ∧ x'.stop = x.stop ∧
      (∀ (i : Nat) (v : Val), x.vals[i]? = some v → x'.vals[i]? = some v) ∧
      (step s (.xparse c xi (.bad k) pos)).1.execs = s.execs ∧ (step s (.xparse c xi (.bad k) pos)).1.syms = s.syms ∧
      (step s (.xparse c xi (.bad k) pos)).1.exprs = s.exprs ∧
      (step s (.xparse c xi (.bad k) pos)).2.fail = some bt.code := by
  obtain ⟨hexprs, hexecs, hsyms, _, _, hk⟩ := step_badParse_untouched s (.xparse c xi (.bad k) pos) rfl
  have hc := getCtx_eq_some.1 hx
  obtain ⟨x', hx', hl, h1, h2, h3, h4, h5⟩ := hk c x hc.1
  exact ⟨x', getCtx_eq_some.2 ⟨hx', hl.trans hc.2⟩, h1, h2, h3, h4, h5, hexecs, hsyms, hexprs,
    (rejected_parse_contract_prog s c xi k pos x bt hx hslot hb).2.1⟩

example : (badProgs[0]?).map (·.code) = some Gen.EXC_PARSE_UNEXPECTED_LEX_S := by decide

/-- `context_reusable_after_error`, failed run: when `bloc_execute` / `bloc_execute2` reports a runtime error the
context is live, in the same generation, NOT stopped, with the same functions; no handle table of the host changed, so
every executable (this one included), expression and symbol of the context can be used again at once. -/
theorem context_reusable_after_runtime_error (s : State) (c : Nat) (x : Ctx) (prog : List Stmt) (code : Nat)
    (hx : getCtx s c = some x) (hf : (runIn s c x prog).2.fail = some code) :
    ∃ x', getCtx (runIn s c x prog).1 c = some x' ∧ x'.gen = x.gen ∧ x'.stop = false ∧ x'.funcs = x.funcs ∧
      (runIn s c x prog).1.execs = s.execs ∧ (runIn s c x prog).1.syms = s.syms ∧ (runIn s c x prog).1.exprs = s.exprs := by
  revert hf
  fun_cases runIn s c x prog
  -- only a runtime error `cd` other than "out of fuel" (`hoof`) is reported as a failure
  case case4 hstop _ st x1 s1 cd _ hoof _ =>
    have wb := writeBack_same x st.vars
    have hc := getCtx_eq_some.1 hx
    simp only [s1, appendSink_eq]
    exact fun _ => ⟨{ x1 with epoch := s.clock }, getCtx_eq_some.2 ⟨ctxs_set_self hx _, wb.live.trans hc.2⟩,
      wb.gen, wb.stop.trans (eq_false_of_ne_true hstop), (addSyms_kept _ x).1.2.2.1, rfl, rfl, rfl⟩
  all_goals exact nofun

/-- The operands of the generated operator texts have the static types they are meant to have: `typeOfExpr` (the
parser's `exp->type(ctx)`) of each operand AST, in a context where the three reserved variables are declared, is the
operand's nominal type — for all 5 forms × 3 types. -/
theorem atom_static_type (f : OForm) (t : OTy) : atomTy f t = t.ty := by
  cases f <;> cases t <;> decide +kernel

example : atomTy .memb .bool = Ty.bool ∧ atomTy .call .int = Ty.int ∧ atomTy .paren .str = Ty.str := by decide +kernel

/-- the spellings cover every non-empty entry of `Operator::OPVALS` (generated table `Gen.opvals`) except the member
operator `.` — a test over that table, by evaluation -/
example : ((Gen.opvals).filter fun w => w != "" && w != ".").all
    (fun w => (binSpellings.map (·.1)).contains w || (unSpellings.map (·.1)).contains w) = true := by decide +kernel

/-- `typed_rejection_iff` (`bloc_parse_expression`): the i-th generated operator text, parsed in ANY state in which the
context is live, the expression slot free and the variables the text reads are registered, is rejected — NULL,
`bloc_errno() = EXC_PARSE_TYPE_MISMATCH_S` — if and only if the typing model (`Typing.acceptBin` / `acceptUn`; `acceptMatch`
for `matches`) rejects the static types of its operands; and it parses iff the typing model accepts them. -/
theorem typed_rejection_iff (s : State) (c e i : Nat) (x : Ctx) (oc : OpCase) (t : ExprText)
    (hx : getCtx s c = some x) (hslot : s.exprs[e]? = some none)
    (hi : opCases[i]? = some oc) (ht : opExprText i = some t) (hs : oc.symsOk x) :
    ((step s (.eparse c e t)).2.fail = some Gen.EXC_PARSE_TYPE_MISMATCH_S ∧ (step s (.eparse c e t)).2.res = Res1.null
        ↔ oc.accepted = false) ∧
    ((step s (.eparse c e t)).2.fail = none ∧ (step s (.eparse c e t)).2.res = Res1.unit ↔ oc.accepted = true) := by
  unfold opExprText at ht
  rw [hi] at ht
  rcases opText_cases ht with ⟨hr, ha, rfl⟩ | ⟨ha, ex, rfl⟩
  · obtain ⟨h1, h2, _⟩ := rejected_parse_contract_expr s c e _ x _ _ hx hslot (opBad_lookup handBadExprs OpCase.badExpr i oc hi hr) (codeIn_of_symsOk oc x hs)
    simp [h1, h2, ha]
  · simp [eparse_good (ex := ex) hx hslot, ha]

/-- the same through `bloc_parse_executable`, with the position the call writes to `*pos`: the last character of the
text layout (`OpCase.errPos`): the first token of the right operand when the left operand alone is ill-typed — its check
throws before the right operand is parsed —, else the `;` that follows the right operand (`endPos`) -/
theorem typed_rejection_iff_prog (s : State) (c xi i : Nat) (pos : Bool) (x : Ctx) (oc : OpCase) (t : ProgText)
    (hx : getCtx s c = some x) (hslot : s.execs[xi]? = some none)
    (hi : opCases[i]? = some oc) (ht : opProgText i = some t) :
    ((step s (.xparse c xi t pos)).2.fail = some Gen.EXC_PARSE_TYPE_MISMATCH_S ∧
      (step s (.xparse c xi t pos)).2.res = (if pos then Res1.nullAt oc.errPos.1 oc.errPos.2 else Res1.null)
        ↔ oc.accepted = false) ∧
    ((step s (.xparse c xi t pos)).2.fail = none ∧ (step s (.xparse c xi t pos)).2.res = Res1.unit ↔ oc.accepted = true) := by
  unfold opProgText at ht
  rw [hi] at ht
  rcases opText_cases ht with ⟨hr, ha, rfl⟩ | ⟨ha, p, rfl⟩
  · obtain ⟨h1, h2, _⟩ := rejected_parse_contract_prog s c xi _ pos x _ hx hslot (opBad_lookup handBadProgs OpCase.badProg i oc hi hr)
    simp [h1, h2, ha, OpCase.badProg]
  · simp [xparse_good (p := p) (pos := pos) hx hslot, ha]

-- non-vacuity: case 1 is `1 + "a"` (rejected), case 0 is `1 + 1` (accepted); the hypotheses hold in a fresh context
example : (opCases[1]?).map (fun oc => (oc.body, oc.accepted)) = some ("1 + \"a\"", false) := by decide +kernel
example : (opCases[0]?).map (fun oc => (oc.body, oc.accepted)) = some ("1 + 1", true) := by decide
example : (opCases[1]?).map (fun oc => oc.vars) = some [] := by decide
example : (opCases.length, (opCases.filter OpCase.rejected).length) = (1200, 880) := by decide +kernel
example : ((step (step State.init (.cnew 0)).1 (.eparse 0 0 (.bad (opBadIndex handBadExprs.length 1)))).2.fail) =
    some Gen.EXC_PARSE_TYPE_MISMATCH_S := by decide
-- a `var` form text before its variables exist: an undefined symbol, not a type mismatch (hypothesis `symsOk` matters)
example : (opCases[10]?).map (fun oc => (oc.body, oc.accepted, oc.vars)) = some ("v_i9 + v_s9", false, [("V_I9", Ty.int), ("V_S9", Ty.str)]) := by decide +kernel
example : ((step (step State.init (.cnew 0)).1 (.eparse 0 0 (.bad (opBadIndex handBadExprs.length 10)))).2.fail) =
    some Gen.EXC_PARSE_UNDEFINED_SYMBOL_S := by decide +kernel
-- the column rule on a catalog text whose position was observed: `q9 = 1 - "abc";` is reported at 1:15
example : endPos "q9 = 1 - \"abc\";" = (1, 15) := by decide +kernel
-- … and `q9 = "abc" - 1;` at 1:14, the `1`: the left operand is checked before the right one is parsed
example : posBack "q9 = \"abc\" - 1;" 1 = (1, 14) := by decide +kernel
example : (opCases[228]?).map (fun oc => (oc.body, oc.leftBad, oc.rightBad, oc.errPos)) = some ("\"a\" ** 1", true, false, (1, 13)) := by decide +kernel

/-- `rejected_parse_contract`, "bumps the context's epoch: library-owned pointers of that context die": after ANY call that
installs the fresh epoch in context `c` (`rejected_parse_contract_expr` / `_prog` say a rejected parse does) every
library-owned pointer of `c` that was live is dead. -/
theorem library_pointers_die (s s' : State) (c : Nat) (x x' : Ctx) (r : VRef) (hw : ∀ (d : Nat) (y : Ctx), s.ctxs[d]? = some y → y.epoch < s.clock)
    (hx : getCtx s c = some x) (hs' : s'.ctxs = s.ctxs.set c { x' with epoch := s.clock })
    (hk : r.kind ≠ .boxItem) (hc : r.ctx = c) (hl : refLive s r = true) : refLive s' r = false := by
  obtain ⟨y, hy, he⟩ := (refLive_lib hk).1 hl
  rw [hc, hx] at hy
  cases hy
  refine Bool.eq_false_iff.2 fun h => ?_
  obtain ⟨z, hz, hze⟩ := (refLive_lib hk).1 h
  rw [hc, getCtx_eq_some, hs', ctxs_set_self hx] at hz
  have := hw c x (getCtx_some hx)
  cases hz.1
  simp only at hze
  omega

/-- `rejected_parse_contract` over ALL sequences of rejected parse calls — any texts of the catalogs, through either entry
point, in any contexts, in any order, from ANY state: no handle is created, nothing the caller owns changes, every context
keeps its liveness, generation, functions, returned value, stop condition and every variable its value. -/
theorem rejected_parses_touch_nothing : ∀ (ops : List Op) (s : State), (∀ o ∈ ops, isBadParse o = true) →
    Untouched s (runSeq s ops).1
  | ops, s, h => runSeq_inv (P := Untouched s) ops s (fun t o ho ht => ht.trans (step_badParse_untouched t o (h o ho))) (.refl s)

/-- `usable_after_reject`: after any such sequence a context that was live accepts every text it accepted before — every
good expression and every good program parses (into any slot that was free), and the handles of the context stay valid
(same generation; the handle tables are unchanged by `rejected_parses_touch_nothing`). -/
theorem usable_after_reject (ops : List Op) (s : State) (c : Nat) (x : Ctx) (hall : ∀ o ∈ ops, isBadParse o = true)
    (hx : getCtx s c = some x) :
    (∃ x', getCtx (runSeq s ops).1 c = some x' ∧ x'.gen = x.gen) ∧
    (∀ (e : Nat) (ex : Expr), s.exprs[e]? = some none →
      (step (runSeq s ops).1 (.eparse c e (.good ex))).2.res = Res1.unit ∧ (step (runSeq s ops).1 (.eparse c e (.good ex))).2.fail = none) ∧
    (∀ (xi : Nat) (p : List Stmt) (pos : Bool), s.execs[xi]? = some none →
      (step (runSeq s ops).1 (.xparse c xi (.good p) pos)).2.res = Res1.unit ∧ (step (runSeq s ops).1 (.xparse c xi (.good p) pos)).2.fail = none) := by
  obtain ⟨h1, h2, _, _, _, h6⟩ := rejected_parses_touch_nothing ops s hall
  have hxc := getCtx_eq_some.1 hx
  obtain ⟨x', hx', hk⟩ := h6 c x hxc.1
  have hg : getCtx (runSeq s ops).1 c = some x' := getCtx_eq_some.2 ⟨hx', by rw [hk.1]; exact hxc.2⟩
  refine ⟨⟨x', hg, hk.2.1⟩, ?_, ?_⟩
  · exact fun e ex he => eparse_good hg (h1 ▸ he)
  · exact fun xi p pos he => xparse_good hg (h2 ▸ he)

-- non-vacuity: three rejected parses (a generated operator text, a hand-written text through each entry point) are such a sequence
example : ([Op.eparse 0 0 (.bad (opBadIndex handBadExprs.length 1)), .xparse 0 0 (.bad 4) true, .eparse 0 1 (.bad 0)].all isBadParse) = true := by decide

/-- The accessor contract as a contract of the CALL, in every state: on a readable value the call succeeds iff the type
matches, hands out the data (NULL iff the value is null) and changes nothing; else it returns `bloc_false`, the record holds the
accessor's own code and nothing else changes. -/
theorem accessor_call_contract (s : State) (v : Nat) (k : Acc) (x : Val) (hr : readSlot s v = some x) :
    (k.matches x.type = true → (step s (.acc v k)).2.res = Res1.acc x.isNull x ∧ (step s (.acc v k)).2.fail = none ∧ (step s (.acc v k)).1 = s) ∧
    (k.matches x.type = false → (step s (.acc v k)).2.res = Res1.truth false ∧ (step s (.acc v k)).2.fail = some k.failCode ∧
      (step s (.acc v k)).1 = setErr s k.failCode) := by
  constructor <;> intro hm <;> simp [step, opAcc, hr, accessor, hm, Out.of]

/-- … and therefore at every position of every call sequence from every state. -/
theorem accessor_contract_along_sequences (ops : List Op) (s : State) (i v : Nat) (k : Acc) (x : Val)
    (hi : ops[i]? = some (.acc v k)) (hr : readSlot (runSeq s (ops.take i)).1 v = some x) :
    ∃ out, (runSeq s ops).2[i]? = some out ∧
      (k.matches x.type = true → out.res = Res1.acc x.isNull x ∧ out.fail = none) ∧
      (k.matches x.type = false → out.res = Res1.truth false ∧ out.fail = some k.failCode) := by
  refine ⟨_, runSeq_out ops s i _ hi, ?_, ?_⟩
  · intro hm; have := (accessor_call_contract _ v k x hr).1 hm; exact ⟨this.1, this.2.1⟩
  · intro hm; have := (accessor_call_contract _ v k x hr).2 hm; exact ⟨this.1, this.2.1⟩

example : (readSlot (runSeq State.init [.cnew 0, .vint 0 42]).1 0).map (·.type) = some Ty.int := by decide

/-- While the stop condition of a context is held (`bloc_break`, or a `return` that ran), `bloc_execute` runs NOTHING: it
returns `bloc_true`, does not touch the error record, and the only change of the whole state is the new epoch of the context. -/
theorem held_run_is_noop (s : State) (xi : Nat) (h : ExecH) (x : Ctx) (hu : execUsable s xi = some h)
    (hx : getCtx s h.ctx = some x) (hstop : x.stop = true) :
    (step s (.exec xi)).2.res = Res1.truth true ∧ (step s (.exec xi)).2.fail = none ∧ (step s (.exec xi)).1 = bump s h.ctx x := by
  simp [step, opExec, hu, hx, runIn, hstop]

/-- `bloc_break` / a `return` that ran HOLD: over ANY call sequence that contains none of `bloc_reset_stop`, `bloc_ctx_purge`,
`bloc_free_context` on context c — whatever else is called, on this or any other context, succeeding or failing — a live
context whose stop condition is held stays live with the condition held. -/
theorem stop_held_until_release (c : Nat) : ∀ (ops : List Op) (s : State) (x : Ctx),
    s.ctxs[c]? = some x → x.live = true → x.stop = true → (∀ o ∈ ops, releases c o = false) →
    ∃ x', (runSeq s ops).1.ctxs[c]? = some x' ∧ x'.live = true ∧ x'.stop = true
  | ops, s, x, h0, hl, hs, hall => by
    refine runSeq_inv (P := fun t => ∃ x', t.ctxs[c]? = some x' ∧ x'.live = true ∧ x'.stop = true) ops s ?_ ⟨x, h0, hl, hs⟩
    intro t o ho ⟨x, h0, hl, hs⟩
    obtain ⟨x1, h1⟩ := step_ctx_after o h0
    have hr := hall o ho
    refine ⟨x1, h1, ?_⟩
    cases step_ctx h0 h1 with
    | write _ hl' _ _ _ hs' => exact ⟨hl'.trans hl, hs' hr hs⟩
    | renew _ _ hl' _ hs' => exact ⟨hl'.trans hl, hs' hs⟩
    | reset _ _ _ hrel => rw [hrel hl] at hr; cases hr

/-- … and so, after any such sequence, running an executable of that context still runs nothing. -/
theorem nothing_runs_while_held (c xi : Nat) (ops : List Op) (s : State) (x : Ctx) (h : ExecH)
    (h0 : s.ctxs[c]? = some x) (hl : x.live = true) (hs : x.stop = true) (hall : ∀ o ∈ ops, releases c o = false)
    (hu : execUsable (runSeq s ops).1 xi = some h) (hc : h.ctx = c) :
    ∃ x', getCtx (runSeq s ops).1 c = some x' ∧
      (step (runSeq s ops).1 (.exec xi)).2.res = Res1.truth true ∧ (step (runSeq s ops).1 (.exec xi)).2.fail = none ∧
      (step (runSeq s ops).1 (.exec xi)).1 = bump (runSeq s ops).1 c x' := by
  obtain ⟨x', hx', hl', hs'⟩ := stop_held_until_release c ops s x h0 hl hs hall
  have hg : getCtx (runSeq s ops).1 c = some x' := getCtx_eq_some.2 ⟨hx', hl'⟩
  subst hc
  exact ⟨x', hg, held_run_is_noop _ xi h x' hu hg hs'⟩

-- non-vacuity: after `bloc_break` the stop is held in a live context; parsing and registering do not release it
example : (((runSeq State.init [.cnew 0, .brk 0, .reg 0 0 "I1" .int 0, .eparse 0 0 (.bad 0)]).1.ctxs[0]?).map fun x => (x.live, x.stop)) = some (true, true) := by decide
example : ([Op.reg 0 0 "I1" .int 0, .eparse 0 0 (.bad 0), .brk 0, .cpurge 1].all fun o => !releases 0 o) = true := by decide

/-- `purge` semantics for what was parsed / registered before it: after `bloc_ctx_purge(c)`, over ANY later call sequence
(any calls on any contexts: new parses, runs, frees, re-creation of the slot, further purges), every executable,
expression and symbol handle of `c` of an older generation (`gen < clock at the purge`: every handle that existed then,
since generations are clock values) stays unusable — `bloc_execute` / `bloc_execute2` / `bloc_evaluate_expression` /
`bloc_expression_type` / store / load with it violate the precondition (`pre`: the host must not make the call; the executable
still has to be freed). Handles created after the purge carry the new generation and are not concerned. -/
theorem purge_ends_handles_forever (s : State) (c : Nat) (x : Ctx) (ops : List Op) (hx : getCtx s c = some x) :
    (∀ (xi : Nat) (h : ExecH), (runSeq (step s (.cpurge c)).1 ops).1.execs[xi]? = some (some h) → h.ctx = c → h.gen < s.clock →
      execUsable (runSeq (step s (.cpurge c)).1 ops).1 xi = none ∧
      (step (runSeq (step s (.cpurge c)).1 ops).1 (.exec xi)).2.res = Res1.pre) ∧
    (∀ (e : Nat) (h : ExprH), (runSeq (step s (.cpurge c)).1 ops).1.exprs[e]? = some (some h) → h.ctx = c → h.gen < s.clock →
      exprUsable (runSeq (step s (.cpurge c)).1 ops).1 e c = none) ∧
    (∀ (sh : Nat) (h : SymH), (runSeq (step s (.cpurge c)).1 ops).1.syms[sh]? = some (some h) → h.ctx = c → h.gen < s.clock →
      symLive (runSeq (step s (.cpurge c)).1 ops).1 sh c = none) := by
  have hf := runSeq_inv ops _ (fun t o _ => genFloor_step c s.clock t o) (genFloor_after_purge s c x hx)
  generalize (runSeq (step s (.cpurge c)).1 ops).1 = t at hf
  have key (g : Nat) (hg : g < s.clock) (y : Ctx) (hy : getCtx t c = some y) : g ≠ y.gen := by
    have hc := getCtx_eq_some.1 hy
    have := hf.2 y hc.1 hc.2
    omega
  refine ⟨fun xi h hh hc hg => ?_, fun e h hh _ hg => exprUsable_stale hh (key h.gen hg),
    fun sh h hh _ hg => symLive_stale hh (key h.gen hg)⟩
  have hu := execUsable_stale hh (hc ▸ key h.gen hg)
  exact ⟨hu, by simp [step, opExec, hu, Out.pre]⟩

-- non-vacuity: an executable parsed before the purge sits in its slot afterwards, with a generation older than the purge
example :
    let s := (runSeq State.init [.cnew 0, .xparse 0 0 (.good [.nop]) true]).1
    ((s.execs[0]?).map fun h => h.map fun h => (h.ctx, decide (h.gen < s.clock))) = some (some (0, true)) ∧
    ((step (step s (.cpurge 0)).1 (.exec 0)).2.res matches Res1.pre) = true := by decide

/-- What `purge_ends_handles_forever` assumes of each handle (`h.gen < s.clock`) holds in every reachable state: after ANY call
sequence from the initial state, the generation of every context and of every executable, expression and symbol handle the
host holds is below the clock (generations are clock values of the past). Per call (`handleWF_step`): a context keeps its
generation or gets the clock value, a handle after a call was there before or carries the generation of a context. -/
theorem handle_generations_below_clock (ops : List Op) : HandleWF (runSeq State.init ops).1 :=
  runSeq_inv ops State.init (fun t o _ => handleWF_step t o) handleWF_init

/-- `purge_ends_handles_forever` without that premise, for reachable states: take ANY call sequence `pre` from the initial
state, purge a live context `c`, then ANY call sequence `ops`: every executable, expression and symbol handle of `c` the host
held at the purge — as long as it still sits in its slot — is unusable in the final state; `bloc_execute` with such an
executable violates the precondition. -/
theorem purged_handles_dead_in_reachable_states (pre ops : List Op) (c : Nat) (x : Ctx)
    (hx : getCtx (runSeq State.init pre).1 c = some x) :
    (∀ (xi : Nat) (h : ExecH), (runSeq State.init pre).1.execs[xi]? = some (some h) → h.ctx = c →
      (runSeq (step (runSeq State.init pre).1 (.cpurge c)).1 ops).1.execs[xi]? = some (some h) →
      execUsable (runSeq (step (runSeq State.init pre).1 (.cpurge c)).1 ops).1 xi = none ∧
      (step (runSeq (step (runSeq State.init pre).1 (.cpurge c)).1 ops).1 (.exec xi)).2.res = Res1.pre) ∧
    (∀ (e : Nat) (h : ExprH), (runSeq State.init pre).1.exprs[e]? = some (some h) → h.ctx = c →
      (runSeq (step (runSeq State.init pre).1 (.cpurge c)).1 ops).1.exprs[e]? = some (some h) →
      exprUsable (runSeq (step (runSeq State.init pre).1 (.cpurge c)).1 ops).1 e c = none) ∧
    (∀ (sh : Nat) (h : SymH), (runSeq State.init pre).1.syms[sh]? = some (some h) → h.ctx = c →
      (runSeq (step (runSeq State.init pre).1 (.cpurge c)).1 ops).1.syms[sh]? = some (some h) →
      symLive (runSeq (step (runSeq State.init pre).1 (.cpurge c)).1 ops).1 sh c = none) := by
  obtain ⟨_, w2, w3, w4⟩ := handle_generations_below_clock pre
  obtain ⟨p1, p2, p3⟩ := purge_ends_handles_forever (runSeq State.init pre).1 c x ops hx
  exact ⟨fun xi h h0 hc ht => p1 xi h ht hc (w2 xi h h0), fun e h h0 hc ht => p2 e h ht hc (w3 e h h0),
    fun sh h h0 hc ht => p3 sh h ht hc (w4 sh h h0)⟩

-- non-vacuity: a reachable state with a live context holding an executable and a symbol handle
example :
    let s := (runSeq State.init [.cnew 0, .reg 0 0 "I1" .int 0, .xparse 0 0 (.good [.nop]) true]).1
    ((getCtx s 0).isSome, (s.execs[0]?).map (·.map (·.ctx)), (s.syms[0]?).map (·.map (·.ctx))) = (true, some (some 0), some (some 0)) := by
  decide +kernel

/-- `cross_context_isolation` for API calls, over ALL call sequences: whatever is called in OTHER contexts — parses, runs,
failing runs, stores, assigns through loaded pointers, purge, free, clones taken FROM `d` and everything done in those
clones — slot `d` of the context table is exactly what it was: same variables and values, symbols, functions, returned
value, stop condition, generation and EPOCH. -/
theorem cross_context_isolation (d : Nat) : ∀ (ops : List Op) (s : State), untargeted d s ops = true →
    (runSeq s ops).1.ctxs[d]? = s.ctxs[d]?
  | [], _, _ => rfl
  | o :: os, s, h => by
    simp only [untargeted, Bool.and_eq_true, Bool.not_eq_true'] at h
    simp only [runSeq]
    rw [cross_context_isolation d os (step s o).1 h.2, step_untargeted h.1]

/-- … hence every library-owned pointer into `d` the host holds is exactly as live as before and reads the same value. -/
theorem cross_context_pointers (d : Nat) (ops : List Op) (s : State) (r : VRef) (id : Nat) (h : untargeted d s ops = true)
    (hroot : r.root = .slot d id) (hctx : r.ctx = d) :
    refLive (runSeq s ops).1 r = refLive s r ∧ readRef (runSeq s ops).1 r = readRef s r := by
  have hc := cross_context_isolation d ops s h
  constructor
  · unfold refLive getCtx; rw [hctx, hc]
  · exact readRef_congr hroot hc

-- non-vacuity: context 0 is cloned, the clone gets a new symbol, a store, a purge and is freed; a failing parse in a third context
example :
    let s := (runSeq State.init [.cnew 0, .reg 0 0 "I1" .int 0]).1
    untargeted 0 s [.cclone 0 1 2, .reg 1 1 "I2" .int 0, .vint 0 5, .store 1 1 0 true, .cpurge 1, .cfree 1, .cnew 2, .eparse 2 0 (.bad 0)] = true := by
  decide

/-- `cross_context_isolation` for sequences that contain the extended calls (`rstore`: a store whose source is a library-owned
pointer): a copying store FROM context `d` does not work in `d`; a moving store (item pointer below a variable of `d`) does. -/
theorem cross_context_isolation_x (d : Nat) : ∀ (ops : List XOp) (s : State), untargetedX d s ops = true →
    (runSeqX s ops).1.ctxs[d]? = s.ctxs[d]?
  | [], _, _ => rfl
  | o :: os, s, h => by
    simp only [untargetedX, Bool.and_eq_true, Bool.not_eq_true'] at h
    simp only [runSeqX]
    rw [cross_context_isolation_x d os (stepX s o).1 h.2, stepX_untargeted s o d h.1]

/-- `bloc_ctx_store_variable` with a pointer to a VARIABLE'S OWN CELL (what `bloc_ctx_load_variable` hands out — of any context,
original or clone): the value is COPIED. The whole effect on the state: the target context gets the new slot value (same epoch),
and the item / evaluation pointers of the TARGET context end (its old payload is released). Nothing else: the source context,
the source pointer, every caller-owned value, every other handle and the error record are what they were. -/
theorem rstore_copy_contract (s : State) (c sh v : Nat) (x x' : Ctx) (id : Nat) (r : VRef) (b : Val)
    (hsl : symLive s sh c = some (x, id)) (hlive : liveSlot s v = some (.ref r)) (hk : (r.kind == VKind.eval) = false)
    (hb : readRef s r = some b) (hvc : refIsVarCell r = true) (hst : storeInto x id b = .ok x') :
    (opRstore s c sh v).2.res = Res1.truth true ∧ (opRstore s c sh v).2.fail = none ∧
    (opRstore s c sh v).1 = killCtxItems (setCtx s c x') c := by
  simp [opRstore, hsl, hlive, hk, hb, hvc, hst, aliasesTarget, Out.of]

/-- … with an ITEM pointer (an element of a table, an item of a tuple — below a variable of any context, or below a caller-owned
value): the value is MOVED. Target as above; the source cell keeps its type and becomes null, inside its container, and the item
pointers of the source's family end. (Storing an item of context A into B changes A's variable.) -/
theorem rstore_move_contract (s : State) (c sh v : Nat) (x x' : Ctx) (id : Nat) (r : VRef) (b : Val)
    (hsl : symLive s sh c = some (x, id)) (hlive : liveSlot s v = some (.ref r)) (hk : (r.kind == VKind.eval) = false)
    (hb : readRef s r = some b) (hvc : refIsVarCell r = false) (hal : aliasesTarget r c id = false) (hst : storeInto x id b = .ok x') :
    (opRstore s c sh v).2.res = Res1.truth true ∧ (opRstore s c sh v).2.fail = none ∧
    (opRstore s c sh v).1 = moveOut (killCtxItems (setCtx s c x') c) r b := by
  simp [opRstore, hsl, hlive, hk, hb, hvc, hst, hal, Out.of]

/-- Ownership after the copying store, handle by handle: symbol, expression and executable tables, error record and clock are
unchanged; the host's value table loses exactly the item / evaluation pointers of the target context (every box, every pointer
from `bloc_ctx_load_variable` — the source pointer included — and every pointer into another context stays); every context
keeps epoch, liveness and generation, so every pointer that stayed is exactly as live as it was. -/
theorem rstore_copy_ownership (s : State) (c sh v : Nat) (x x' : Ctx) (id : Nat) (r : VRef) (b : Val)
    (hsl : symLive s sh c = some (x, id)) (hlive : liveSlot s v = some (.ref r)) (hk : (r.kind == VKind.eval) = false)
    (hb : readRef s r = some b) (hvc : refIsVarCell r = true) (hst : storeInto x id b = .ok x') :
    (opRstore s c sh v).1.syms = s.syms ∧ (opRstore s c sh v).1.exprs = s.exprs ∧ (opRstore s c sh v).1.execs = s.execs ∧
    (opRstore s c sh v).1.err = s.err ∧ (opRstore s c sh v).1.clock = s.clock ∧
    (opRstore s c sh v).1.vals = (killCtxItems s c).vals ∧
    (opRstore s c sh v).1.ctxs = s.ctxs.set c x' ∧ x'.epoch = x.epoch ∧ x'.live = x.live := by
  rw [(rstore_copy_contract s c sh v x x' id r b hsl hlive hk hb hvc hst).2.2]
  have hkp := storeInto_same hst
  exact ⟨rfl, rfl, rfl, rfl, rfl, rfl, rfl, hkp.epoch, hkp.live⟩

/-- `cross_store_copies`: a value loaded from context `a` (pointer `r` to variable `ida` of `a`) is stored into variable `id` of
ANOTHER context `c` — any two contexts: unrelated, clone and original, original and clone. Then
(1) the store did not touch `a` at all (values, symbols, epoch: the source pointer stays valid and reads `b`);
(2) the target variable holds `b`;
(3) over ANY later call sequence (extended calls included) none of whose calls works in `a`, context `a` stays exactly as it was —
    whatever is done to `c`, to the stored value, to clones;
(4) and symmetrically for `c`: nothing done outside `c` changes what `c` holds. The two contexts share nothing: a copy. -/
theorem cross_store_copies (s : State) (c sh v a ida : Nat) (x x' : Ctx) (id : Nat) (r : VRef) (b old : Val) (sy : Sym)
    (hsl : symLive s sh c = some (x, id)) (hlive : liveSlot s v = some (.ref r)) (hk : (r.kind == VKind.eval) = false)
    (hb : readRef s r = some b) (hroot : r.root = .slot a ida) (hpath : r.path = []) (hac : (c == a) = false)
    (hsy : x.syms[id]? = some sy) (hold : x.vals[id]? = some old) (hst : storeInto x id b = .ok x') (ops : List XOp) :
    (opRstore s c sh v).1.ctxs[a]? = s.ctxs[a]? ∧
    readRef (opRstore s c sh v).1 r = some b ∧
    (∃ xb, (opRstore s c sh v).1.ctxs[c]? = some xb ∧ xb.vals[id]? = some b) ∧
    (untargetedX a (opRstore s c sh v).1 ops = true →
      (runSeqX (opRstore s c sh v).1 ops).1.ctxs[a]? = s.ctxs[a]?) ∧
    (untargetedX c (opRstore s c sh v).1 ops = true →
      (runSeqX (opRstore s c sh v).1 ops).1.ctxs[c]? = (opRstore s c sh v).1.ctxs[c]?) := by
  have hvc : refIsVarCell r = true := by simp [refIsVarCell, hroot, hpath]
  have hctr := (rstore_copy_contract s c sh v x x' id r b hsl hlive hk hb hvc hst).2.2
  have ha : (opRstore s c sh v).1.ctxs[a]? = s.ctxs[a]? := by
    rw [hctr]; exact List.getElem?_set_ne (ne_of_beq_false hac)
  refine ⟨ha, ?_, ?_, ?_, ?_⟩
  · exact (readRef_congr hroot ha).trans hb
  · refine ⟨x', ?_, (storeInto_ok hsy hold hst).1 ▸ List.getElem?_set_self (List.getElem?_eq_some_iff.1 hold).1⟩
    rw [hctr]; exact ctxs_set_self (symLive_some hsl) x'
  · intro hu
    rw [cross_context_isolation_x a ops _ hu, ha]
  · intro hu
    exact cross_context_isolation_x c ops _ hu

-- non-vacuity: an integer variable of context 0 is loaded and stored into an untyped variable of context 1: the hypotheses of
-- `rstore_copy_contract` / `cross_store_copies` hold in that state and the call answers `bloc_true`
example :
    let s := (runSeqX State.init [.base (.cnew 0), .base (.reg 0 0 "A1" .int 0), .base (.vint 0 5), .base (.store 0 0 0 true),
                                  .base (.cnew 1), .base (.reg 1 1 "A2" .none 0), .base (.load 0 0 1)]).1
    ((symLive s 1 1).map (·.2), (liveSlot s 1).isSome, ((readSlot s 1).map (·.type)), (opRstore s 1 1 1).2.fail,
      ((opRstore s 1 1 1).1.ctxs[1]?).map (fun y => y.vals.map (·.type))) = (some 0, true, some Ty.int, none, some [Ty.int]) := by
  decide +kernel
-- the later sequence may do anything outside context 0 — here: overwrite the copy, purge and free context 1
example :
    let s := (runSeqX State.init [.base (.cnew 0), .base (.reg 0 0 "A1" .int 0), .base (.cnew 1), .base (.reg 1 1 "A2" .none 0), .base (.load 0 0 1)]).1
    untargetedX 0 s [.rstore 1 1 1, .base (.vint 2 9), .base (.store 1 1 2 true), .base (.cpurge 1), .base (.cfree 1)] = true := by
  decide +kernel

end BlocV.C15
