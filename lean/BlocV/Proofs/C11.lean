/-
  C11 — a rejected source text does not disturb anything that was valid before it.

  Model: BlocV/Model/ParseCtx.lean (a machine over the context effects of one parse), Model/Session.lean (texts submitted
  one after the other, run time included). All theorems are for EVERY event sequence, EVERY structure hash `H` and EVERY
  context (idle and coherent where symbols are concerned, aligned at the statement level): the catch blocks,
  `parsingRevert` and the reverse-order restore loop of `parsingEnd` give back symbols, flags, exec depth and the function
  table of the start of the parse; what a rejected text leaves behind (new names only) does not influence the verdict, the
  tables or the run of any later text that does not mention those names.
-/
import BlocV.Proofs.Lemmas.ParseSim

namespace BlocV.ParseCtx

/-- Whatever the state, an event that opens a clause pushes a frame whose catch
block and whose normal exit both give back exactly the context before the entry. -/
theorem clause_flags_restored (H : Decl → Nat) (st st' : St) (e : Ev) (fr : Frame)
    (hstep : step H st e = .ok st') (hpush : st'.stack = fr :: st.stack) (hc : st.child = none) :
    fr.exitCatch st'.ctx = st.ctx ∧ fr.exitNormal st'.ctx = st.ctx := by
  have key : st.ctx = fr.exitCatch st'.ctx := by
    cases step_eff hstep with
    | enter c fr' _ _ hu => cases hpush; exact hu
    | leave fr' rest _ hs => exact absurd (congrArg List.length (hs.trans (congrArg _ hpush))) (by simp; omega)
    | _ => exact absurd hpush.symm (List.cons_ne_self _ _)
  exact ⟨key.symm, (exitNormal_eq_exitCatch _ _).trans key.symm⟩

/-! the hypotheses of `clause_flags_restored` are satisfiable: a FORALL over a plain table variable -/

def exClauseSt : St :=
  ⟨⟨["E", "T"], [(⟨2, 0, 0⟩, []), (⟨2, 0, 1⟩, [])], [(false, false), (false, false)], [], 0, true, [], none⟩, [], none, 0, []⟩

example : (match step (fun _ => 0) exClauseSt (.enterForall 0 (some 1)) with
    | .ok st' => st'.stack == [.forallC 0 false false (some (1, false))] && st'.ctx.fls == [(true, false), (false, true)]
        && decide (st'.ctx ≠ exClauseSt.ctx) && exClauseSt.child.isNone
    | .error _ => false) = true := by decide +kernel

/-- For EVERY event sequence and EVERY idle, coherent context: when the text is
rejected — wherever the error occurs: inside loop bodies, clauses, function bodies, after any number of
type upgrades of the same symbol — every pre-existing symbol has its name, type, declaration and flags,
and exec depth, parsing flag and backup list are as before. -/
theorem reject_restores_symbols (H : Decl → Nat) (c0 c' : Ctx) (evs : List Ev)
    (hidle : c0.idle = true) (hcoh : c0.coherent H = true)
    (hrej : parseText H c0 evs = .reject c') : SymsPreserved c0 c' := by
  cases finish_reject hrej
  exact preserved_of_inv hidle (inv_run evs (inv_init H c0 hidle hcoh))

/-! the hypotheses are satisfiable, non-trivially: `x` (integer) is upgraded to string then to decimal inside
a FOR body nested in a FORALL over the table `t`, then the text fails -/

def exSymCtx : Ctx :=
  ⟨["X", "T"], [(⟨2, 0, 0⟩, []), (⟨7, 5, 1⟩, [⟨2, 0, 0⟩])], [(false, false), (false, false)], [], 0, false, [], none⟩
def exSymEvs : List Ev :=
  [.reg "E" (.tuple [⟨2, 0, 0⟩] 0), .enterForall 2 (some 1), .reg "I" (.plain ⟨2, 0, 0⟩), .enterFor 3,
   .reg "X" (.plain ⟨4, 0, 0⟩), .reg "X" (.plain ⟨3, 0, 0⟩), .fail]

example : exSymCtx.idle = true ∧ exSymCtx.coherent (fun _ => 5) = true ∧
    (parseText (fun _ => 5) exSymCtx exSymEvs).rejected.map (·.names) = some ["X", "T", "E", "I"] ∧
    (runEvents (fun _ => 5) (St.init exSymCtx) exSymEvs).2.ctx.backed.length = 2 ∧
    (runEvents (fun _ => 5) (St.init exSymCtx) exSymEvs).2.ctx.exec = 2 ∧
    (runEvents (fun _ => 5) (St.init exSymCtx) exSymEvs).2.ctx.fls = [(false, false), (false, true), (true, false), (true, false)] := by
  decide +kernel

/-- For EVERY sequence of registrations during one parse (new symbols, upgrades,
repeated upgrades of the same symbol, refused ones ending the parse), the reverse-order loop of
`Context::parsingEnd` brings every pre-existing symbol back to its type and declaration. -/
theorem parsingEnd_restores (H : Decl → Nat) (c0 : Ctx) (regs : List (String × RegTy))
    (hidle : c0.idle = true) (hcoh : c0.coherent H = true) :
    let st := (runEvents H (St.init c0) (regs.map fun p => Ev.reg p.1 p.2)).2
    (parsingEnd H st.ctx).tds.take c0.tds.length = c0.tds ∧
    (parsingEnd H st.ctx).names.take c0.names.length = c0.names ∧
    (parsingEnd H st.ctx).fls.take c0.fls.length = c0.fls ∧
    (parsingEnd H st.ctx).backed = [] ∧ (parsingEnd H st.ctx).parsing = false := by
  intro st
  have hinv : Inv H c0 st := inv_run _ (inv_init H c0 hidle hcoh)
  -- registrations never open a clause
  have hs : st.stack = [] := runEvents_induct (P := fun s => s.stack = []) _ rfl fun s e s' he hs hstep => by
    obtain ⟨p, _, rfl⟩ := List.mem_map.mp he
    cases step_eff hstep with
    | enter _ _ ho => cases ho
    | _ => exact hs
  have hp := preserved_of_inv_accept hidle hinv hs
  exact ⟨hp.types, hp.names, hp.flags, rfl, rfl⟩

/-- The seeded mutation "restore oldest-first" (`for (auto& s : _backed_symbols)` instead of the reverse
iteration): the same loop run from the oldest backup. -/
def parsingEndOldestFirst (H : Decl → Nat) (c : Ctx) : Ctx :=
  { c with tds := restoreAll H c.backed.reverse c.tds, backed := [], parsing := false }

/-! … and it is exactly a symbol upgraded twice that tells the two loops apart: `x` integer → string → decimal.
The real loop restores integer, the mutated one leaves string. -/

def exTwiceCtx : Ctx := ⟨["X"], [(⟨2, 0, 0⟩, [])], [(false, false)], [], 0, false, [], none⟩
def exTwiceSt : St :=
  (runEvents (fun _ => 0) (St.init exTwiceCtx) [.reg "X" (.plain ⟨4, 0, 0⟩), .reg "X" (.plain ⟨3, 0, 0⟩)]).2

example : (parsingEnd (fun _ => 0) exTwiceSt.ctx).tds = exTwiceCtx.tds ∧
    (parsingEndOldestFirst (fun _ => 0) exTwiceSt.ctx).tds = [(⟨4, 0, 0⟩, [])] := by
  decide +kernel

/-! A variable typed from a null tuple VALUE (`storeVariable`: tuple major, the minor of the structure, no decl) is a
coherent symbol, and the restore loop gives it back its type as it was (finding
C11.null_tuple_symbol_restored_opaque, repaired by /repo 353443e). -/

def exNullTupleCtx : Ctx := ⟨["V"], [(⟨7, 27364, 0⟩, [])], [(false, false)], [], 0, false, [], none⟩

theorem null_tuple_symbol_restored :
    exNullTupleCtx.idle = true ∧ exNullTupleCtx.coherent (fun _ => 0) = true ∧
    (parseText (fun _ => 0) exNullTupleCtx [.reg "V" (.plain ⟨2, 0, 0⟩), .fail]).rejected = some exNullTupleCtx := by
  decide +kernel

/-- Coherence (`decl ≠ [] → type = make_type decl`) is an invariant of class `Symbol`; it stays a hypothesis because a
model context is arbitrary data: an integer symbol carrying a decl (which the code cannot build) would come back
without it. -/
example : (⟨["X"], [(⟨2, 0, 0⟩, [⟨2, 0, 0⟩])], [(false, false)], [], 0, false, [], none⟩ : Ctx).coherent (fun _ => 0) = false ∧
    (parseText (fun _ => 0) ⟨["X"], [(⟨2, 0, 0⟩, [⟨2, 0, 0⟩])], [(false, false)], [], 0, false, [], none⟩
      [.reg "X" (.plain ⟨4, 0, 0⟩), .fail]).rejected.map (·.tds) = some [(⟨2, 0, 0⟩, [])] := by
  decide +kernel

/-- The normal path of every clause: an accepted text leaves the flags of every
pre-existing symbol and the exec depth as they were. -/
theorem accept_keeps_flags (H : Decl → Nat) (c0 c' : Ctx) (evs : List Ev)
    (hidle : c0.idle = true) (hcoh : c0.coherent H = true)
    (hacc : parseText H c0 evs = .accept c') :
    c'.fls.take c0.fls.length = c0.fls ∧ c'.exec = c0.exec ∧ c'.parsing = false ∧ c'.backed = [] := by
  obtain ⟨rfl, hs⟩ := finish_accept hacc
  have hp := preserved_of_inv_accept hidle (inv_run (H := H) evs (inv_init H c0 hidle hcoh)) hs
  exact ⟨hp.flags, hp.exec, rfl, rfl⟩

example : (parseText (fun _ => 0) ⟨["I"], [(⟨2, 0, 0⟩, [])], [(false, false)], [], 0, false, [], none⟩
      [.reg "I" (.plain ⟨2, 0, 0⟩), .enterFor 0, .reg "Y" (.plain ⟨4, 0, 0⟩), .leave]).accepted.map (·.names)
    = some ["I", "Y"] := by decide +kernel

def wF : Ctx := ⟨[], [], [], [], 0, false, [⟨"F", 1, 100, true⟩], none⟩
def wFG : Ctx := ⟨[], [], [], [], 0, false, [⟨"F", 1, 100, true⟩, ⟨"G", 1, 101, true⟩], none⟩
def wGF : Ctx := ⟨[], [], [], [], 0, false, [⟨"G", 1, 101, true⟩, ⟨"F", 1, 100, true⟩], none⟩

/-- the Spec clause evaluated on the outcome of a parse: `some true` = rejected and functions preserved -/
def fnsKept (c0 : Ctx) (o : Outcome) : Option Bool := o.rejected.map fun c' => decide (FnsPreserved c0 c')

/-- For EVERY event sequence — new declarations, complete and failed redefinitions of
pre-existing functions and of functions the text itself declared, in any order, the error anywhere — and EVERY context
(no hypothesis at all): after the rejection the function table IS the table the parse started with: same entries at the
same positions, same functor identity (`fid`), same body (callability), and no entry more. `parsingRevert` removes what
was appended behind the mark and puts every replaced functor back, newest journal entry first. -/
theorem reject_restores_functions (H : Decl → Nat) (c0 c' : Ctx) (evs : List Ev)
    (hrej : parseText H c0 evs = .reject c') : c'.fns = c0.fns := by
  cases finish_reject hrej
  exact jinv_reject (jinv_run evs (jinv_init c0))

/-! satisfiable, non-trivially: `g` is redefined completely, a new `h` is declared and redefined, `f` is redefined
completely twice, a redefinition of `g` (no longer the last entry) is open when the text fails inside its body: at the throw every
entry holds another functor, the journal has five entries; afterwards the table is the old one -/

def exJournalEvs : List Ev :=
  [.fnBegin "G" 1 200, .leave, .fnBegin "H" 0 201, .leave, .fnBegin "H" 0 202, .leave, .fnBegin "F" 1 203, .leave,
   .fnBegin "F" 1 204, .leave, .fnBegin "G" 1 205, .enterBlk, .fail]

example : (runEvents (fun _ => 0) (St.init wFG) exJournalEvs).2.ctx.fns =
      [⟨"F", 1, 204, true⟩, ⟨"G", 1, 205, false⟩, ⟨"H", 0, 202, true⟩] ∧
    (runEvents (fun _ => 0) (St.init wFG) exJournalEvs).2.journal =
      [(1, ⟨"G", 1, 200, true⟩), (0, ⟨"F", 1, 203, true⟩), (0, ⟨"F", 1, 100, true⟩), (2, ⟨"H", 0, 201, true⟩), (1, ⟨"G", 1, 101, true⟩)] ∧
    (parseText (fun _ => 0) wFG exJournalEvs).rejected.map (·.fns) = some wFG.fns := by
  decide +kernel

/-! the order of the undo loop matters (what a patch that undoes the journal oldest-first would do): `f` redefined twice -/

def revertFnsOldestFirst (mark : Nat) (journal : List (Nat × Fn)) (fns : List Fn) : List Fn :=
  revertFns mark journal.reverse fns

example : revertFns 1 [(0, ⟨"F", 1, 203, true⟩), (0, ⟨"F", 1, 100, true⟩)] [⟨"F", 1, 204, true⟩] = wF.fns ∧
    revertFnsOldestFirst 1 [(0, ⟨"F", 1, 203, true⟩), (0, ⟨"F", 1, 100, true⟩)] [⟨"F", 1, 204, true⟩] = [⟨"F", 1, 203, true⟩] := by
  decide +kernel

/-- The witness of the repaired finding C11.complete_redefinition_survives_reject:
`function f(x) return integer is begin return 10; end; z = ;` on a context that has `f/1` — the complete redefinition
installed at parse time (`fid` 200) is taken out again, `f` is the old functor 100. -/
theorem complete_redefinition_reverted_witness :
    wF.idle = true ∧ wF.coherent (fun _ => 0) = true ∧
    (runEvents (fun _ => 0) (St.init wF) [.fnBegin "F" 1 200, .leave]).2.ctx.fns = [⟨"F", 1, 200, true⟩] ∧
    fnsKept wF (parseText (fun _ => 0) wF [.fnBegin "F" 1 200, .leave, .fail]) = some true ∧
    (parseText (fun _ => 0) wF [.fnBegin "F" 1 200, .leave, .fail]).rejected.map (·.fns) = some [⟨"F", 1, 100, true⟩] := by
  decide +kernel

/-- an ACCEPTED text keeps its redefinition (the journal is dropped, not undone) -/
example : (parseText (fun _ => 0) wF [.fnBegin "F" 1 200, .leave]).accepted.map (·.fns) = some [⟨"F", 1, 200, true⟩] := by decide +kernel

/-- a FAILED redefinition of a function is rolled back wherever its entry is in the table, not only when it is the
last (finding C11.failed_redefinition_not_rolled_back, repaired by /repo 3e9e0ba):
`function f(x) return integer is begin return 10 end;` with `g` declared after `f` -/
theorem failed_redefinition_rolled_back_not_last :
    fnsKept wFG (parseText (fun _ => 0) wFG [.fnBegin "F" 1 200, .fail]) = some true ∧
    (parseText (fun _ => 0) wFG [.fnBegin "F" 1 200, .fail]).rejected.map (·.fns) = some wFG.fns := by
  decide +kernel

/-- … also when the text first declares a new function: a rejected text leaves no declaration -/
theorem failed_redefinition_rolled_back_after_new :
    fnsKept wF (parseText (fun _ => 0) wF [.fnBegin "H" 0 150, .leave, .fnBegin "F" 1 200, .fail]) = some true ∧
    (parseText (fun _ => 0) wF [.fnBegin "H" 0 150, .leave, .fnBegin "F" 1 200, .fail]).rejected.map (·.fns)
      = some [⟨"F", 1, 100, true⟩] := by
  decide +kernel

example : fnsKept wGF (parseText (fun _ => 0) wGF [.fnBegin "F" 1 200, .fail]) = some true := by decide +kernel

/-- `reject_restores_functions` in the words of the Spec (`FnsPreserved`: every
pre-existing function keeps its position, its definition and its body), with no proviso about the text. -/
theorem reject_restores_functions_partial (H : Decl → Nat) (c0 c' : Ctx) (evs : List Ev)
    (hrej : parseText H c0 evs = .reject c') : FnsPreserved c0 c' := by
  unfold FnsPreserved
  rw [reject_restores_functions H c0 c' evs hrej, List.take_length]

/-- the region of the repaired finding is not empty: the witness completes a redefinition of a pre-existing function -/
example : redefinitionCompleted (fun _ => 0) wF (St.init wF) [.fnBegin "F" 1 200, .leave, .fail] = true ∧
    redefinitionCompleted (fun _ => 0) wFG (St.init wFG) exJournalEvs = true := by
  decide +kernel

/-- After a rejected text (ANY text) the context is idle again — not parsing, no pending
backup, exec depth as before — everything pre-existing is as it was, the function table is the one before, and when the
text introduced no new symbol the symbol table IS the one before: whatever is parsed next sees `c0` with another `_backed`
(the functor of a rolled-back declaration stays in it; that no parse depends on it is `parse_independent_of_fbacked`). -/
theorem context_usable_after_reject (H : Decl → Nat) (c0 c' : Ctx) (evs : List Ev)
    (hidle : c0.idle = true) (hcoh : c0.coherent H = true)
    (hrej : parseText H c0 evs = .reject c') :
    c'.idle = true ∧ c'.exec = c0.exec ∧ SymsPreserved c0 c' ∧ c'.fns = c0.fns ∧
    (c'.names.length = c0.names.length → c'.tds.length = c0.tds.length → c'.fls.length = c0.fls.length →
      c' = { c0 with fbacked := c'.fbacked } ∧
      ∀ evs2, parseText H c' evs2 = parseText H { c0 with fbacked := c'.fbacked } evs2) := by
  have hs := reject_restores_symbols H c0 c' evs hidle hcoh hrej
  have hf := reject_restores_functions H c0 c' evs hrej
  refine ⟨?_, hs.exec, hs, hf, ?_⟩
  · exact Ctx.idle_iff.mpr ⟨hs.parsing.trans (Ctx.idle_iff.mp hidle).1, hs.backed⟩
  · intro h1 h2 h3
    have whole : ∀ {α} {l l' : List α}, l'.take l.length = l → l'.length = l.length → l' = l :=
      fun h hl => by rwa [← hl, List.take_length] at h
    have heq : c' = { c0 with fbacked := c'.fbacked } := by
      have hbk : c'.backed = c0.backed := hs.backed.trans (Ctx.idle_iff.mp hidle).2.symm
      cases c'
      cases c0
      simp only [Ctx.mk.injEq, and_true]
      exact ⟨whole hs.names h1, whole hs.types h2, whole hs.flags h3, hbk, hs.exec, hs.parsing, hf⟩
    exact ⟨heq, fun evs2 => by rw [← heq]⟩

/-! satisfiable: an upgrade inside a loop body, then an error; nothing new introduced -/

def exUseCtx : Ctx :=
  ⟨["I", "X"], [(⟨2, 0, 0⟩, []), (⟨2, 0, 0⟩, [])], [(false, false), (false, false)], [], 0, false, [], none⟩

example : (parseText (fun _ => 0) exUseCtx [.reg "I" (.plain ⟨2, 0, 0⟩), .enterFor 0, .reg "X" (.plain ⟨4, 0, 0⟩), .fail]).rejected
    = some exUseCtx := by decide +kernel

/-! ## the statement level: the guard of the clause entries is derived, flags at any nesting depth

`nstepE` / `parseTextN` (Model/ParseCtx) run texts given by NAMES, with `FORStatement::parse` / `FORALLStatement::parse`
headers and the two `parse_clause` entries transcribed as written — without the test "control variable / iterator not
locked" that the id-level events `enterFor` / `enterForall` carry. -/

/-- The symbol `registerSymbol` hands to the FOR header is not locked (a locked one is refused with
CONST_VIOLATION, a new one is created unlocked), so the guarded clause entry IS the clause entry as written. -/
theorem for_guard_derived (H : Decl → Nat) (c c1 : Ctx) (n : String) (i : Nat) (hal : c.aligned)
    (hreg : registerSymbol H c n (.plain intTy) = .ok c1) (hi : findName n c1.names = some i) :
    enterFor c1 i = enterForRaw c1 i ∧ ∃ fl, c1.fls[i]? = some fl ∧ fl.locked = false := by
  obtain ⟨j, fl, hj, hfl, hl⟩ := registerSymbol_unlocked hreg hal
  rw [hi] at hj
  cases hj
  exact ⟨enterFor_eq_raw hfl hl, fl, hfl, hl⟩

example : (registerSymbol (fun _ => 0) exUseCtx "I" (.plain intTy)).toOption = some exUseCtx ∧ exUseCtx.aligned ∧
    findName "I" exUseCtx.names = some 0 ∧ (enterForRaw exUseCtx 0).isSome = true := by decide +kernel

/-- Same for the FORALL iterator, whatever the element type and the target. -/
theorem forall_guard_derived (H : Decl → Nat) (c c1 : Ctx) (v : String) (r : RegTy) (t : Option Nat) (i : Nat) (hal : c.aligned)
    (hreg : registerSymbol H c v r = .ok c1) (hi : findName v c1.names = some i) :
    enterForall c1 i t = enterForallRaw c1 i t := by
  obtain ⟨j, fl, hj, hfl, hl⟩ := registerSymbol_unlocked hreg hal
  rw [hi] at hj
  cases hj
  exact enterForall_eq_raw t hfl hl

example : (registerSymbol (fun _ => 5) exSymCtx "E" (.tuple [⟨2, 0, 0⟩] 0)).toOption.map (·.names) = some ["X", "T", "E"] ∧
    exSymCtx.aligned := by decide +kernel

/-- For EVERY text (statement heads by name) and EVERY aligned context, the statement-level
parse — raw clause entries, FORALL "protected symbol" test, names resolved by `findSymbol` — is the id-level parse of the
compiled events: every theorem above holds of it. -/
theorem statement_level_is_id_level (H : Decl → Nat) (c : Ctx) (hal : c.aligned) (evs : List NEv) :
    parseTextN H c evs = parseText H c (compile H (St.init c) evs) := parseTextN_eq hal evs

example : exUseCtx.aligned ∧ (parseTextN (fun _ => 0) exUseCtx [.forLoop "I", .reg "X" (.plain ⟨4, 0, 0⟩), .fail]).ok = false := by decide +kernel

/-- a context for the nested examples: `T`, `U` tables of integers, `E` an integer that existed before -/
def exNestCtx : Ctx :=
  ⟨["T", "U", "E"], [(⟨2, 0, 1⟩, []), (⟨2, 0, 1⟩, []), (⟨2, 0, 0⟩, [])], [(false, false), (false, false), (false, false)],
   [], 0, false, [], none⟩

/-- forall over `T` with the pre-existing iterator `E`, nested forall over the SAME table with a new iterator `F`, nested
forall over ANOTHER table `U` with new `G`, nested FOR `I`, then an error: at the throw `T` is locked, `U` is locked, the
inner iterator `F` is read-only (it inherits the lock `T` has inside the outer loop — this is what seeded/C09-m3 removes),
`G` is not (U was free), all iterators are type-safe; depth 4 -/
def exNestText : Text :=
  [.forallLoop "E" (.plain ⟨2, 0, 0⟩) (some "T"), .forallLoop "F" (.plain ⟨2, 0, 0⟩) (some "T"),
   .forallLoop "G" (.plain ⟨2, 0, 0⟩) (some "U"), .forLoop "I", .reg "E" (.plain ⟨2, 0, 0⟩), .fail]

example : (nrun (fun _ => 0) (St.init exNestCtx) exNestText).2.ctx.names = ["T", "U", "E", "F", "G", "I"] ∧
    (nrun (fun _ => 0) (St.init exNestCtx) exNestText).2.ctx.fls =
      [(false, true), (false, true), (true, false), (true, true), (true, false), (true, false)] ∧
    (nrun (fun _ => 0) (St.init exNestCtx) exNestText).2.ctx.exec = 4 ∧
    (parseTextN (fun _ => 0) exNestCtx exNestText).ctx.fls =
      [(false, false), (false, false), (false, false), (false, false), (false, false), (false, false)] := by decide +kernel

/-- For EVERY text — any nesting depth of FOR / FORALL / other clauses, foralls nested over
the same table or over another one, iterators that existed before or are new, the error in a header (`reg … fail`), in a
body, after any number of completed inner loops — and EVERY idle, coherent, aligned context: on BOTH exits (accept and
reject) the `_safety` / `_locked` flags of every pre-existing symbol and the exec depth are what they were; on a reject the
whole symbol clause of the Spec holds. No guard is assumed (`for_guard_derived`, `forall_guard_derived`). -/
theorem reject_restores_flags_nested (H : Decl → Nat) (c0 : Ctx) (evs : List NEv)
    (hidle : c0.idle = true) (hcoh : c0.coherent H = true) (hal : c0.aligned) :
    (parseTextN H c0 evs).ctx.fls.take c0.fls.length = c0.fls ∧ (parseTextN H c0 evs).ctx.exec = c0.exec ∧
    (∀ c', parseTextN H c0 evs = .reject c' → SymsPreserved c0 c') := by
  rw [parseTextN_eq hal]
  cases h : parseText H c0 (compile H (St.init c0) evs) with
  | accept c' =>
    have := accept_keeps_flags H c0 c' _ hidle hcoh h
    exact ⟨this.1, this.2.1, by intro c'' h'; cases h'⟩
  | reject c' =>
    have hs := reject_restores_symbols H c0 c' _ hidle hcoh h
    exact ⟨hs.flags, hs.exec, by intro c'' h'; cases h'; exact hs⟩

example : exNestCtx.idle = true ∧ exNestCtx.coherent (fun _ => 0) = true ∧ exNestCtx.aligned ∧
    (parseTextN (fun _ => 0) exNestCtx exNestText).ok = false := by decide +kernel

/-- the FORALL header refuses an iterator that an enclosing loop protects (`s && s->safety()`), before registering it -/
example : (nrun (fun _ => 0) (St.init exNestCtx)
      [.forallLoop "E" (.plain ⟨2, 0, 0⟩) (some "T"), .forallLoop "E" (.plain ⟨2, 0, 0⟩) (some "U")]).1 = true ∧
    (nrun (fun _ => 0) (St.init exNestCtx)
      [.forallLoop "E" (.plain ⟨2, 0, 0⟩) (some "T"), .forallLoop "E" (.plain ⟨2, 0, 0⟩) (some "U")]).2.ctx.exec = 1 := by decide +kernel

/-- `FunctorManager::_backed` is cleared only by the next `createOrReplace`; whatever a
previous text left in it, the outcome of the next parse is the same (and `_backed` is the only difference afterwards). -/
theorem parse_independent_of_fbacked (H : Decl → Nat) (c : Ctx) (hal : c.aligned) (g : Option Fn) (evs : List NEv) :
    ∃ g', parseTextN H { c with fbacked := g } evs = (parseTextN H c evs).map fun c1 => { c1 with fbacked := g' } := by
  obtain ⟨g', h, _⟩ := parseTextN_lift (H := H) (wf_none c) (fits_none hal) evs (nev_avoids_none c evs) g
  refine ⟨g', ?_⟩
  rw [lift_none] at h
  rw [h, funext (lift_none c g')]

/-- non-trivially: a stale `_backed` (left by a rolled-back redefinition) and a text that fails in a new function's body -/
example : (parseTextN (fun _ => 0) { wFG with fbacked := some ⟨"F", 1, 200, false⟩ } [.fnBegin "H" 0 150, .fail]).ctx.fns = wFG.fns ∧
    (parseTextN (fun _ => 0) wFG [.fnBegin "H" 0 150, .fail]).ctx.fns = wFG.fns ∧ wFG.aligned := by decide +kernel

/-- after a rejected text the context IS the one before with the left-overs inserted, and the left-overs are such that
the parses that follow commute with their insertion -/
theorem leftOver_lift (H : Decl → Nat) {c0 c' : Ctx} {R : Text} (hidle : c0.idle = true) (hcoh : c0.coherent H = true)
    (hal : c0.aligned) (hrej : parseTextN H c0 R = .reject c') :
    c' = lift (leftOver c0 c') c'.fbacked c0 ∧ (leftOver c0 c').wf ∧ Fits (leftOver c0 c') c0 := by
  have hal' : c'.aligned := by
    have := aligned_parseTextN (H := H) hal R
    rwa [hrej] at this
  refine ⟨?_, ⟨by simp only [leftOver, List.length_drop, hal'.1], by simp only [leftOver, List.length_drop, hal'.2]⟩,
    ⟨Nat.le_refl _, hal, Nat.le_refl _⟩⟩
  rw [parseTextN_eq hal] at hrej
  have hs := reject_restores_symbols H c0 c' _ hidle hcoh hrej
  have hf := reject_restores_functions_partial H c0 c' _ hrej
  cases c'
  simp only [lift, leftOver, (Ctx.idle_iff.mp hidle).2, List.map_nil, Ctx.mk.injEq, and_true]
  exact ⟨ins_leftover hs.names, hal.1 ▸ ins_leftover hs.types, hal.2 ▸ ins_leftover hs.flags, hs.backed,
    hs.exec, hs.parsing, ins_leftover hf⟩

/-- what a rejected `z = …` leaves over: the slot `Z` behind `I` -/
example : (leftOver ⟨["I"], [(⟨2, 0, 0⟩, [])], [(false, false)], [], 0, false, [], none⟩
      (parseTextN (fun _ => 0) ⟨["I"], [(⟨2, 0, 0⟩, [])], [(false, false)], [], 0, false, [], none⟩ [.reg "Z" (.plain ⟨4, 0, 0⟩), .fail]).ctx).names = ["Z"] := by decide +kernel

/-- The simulation `parseTextN c' ≈ parseTextN c0`. For EVERY idle, coherent,
aligned context `c0`, EVERY rejected text `R` (complete redefinitions of pre-existing functions included: they are
reverted) and EVERY later text `T` that does not mention a name or a function that only `R` introduced: the outcome of
`T` in the disturbed context is the outcome of `T` in `c0` — same verdict — with `R`'s left-over slots inserted behind the
old ones (`lift`): nothing else differs, whatever `_backed` held. -/
theorem later_parse_independent_of_rejected (H : Decl → Nat) (c0 c' : Ctx) (R T : Text)
    (hidle : c0.idle = true) (hcoh : c0.coherent H = true) (hal : c0.aligned)
    (hrej : parseTextN H c0 R = .reject c')
    (hT : T.all (NEv.avoids (leftOver c0 c')) = true) :
    ∃ g, parseTextN H c' T = (parseTextN H c0 T).map (lift (leftOver c0 c') g) := by
  obtain ⟨hc', hx, hfit⟩ := leftOver_lift H hidle hcoh hal hrej
  obtain ⟨g, h, _⟩ := parseTextN_lift (H := H) hx hfit T hT c'.fbacked
  rw [← hc'] at h
  exact ⟨g, h⟩

/-- … in the words of the property: same verdict, and the symbol and function tables restricted to what existed before `R`
are the same after `T`, with or without `R`. -/
theorem later_parse_same_verdict_and_tables (H : Decl → Nat) (c0 c' : Ctx) (R T : Text)
    (hidle : c0.idle = true) (hcoh : c0.coherent H = true) (hal : c0.aligned)
    (hrej : parseTextN H c0 R = .reject c')
    (hT : T.all (NEv.avoids (leftOver c0 c')) = true) :
    (parseTextN H c' T).ok = (parseTextN H c0 T).ok ∧
    (parseTextN H c' T).ctx.names.take c0.names.length = (parseTextN H c0 T).ctx.names.take c0.names.length ∧
    (parseTextN H c' T).ctx.tds.take c0.names.length = (parseTextN H c0 T).ctx.tds.take c0.names.length ∧
    (parseTextN H c' T).ctx.fls.take c0.names.length = (parseTextN H c0 T).ctx.fls.take c0.names.length ∧
    (parseTextN H c' T).ctx.fns.take c0.fns.length = (parseTextN H c0 T).ctx.fns.take c0.fns.length ∧
    (parseTextN H c' T).ctx.exec = (parseTextN H c0 T).ctx.exec ∧
    (parseTextN H c' T).ctx.idle = (parseTextN H c0 T).ctx.idle := by
  obtain ⟨hc', hx, hfit⟩ := leftOver_lift H hidle hcoh hal hrej
  obtain ⟨g, h, hf2⟩ := parseTextN_lift (H := H) hx hfit T hT c'.fbacked
  rw [← hc'] at h
  rw [h, Outcome.map_ok, Outcome.map_ctx]
  exact ⟨rfl, lift_prefix hf2 g⟩

/-! satisfiable, non-trivially: `R` registers a new `Z`, upgrades `X` inside a FOR body, starts redefining `F`, fails;
`T` upgrades `X`, loops over a new `J`, declares a new function -/

def exLaterCtx : Ctx :=
  ⟨["I", "X"], [(⟨2, 0, 0⟩, []), (⟨2, 0, 0⟩, [])], [(false, false), (false, false)], [], 0, false,
   [⟨"F", 1, 100, true⟩, ⟨"G", 1, 101, true⟩], none⟩
def exLaterR : Text := [.reg "Z" (.plain ⟨4, 0, 0⟩), .forLoop "I", .reg "X" (.plain ⟨4, 0, 0⟩), .leave, .fnBegin "F" 1 200, .fail]
def exLaterT : Text := [.reg "X" (.plain ⟨3, 0, 0⟩), .forLoop "J", .leave, .fnBegin "K" 0 300, .leave]

example : exLaterCtx.idle = true ∧ exLaterCtx.coherent (fun _ => 0) = true ∧ exLaterCtx.aligned ∧
    redefinitionCompleted (fun _ => 0) exLaterCtx (St.init exLaterCtx) (compile (fun _ => 0) (St.init exLaterCtx) exLaterR) = false ∧
    (parseTextN (fun _ => 0) exLaterCtx exLaterR).ok = false ∧
    (parseTextN (fun _ => 0) exLaterCtx exLaterR).ctx.names = ["I", "X", "Z"] ∧
    exLaterT.all (NEv.avoids (leftOver exLaterCtx (parseTextN (fun _ => 0) exLaterCtx exLaterR).ctx)) = true ∧
    (parseTextN (fun _ => 0) (parseTextN (fun _ => 0) exLaterCtx exLaterR).ctx exLaterT).ctx.names = ["I", "X", "Z", "J"] ∧
    (parseTextN (fun _ => 0) exLaterCtx exLaterT).ctx.names = ["I", "X", "J"] := by decide +kernel

/-- `reject_restores_functions` for a text given by its statement heads (names, raw clause
entries), for EVERY aligned context: a rejected text leaves the function table exactly as it found it. -/
theorem reject_restores_functions_statement_level (H : Decl → Nat) (c0 c' : Ctx) (R : Text) (hal : c0.aligned)
    (hrej : parseTextN H c0 R = .reject c') : c'.fns = c0.fns := by
  rw [parseTextN_eq hal] at hrej
  exact reject_restores_functions H c0 c' _ hrej

/-- a rejected text leaves no function among its left-overs -/
theorem leftOver_no_function (H : Decl → Nat) (c0 c' : Ctx) (R : Text) (hal : c0.aligned)
    (hrej : parseTextN H c0 R = .reject c') : (leftOver c0 c').fns = [] := by
  simp only [leftOver, reject_restores_functions_statement_level H c0 c' R hal hrej, List.drop_length]

/-- After a rejected text `R` (ANY: new declarations, complete redefinitions, failed
ones) a later text `T` that avoids the names `R` left behind ends with the SAME function table — all of it, not only the
pre-existing prefix — as without `R`. -/
theorem later_parse_same_function_table (H : Decl → Nat) (c0 c' : Ctx) (R T : Text)
    (hidle : c0.idle = true) (hcoh : c0.coherent H = true) (hal : c0.aligned)
    (hrej : parseTextN H c0 R = .reject c')
    (hT : T.all (NEv.avoids (leftOver c0 c')) = true) :
    (parseTextN H c' T).ok = (parseTextN H c0 T).ok ∧ (parseTextN H c' T).ctx.fns = (parseTextN H c0 T).ctx.fns := by
  obtain ⟨g, h⟩ := later_parse_independent_of_rejected H c0 c' R T hidle hcoh hal hrej hT
  have hnf := leftOver_no_function H c0 c' R hal hrej
  rw [h, Outcome.map_ok, Outcome.map_ctx]
  exact ⟨rfl, by simp only [lift, hnf, ins_nil]⟩

/-! satisfiable, non-trivially: `R` redefines `F` COMPLETELY, declares a new `K`, then fails; `T` declares its own `K` and
redefines `G`: with and without `R` the table after `T` is `F`(old), `G`(new), `K`(T's) -/

def exRedefR : Text := [.fnBegin "F" 1 200, .leave, .fnBegin "K" 0 201, .leave, .reg "Z" (.plain ⟨4, 0, 0⟩), .fail]
def exRedefT : Text := [.fnBegin "K" 0 300, .leave, .fnBegin "G" 1 301, .leave]

example : (parseTextN (fun _ => 0) exLaterCtx exRedefR).ok = false ∧
    (parseTextN (fun _ => 0) exLaterCtx exRedefR).ctx.fns = exLaterCtx.fns ∧
    exRedefT.all (NEv.avoids (leftOver exLaterCtx (parseTextN (fun _ => 0) exLaterCtx exRedefR).ctx)) = true ∧
    (parseTextN (fun _ => 0) (parseTextN (fun _ => 0) exLaterCtx exRedefR).ctx exRedefT).ctx.fns =
      [⟨"F", 1, 100, true⟩, ⟨"G", 1, 301, true⟩, ⟨"K", 0, 300, true⟩] ∧
    (parseTextN (fun _ => 0) exLaterCtx exRedefT).ctx.fns =
      [⟨"F", 1, 100, true⟩, ⟨"G", 1, 301, true⟩, ⟨"K", 0, 300, true⟩] := by decide +kernel

/-- The hypothesis "T does not mention what only R introduced" is needed — this is the property's "(Names that only the
rejected text introduced are outside the guarantee.)": `$z = 1; y = ;` is rejected and leaves the type-safe `$Z` integer;
`$z = "a";`, valid before, is then refused with TYPE_MISMATCH. -/
theorem later_parse_depends_on_leftover_names :
    let c0 : Ctx := ⟨[], [], [], [], 0, false, [], none⟩
    let R : Text := [.reg "$Z" (.plain ⟨2, 0, 0⟩), .fail]
    let T : Text := [.reg "$Z" (.plain ⟨4, 0, 0⟩)]
    (parseTextN (fun _ => 0) c0 R).ok = false ∧ (parseTextN (fun _ => 0) c0 T).ok = true ∧
    (parseTextN (fun _ => 0) (parseTextN (fun _ => 0) c0 R).ctx T).ok = false := by decide +kernel

/-- For EVERY sequence of later texts (each accepted or rejected, each leaving its own
names behind) that do not mention the left-overs `x`: the verdicts are the same with and without the left-overs, and the
final context is the undisturbed final context with the left-overs inserted. -/
theorem history_independent_of_leftovers (H : Decl → Nat) (x : Extra) (hx : x.wf) (ts : List Text) (c : Ctx) (hf : Fits x c)
    (g : Option Fn) (hts : ts.all (fun t => t.all (NEv.avoids x)) = true) :
    (runHistory H (lift x g c) ts).1 = (runHistory H c ts).1 ∧
    ∃ g', (runHistory H (lift x g c) ts).2 = lift x g' (runHistory H c ts).2 := by
  induction ts generalizing c g with
  | nil => exact ⟨rfl, g, rfl⟩
  | cons t ts ih =>
    simp only [List.all_cons, Bool.and_eq_true] at hts
    obtain ⟨g1, h1, hf1⟩ := parseTextN_lift (H := H) hx hf t hts.1 g
    simp only [runHistory]
    rw [h1, Outcome.map_ctx, Outcome.map_ok]
    obtain ⟨ihv, g2, ihc⟩ := ih _ hf1 g1 hts.2
    exact ⟨by rw [ihv], g2, ihc⟩

example : (leftOver exLaterCtx (parseTextN (fun _ => 0) exLaterCtx exLaterR).ctx).names = ["Z"] ∧
    (leftOver exLaterCtx (parseTextN (fun _ => 0) exLaterCtx exLaterR).ctx).tds.length = 1 ∧
    (leftOver exLaterCtx (parseTextN (fun _ => 0) exLaterCtx exLaterR).ctx).n0 ≤ exLaterCtx.names.length := by decide +kernel

/-- For EVERY history `R :: post` submitted to an idle, coherent, aligned context, `R` rejected,
`post` ANY sequence of texts — valid ones, rejected ones, declarations, calls — that do not
mention what only `R` introduced: every text of `post` gets the verdict it gets without `R`, and the final context is the
final context without `R` plus `R`'s left-over slots. -/
theorem history_without_rejected (H : Decl → Nat) (c0 c' : Ctx) (R : Text) (post : List Text)
    (hidle : c0.idle = true) (hcoh : c0.coherent H = true) (hal : c0.aligned)
    (hrej : parseTextN H c0 R = .reject c')
    (hpost : post.all (fun t => t.all (NEv.avoids (leftOver c0 c'))) = true) :
    (runHistory H c0 (R :: post)).1 = false :: (runHistory H c0 post).1 ∧
    ∃ g, (runHistory H c0 (R :: post)).2 = lift (leftOver c0 c') g (runHistory H c0 post).2 := by
  obtain ⟨hc', hx, hfit⟩ := leftOver_lift H hidle hcoh hal hrej
  obtain ⟨hv, g, hc⟩ := history_independent_of_leftovers H _ hx post c0 hfit c'.fbacked hpost
  rw [← hc'] at hv hc
  simp only [runHistory, hrej, Outcome.ok, Outcome.ctx]
  exact ⟨by rw [hv], g, hc⟩

example : (runHistory (fun _ => 0) exLaterCtx [exLaterR, exLaterT, exLaterR, exLaterT]).1 = [false, true, false, true] ∧
    (runHistory (fun _ => 0) exLaterCtx [exLaterT, exLaterR, exLaterT]).1 = [true, false, true] := by decide +kernel

/-- an idle, coherent, aligned context stays so through any text: the hypotheses of the theorems above hold at every point
of every history -/
theorem history_keeps_invariants (H : Decl → Nat) (c : Ctx) (t : Text)
    (hidle : c.idle = true) (hcoh : c.coherent H = true) (hal : c.aligned) :
    (parseTextN H c t).ctx.idle = true ∧ (parseTextN H c t).ctx.coherent H = true ∧ (parseTextN H c t).ctx.aligned := by
  refine ⟨finish_idle H _, ?_, aligned_parseTextN hal t⟩
  rw [parseTextN_eq hal]
  exact coherent_parseText hidle hcoh _

example : exLaterCtx.idle = true ∧ (parseTextN (fun _ => 0) exLaterCtx exLaterR).ctx.idle = true := by decide +kernel

/-- For EVERY session (parse-time tables idle, coherent, aligned; ANY variables, output,
declarations), EVERY rejected text `R` and EVERY later text `T` (context effects `T.eff`,
program `T.prog`) that does not mention what only `R` introduced: submitting `T` after `R` gives the same verdict and,
when accepted, the SAME `Interp` run (outcome, returned value, every variable, the whole output) as submitting `T`
without `R`; the declarations are the same and the parse-time tables differ by `R`'s left-over slots only. -/
theorem reject_then_run_eq_run (H : Decl → Nat) (fuel : Nat) (s : Session.Sess) (R T : Session.Sub) (c' : Ctx)
    (hidle : s.pc.idle = true) (hcoh : s.pc.coherent H = true) (hal : s.pc.aligned)
    (hrej : parseTextN H s.pc R.eff = .reject c')
    (hT : T.eff.all (NEv.avoids (leftOver s.pc c')) = true) :
    (Session.submit H fuel s R).2 = none ∧
    (Session.submit H fuel s R).1.rt = s.rt ∧ (Session.submit H fuel s R).1.decls = s.decls ∧
    (Session.submit H fuel (Session.submit H fuel s R).1 T).2 = (Session.submit H fuel s T).2 ∧
    (Session.submit H fuel (Session.submit H fuel s R).1 T).1.rt = (Session.submit H fuel s T).1.rt ∧
    (Session.submit H fuel (Session.submit H fuel s R).1 T).1.decls = (Session.submit H fuel s T).1.decls ∧
    ∃ g, (Session.submit H fuel (Session.submit H fuel s R).1 T).1.pc
      = lift (leftOver s.pc c') g (Session.submit H fuel s T).1.pc := by
  obtain ⟨hc', hx, hfit⟩ := leftOver_lift H hidle hcoh hal hrej
  obtain ⟨g, h, _⟩ := submit_lift H fuel hx s hfit c'.fbacked T hT
  rw [← hc'] at h
  rw [submit_reject H fuel hrej, h]
  exact ⟨rfl, rfl, rfl, rfl, rfl, rfl, g, rfl⟩

/-! satisfiable, non-trivially: the session of `exLaterCtx` with a variable holding 5; `R` = `exLaterR`; `T` assigns and prints -/

def exSess : Session.Sess := ⟨exLaterCtx, ({ vars := [("X", .int 5)] } : BlocV.St), []⟩
def exSubR : Session.Sub := ⟨exLaterR, []⟩
def exSubT : Session.Sub := ⟨[.reg "X" (.plain ⟨2, 0, 0⟩)], [.letS "X" (.bin .add (.var "X") (.lit (.int 1))), .printS [.var "X"]]⟩

example : (Session.submit (fun _ => 0) 1000 exSess exSubR).2.isNone = true ∧
    ((Session.submit (fun _ => 0) 1000 (Session.submit (fun _ => 0) 1000 exSess exSubR).1 exSubT).2.map (·.st.output))
      = ((Session.submit (fun _ => 0) 1000 exSess exSubT).2.map (·.st.output)) := by
  constructor
  · decide +kernel
  · rfl

/-- In a session, a rejected text changes neither the function table of the
context, nor the declarations behind it, nor any value or output: accepted texts keep their declarations, rejected ones
leave none. -/
theorem session_reject_leaves_no_declaration (H : Decl → Nat) (fuel : Nat) (s : Session.Sess) (R : Session.Sub) (c' : Ctx)
    (hal : s.pc.aligned) (hrej : parseTextN H s.pc R.eff = .reject c') :
    (Session.submit H fuel s R).2 = none ∧ (Session.submit H fuel s R).1.pc.fns = s.pc.fns ∧
    (Session.submit H fuel s R).1.decls = s.decls ∧ (Session.submit H fuel s R).1.rt = s.rt := by
  have hs1 := submit_reject H fuel hrej
  rw [hs1]
  exact ⟨rfl, reject_restores_functions_statement_level H s.pc c' R.eff hal hrej, rfl, rfl⟩

/-- … and an accepted one keeps them: table and declarations grow together -/
example : (Session.submit (fun _ => 0) 1000 exSess ⟨exRedefR, []⟩).1.pc.fns = exLaterCtx.fns ∧
    (Session.submit (fun _ => 0) 1000 exSess ⟨exRedefT, []⟩).1.pc.fns =
      [⟨"F", 1, 100, true⟩, ⟨"G", 1, 301, true⟩, ⟨"K", 0, 300, true⟩] := by
  constructor
  · decide +kernel
  · decide +kernel

/-- the hypotheses of the theorems hold after ANY history -/
theorem runHistory_invariants (H : Decl → Nat) (c : Ctx) (ts : List Text)
    (hidle : c.idle = true) (hcoh : c.coherent H = true) (hal : c.aligned) :
    (runHistory H c ts).2.idle = true ∧ (runHistory H c ts).2.coherent H = true ∧ (runHistory H c ts).2.aligned := by
  induction ts generalizing c with
  | nil => exact ⟨hidle, hcoh, hal⟩
  | cons t ts ih =>
    obtain ⟨h1, h2, h3⟩ := history_keeps_invariants H c t hidle hcoh hal
    simp only [runHistory]
    exact ih _ h1 h2 h3

example : exLaterCtx.idle = true ∧ exLaterCtx.coherent (fun _ => 0) = true ∧ exLaterCtx.aligned ∧
    (runHistory (fun _ => 0) exLaterCtx [exLaterR, exLaterT]).2.idle = true := by decide +kernel

/-- For EVERY history `pre ++ R :: post` submitted to an idle, coherent, aligned
context — `pre` ANY texts (accepted, rejected, declarations, redefinitions), `R` rejected in the context `pre` leads to,
`post` ANY texts not mentioning what only `R` introduced —: every other text gets the
verdict it gets in the history without `R`, and the final context is the one without `R` plus `R`'s left-over slots. -/
theorem history_without_rejected_anywhere (H : Decl → Nat) (c c' : Ctx) (pre post : List Text) (R : Text)
    (hidle : c.idle = true) (hcoh : c.coherent H = true) (hal : c.aligned)
    (hrej : parseTextN H (runHistory H c pre).2 R = .reject c')
    (hpost : post.all (fun t => t.all (NEv.avoids (leftOver (runHistory H c pre).2 c'))) = true) :
    (runHistory H c (pre ++ R :: post)).1 = (runHistory H c pre).1 ++ false :: (runHistory H (runHistory H c pre).2 post).1 ∧
    (runHistory H c (pre ++ post)).1 = (runHistory H c pre).1 ++ (runHistory H (runHistory H c pre).2 post).1 ∧
    ∃ g, (runHistory H c (pre ++ R :: post)).2 = lift (leftOver (runHistory H c pre).2 c') g (runHistory H c (pre ++ post)).2 := by
  obtain ⟨i1, i2, i3⟩ := runHistory_invariants H c pre hidle hcoh hal
  obtain ⟨hv, g, hc⟩ := history_without_rejected H (runHistory H c pre).2 c' R post i1 i2 i3 hrej hpost
  rw [runHistory_append, runHistory_append]
  exact ⟨congrArg _ hv, rfl, g, hc⟩

example : (runHistory (fun _ => 0) exLaterCtx ([exLaterT] ++ exLaterR :: [exLaterT])).1 = [true, false, true] ∧
    (runHistory (fun _ => 0) exLaterCtx ([exLaterT] ++ [exLaterT])).1 = [true, true] := by decide +kernel

/-- For EVERY session and EVERY history `R :: post` of submitted texts, `R` rejected,
`post` ANY texts that do not mention what only `R` introduced: every text of `post` has the
verdict and — when accepted — exactly the `Interp` run (outcome, returned value, variables, output so far) it has in the
history without `R`; the final variables, output and declarations are the same; the parse-time tables differ by `R`'s
left-over slots. -/
theorem session_history_without_rejected (H : Decl → Nat) (fuel : Nat) (s : Session.Sess) (R : Session.Sub)
    (post : List Session.Sub) (c' : Ctx)
    (hidle : s.pc.idle = true) (hcoh : s.pc.coherent H = true) (hal : s.pc.aligned)
    (hrej : parseTextN H s.pc R.eff = .reject c')
    (hpost : post.all (fun t => t.eff.all (NEv.avoids (leftOver s.pc c'))) = true) :
    (Session.submitAll H fuel s (R :: post)).1 = none :: (Session.submitAll H fuel s post).1 ∧
    (Session.submitAll H fuel s (R :: post)).2.rt = (Session.submitAll H fuel s post).2.rt ∧
    (Session.submitAll H fuel s (R :: post)).2.decls = (Session.submitAll H fuel s post).2.decls ∧
    ∃ g, (Session.submitAll H fuel s (R :: post)).2.pc = lift (leftOver s.pc c') g (Session.submitAll H fuel s post).2.pc := by
  obtain ⟨hc', hx, hfit⟩ := leftOver_lift H hidle hcoh hal hrej
  obtain ⟨hv, g, hc⟩ := submitAll_lift H fuel hx post s hfit c'.fbacked hpost
  rw [← hc'] at hv hc
  have hsub := submit_reject H fuel hrej
  simp only [Session.submitAll, hsub]
  rw [hv, hc]
  exact ⟨rfl, rfl, rfl, g, rfl⟩

example : ((Session.submitAll (fun _ => 0) 1000 exSess [exSubR, exSubT, exSubR, exSubT]).1.map (·.isSome)) = [false, true, false, true] := by
  decide +kernel

/-! ## seeded/C09-m3 seen by the flag model

The mutation `vt.locked(locked_ex_bak)` → `vt.locked(locked_vt_bak)` at the clause ENTRY gives the iterator its own saved
lock instead of the target's. Restoration is untouched (both catch block and normal exit still write the saved values), so
the C11 Spec cannot see it; the flags DURING the body differ exactly when the target is already locked — a forall nested in
a forall over the same table — and that is what the trace correspondence compares at every reader call. -/

/-- the mutated entry, as a definition -/
def enterForallRawM3 (c : Ctx) (v : Nat) (tgt : Option Nat) : Option (Ctx × Frame) :=
  match c.fls[v]? with
  | some fv =>
    let fls1 := modAt (setSafe true) v c.fls
    match tgt with
    | none => some ({ c with exec := c.exec + 1, fls := fls1 }, .forallC v fv.safety fv.locked none)
    | some t =>
      match fls1[t]? with
      | some ft =>
        let fls2 := modAt (setLock true) t fls1
        let fls3 := modAt (setLock fv.locked) v fls2
        some ({ c with exec := c.exec + 1, fls := fls3 }, .forallC v fv.safety fv.locked (some (t, ft.locked)))
      | none => none
  | none => none

/-- `forall e in t loop forall f in t loop …`: (T, E, F) — inside the inner body the real entry leaves `F` read-only, the
mutated one does not; unwinding both frames gives the original flags in both cases -/
example :
    let c : Ctx := ⟨["T", "E", "F"], [(⟨2, 0, 1⟩, []), (⟨2, 0, 0⟩, []), (⟨2, 0, 0⟩, [])], [(false, false), (false, false), (false, false)],
      [], 0, true, [], none⟩
    ((enterForallRaw c 1 (some 0)).bind fun p => (enterForallRaw p.1 2 (some 0)).map fun q => q.1.fls)
      = some [(false, true), (true, false), (true, true)] ∧
    ((enterForallRawM3 c 1 (some 0)).bind fun p => (enterForallRawM3 p.1 2 (some 0)).map fun q => q.1.fls)
      = some [(false, true), (true, false), (true, false)] ∧
    ((enterForallRawM3 c 1 (some 0)).bind fun p => (enterForallRawM3 p.1 2 (some 0)).map fun q =>
      (p.2.exitCatch (q.2.exitCatch q.1)).fls) = some c.fls ∧
    ((enterForallRaw c 1 (some 0)).bind fun p => (enterForallRaw p.1 2 (some 0)).map fun q =>
      (p.2.exitCatch (q.2.exitCatch q.1)).fls) = some c.fls := by decide +kernel

end BlocV.ParseCtx
