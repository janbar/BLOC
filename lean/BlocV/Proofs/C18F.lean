/-
  C18, file and sqlite3 halves — property theorems about Model/Mod/File.lean and Model/Mod/Sqlite.lean (the csv and utf8
  halves are Proofs/C18.lean). What the models leave out is said at the head of the two model files; the findings the
  docstrings name (`C18.…`) are entries of known_findings.json.
-/
import BlocV.Proofs.Lemmas.FileDir
import BlocV.Proofs.Lemmas.SqliteSeq

namespace BlocV.Proofs.C18F
open BlocV.Mod BlocV.Mod.File
open BlocV.Spec.File (readAt)

def modeW : Bytes := [chW]
def modeR : Bytes := [chR]

/-- the handle right after `open(p, "w")` / while writing: write-only stream on `cstr p` at the end of content `C` -/
def WState (w : World) (p : Path) (C : Bytes) : Prop :=
  ∃ l, w.h.file = some { path := cstr p, pos := C.length, rd := false, wr := true, app := false, last := l }
    ∧ w.h.w = true ∧ w.fs.get (cstr p) = some C

/-- the handle after `open(p, "r")`: read-only stream on `cstr p` at offset `k` of content `D` -/
def RState (w : World) (p : Path) (D : Bytes) (k : Nat) : Prop :=
  ∃ l, w.h.file = some { path := cstr p, pos := k, rd := true, wr := false, app := false, last := l }
    ∧ w.h.r = true ∧ w.fs.get (cstr p) = some D

theorem step_open_w (w : World) (p : Path) :
    (step w (.open (some p) (some modeW))).2 = .int 0 ∧ WState (step w (.open (some p) (some modeW))).1 p [] := by
  have hc : hasComma modeW = false := by decide
  have hm : parseMode modeW = some ⟨false, true, false, true, true, false⟩ := by decide
  have hw : (modeW.contains chW || modeW.contains chPlus || modeW.contains chA) = true := by decide
  simp only [step, hc, openH, hm, hw]
  cases w.fs.get (cstr p) <;> simp [Spec.File.sopen, WState, FS.put]

theorem step_open_r (w : World) (p : Path) (D : Bytes) (hg : w.fs.get (cstr p) = some D) :
    (step w (.open (some p) (some modeR))).2 = .int 0 ∧ RState (step w (.open (some p) (some modeR))).1 p D 0 := by
  have hc : hasComma modeR = false := by decide
  have hm : parseMode modeR = some ⟨true, false, false, false, false, false⟩ := by decide
  have hr : (modeR.contains chR || modeR.contains chPlus) = true := by decide
  simp only [step, hc, openH, hm, hr]
  simp [Spec.File.sopen, hg, RState, FS.put]

theorem step_write (w : World) (p : Path) (C d : Bytes) (hs : WState w p C) (hd : d.length < 4294967296) :
    (step w (.writeS (some d))).2 = .int d.length ∧ WState (step w (.writeS (some d))).1 p (C ++ d) := by
  obtain ⟨l, hf, hw, hg⟩ := hs
  rw [step_write_eq hf, if_pos hw, if_neg (by simp [badOutput]), writeH_eq w _ d hd]
  by_cases hd0 : d = []
  · subst hd0
    simpa [WState, hw, hg] using ⟨l, hf⟩
  · rw [if_pos ⟨rfl, hd0⟩]
    simp [WState, wrote, absF, Spec.File.swrite, hd0, hg, hw, FS.put, File.writeAt_end]

theorem step_close (w : World) : (step w .close).2 = .bool true ∧ (step w .close).1.fs = w.fs ∧ (step w .close).1.h = {} := by
  simp [step, Handle.close]

theorem step_read (w : World) (p : Path) (D : Bytes) (k : Nat) (n : Int64) (hs : RState w p D k)
    (hn : 0 < n.toInt) :
    (step w (.readB (some n))).2 = .rd (readAt D k n.toInt.toNat).length (readAt D k n.toInt.toNat)
    ∧ RState (step w (.readB (some n))).1 p D (k + (readAt D k n.toInt.toNat).length)
    ∧ (step w (.readB (some n))).1.fs = w.fs := by
  obtain ⟨l, hf, hr, hg⟩ := hs
  rw [step_readB, step_read_eq hf, if_pos hr, if_neg (by simp [badInput]), readH_eq, if_pos hn]
  simp [readD, hn, hg, moved, RState, hr]

/-- the answers of consecutive reads with counts `ns` over what is left (`D`) of the file -/
def slices : Bytes → List Int64 → List Res
  | _, [] => []
  | D, n :: ns => .rd (D.take n.toInt.toNat).length (D.take n.toInt.toNat) :: slices (D.drop n.toInt.toNat) ns

def writeOps (ds : List Bytes) : List Op := ds.map fun d => .writeS (some d)
def readOps (ns : List Int64) : List Op := ns.map fun n => .readB (some n)

theorem run_writes (p : Path) : ∀ (ds : List Bytes) (w : World) (C : Bytes), WState w p C →
    (∀ d ∈ ds, d.length < 4294967296) →
    (run w (writeOps ds)).2 = ds.map (fun d => .int d.length) ∧ WState (run w (writeOps ds)).1 p (C ++ ds.flatten) := by
  intro ds
  induction ds with
  | nil => intro w C hs _; simpa [writeOps, run] using hs
  | cons d ds ih =>
    intro w C hs hl
    obtain ⟨hd, hl⟩ := List.forall_mem_cons.1 hl
    have h1 := step_write w p C d hs hd
    have h2 := ih (step w (.writeS (some d))).1 (C ++ d) h1.2 hl
    simp only [writeOps, List.map_cons, run_cons] at h2 ⊢
    refine ⟨by rw [h1.1, h2.1], ?_⟩
    simpa [List.append_assoc] using h2.2

theorem run_reads (p : Path) (D : Bytes) : ∀ (ns : List Int64) (w : World) (k : Nat), RState w p D k →
    (∀ n ∈ ns, 0 < n.toInt) →
    (run w (readOps ns)).2 = slices (D.drop k) ns ∧ (run w (readOps ns)).1.fs = w.fs := by
  intro ns
  induction ns with
  | nil => intro w k _ _; simp [readOps, run, slices]
  | cons n ns ih =>
    intro w k hs hn
    obtain ⟨hn1, hn⟩ := List.forall_mem_cons.1 hn
    have h1 := step_read w p D k n hs hn1
    have h2 := ih (step w (.readB (some n))).1 _ h1.2.1 hn
    simp only [readOps, List.map_cons, run_cons] at h2 ⊢
    refine ⟨?_, by rw [h2.2, h1.2.2]⟩
    rw [h1.1, h2.1]
    simp only [slices, readAt]
    -- dropping what the read delivered is dropping what it asked for: a read that falls short leaves nothing
    rw [← List.drop_drop, List.length_take, ← List.drop_eq_drop_min]

/-- For ALL byte lists, all chunkings `ds` of the writes and all positive read counts
    `ns` (ANY value up to INT64_MAX: below, equal to or above 4096, multiple of it or not — the request is no allocation):
    `open(p,"w")`, the writes, `close`, `open(p,"r")`, the reads answer exactly: 0, the chunk lengths, TRUE, 0, and the
    consecutive slices `take n` of the concatenated data — every `read(n)` returns `min(n, remaining)` bytes —
    and an independent reader finds exactly the concatenated data in the file afterwards. -/
theorem file_write_read_roundtrip (w : World) (p : Path) (ds : List Bytes) (ns : List Int64)
    (hl : ∀ d ∈ ds, d.length < 4294967296) (hn : ∀ n ∈ ns, 0 < n.toInt) :
    let ops := [Op.open (some p) (some modeW)] ++ writeOps ds ++ [.close, .open (some p) (some modeR)] ++ readOps ns
    (run w ops).2 = [.int 0] ++ ds.map (fun d => .int d.length) ++ [.bool true, .int 0] ++ slices ds.flatten ns
    ∧ (run w ops).1.content p = some ds.flatten := by
  intro ops
  have ho := step_open_w w p
  have hw := run_writes p ds _ [] ho.2 hl
  obtain ⟨_, _, _, hg⟩ := hw.2
  have hc := step_close (run (step w (.open (some p) (some modeW))).1 (writeOps ds)).1
  have hr := step_open_r (step _ .close).1 p _ (hc.2.1.symm ▸ hg)
  have hrd := run_reads p ([] ++ ds.flatten) ns _ 0 hr.2 hn
  obtain ⟨_, _, _, hg2⟩ := hr.2
  simp only [ops, List.append_assoc, List.cons_append, List.nil_append, run_cons, run_append]
  refine ⟨?_, ?_⟩
  · rw [ho.1, hw.1, hc.1, hr.1, hrd.1]
    simp
  · simp only [World.content]
    rw [hrd.2, hg2]
    simp

/-- what a client has read -/
def dataOf : Res → Bytes
  | .rd _ d => d
  | _ => []

theorem slices_concat : ∀ (ns : List Int64) (D : Bytes),
    ((slices D ns).map dataOf).flatten = D.take (ns.map (·.toInt.toNat)).sum := by
  intro ns
  induction ns with
  | nil => intro D; simp [slices]
  | cons n ns ih =>
    intro D
    simp only [slices, List.map_cons, List.flatten_cons, dataOf, List.sum_cons, ih]
    rw [List.take_add]

/-- … in particular: whatever the chunking of the writes and whatever the chunking of the reads
    (any positive counts), the concatenation of everything read is a prefix of the concatenation of everything written, and
    it is ALL of it as soon as the counts add up to the size. -/
theorem file_write_read_concat (w : World) (p : Path) (ds : List Bytes) (ns : List Int64)
    (hl : ∀ d ∈ ds, d.length < 4294967296) (hn : ∀ n ∈ ns, 0 < n.toInt) (hsum : ds.flatten.length ≤ (ns.map (·.toInt.toNat)).sum) :
    let ops := [Op.open (some p) (some modeW)] ++ writeOps ds ++ [.close, .open (some p) (some modeR)] ++ readOps ns
    (((run w ops).2.drop (ds.length + 3)).map dataOf).flatten = ds.flatten := by
  intro ops
  have h := (file_write_read_roundtrip w p ds ns hl hn).1
  simp only [ops] at h ⊢
  rw [h, List.drop_left' (by simp), slices_concat, List.take_of_length_le hsum]

example : (∀ d ∈ [[(97 : UInt8), 0], [98]], d.length < 4294967296) ∧ (∀ n ∈ [(2 : Int64), 9223372036854775807], 0 < n.toInt)
    ∧ [[(97 : UInt8), 0], [98]].flatten.length ≤ ([(2 : Int64), 9223372036854775807].map (·.toInt.toNat)).sum := by decide

/-- Non-vacuity of the round trip: the hypotheses hold in a concrete world for 3 bytes incl. NUL written as
    "a\\0" + "b" and read back with counts 2 and INT64_MAX (the second read gets the 1 byte that is left). -/
def w0 : World := { fs := { get := fun _ => none, maxOff := 1000 }, h := {} }

example :
    (run w0 ([Op.open (some [120]) (some modeW)] ++ writeOps [[97, 0], [98]] ++ [.close, .open (some [120]) (some modeR)]
        ++ readOps [2, 9223372036854775807])).2
      = [.int 0, .int 2, .int 1, .bool true, .int 0] ++ slices [97, 0, 98] [2, 9223372036854775807]
    ∧ slices [97, 0, 98] [2, 9223372036854775807] = [.rd 2 [97, 0], .rd 1 [98]] :=
  ⟨(file_write_read_roundtrip w0 [120] [[97, 0], [98]] [2, 9223372036854775807] (by decide) (by decide)).1, by decide⟩

/-- On a readable stream, `read(var, n)` with `0 < n` returns exactly `min(n, remaining)` bytes — the
    next ones — and advances the position by that number: for n ≤ 4096, n > 4096, multiples of 4096 or not. -/
theorem file_read_count (w : World) (p : Path) (D : Bytes) (k : Nat) (n : Int64) (hs : RState w p D k)
    (hn : 0 < n.toInt) :
    ∃ data, (step w (.readB (some n))).2 = .rd data.length data ∧ data = (D.drop k).take n.toInt.toNat
      ∧ data.length = min n.toInt.toNat (D.length - k)
      ∧ RState (step w (.readB (some n))).1 p D (k + data.length) := by
  have h := step_read w p D k n hs hn
  refine ⟨readAt D k n.toInt.toNat, h.1, rfl, ?_, h.2.1⟩
  simp [readAt, List.length_take]

/-- `fwrite` on a writable stream = `Spec.swrite` (pwrite at the offset, or at the end
    with O_APPEND; zero-filled gap after a seek beyond the end), for every content, position and data. -/
theorem file_refines_spec_write (w : World) (f : OFile) (d : Bytes) (hf : w.h.file = some f) (hw : f.wr = true)
    (hd : d.length < 4294967296) :
    (writeH w f d).2 = d.length ∧
    ∃ f', (writeH w f d).1.h.file = some f' ∧ f'.path = f.path ∧ absF (writeH w f d).1 f' = Spec.File.swrite (absF w f) d := by
  rw [writeH_eq w f d hd]
  by_cases hd0 : d = []
  · subst hd0
    exact ⟨by simp, f, by simpa using hf, rfl, by simp [Spec.File.swrite]⟩
  · rw [if_pos ⟨hw, hd0⟩]
    exact ⟨rfl, _, rfl, rfl, absF_wrote w f d⟩

/-- The chunk loop on a readable stream = `Spec.sread`. -/
theorem file_refines_spec_read (w : World) (f : OFile) (n : Int64) (str : Bool) (hr : f.rd = true) (hn : 0 < n.toInt) :
    ∃ f', (readH w f str n).1.h.file = some f' ∧ f'.path = f.path
      ∧ (readH w f str n).2 = .rd (Spec.File.sread (absF w f) n.toInt.toNat).1.length (Spec.File.sread (absF w f) n.toInt.toNat).1
      ∧ absF (readH w f str n).1 f' = (Spec.File.sread (absF w f) n.toInt.toNat).2 := by
  rw [readH_eq, if_pos hn]
  exact ⟨_, rfl, rfl, by simp [readD, hn, hr, Spec.File.sread, absF], by simp [readD, hn, hr, Spec.File.sread, absF, moved]⟩

/-- `seekset/seekcur/seekend` = `Spec.sseek`: errno 22 and no movement exactly when the
    target is negative or beyond what the file system accepts. -/
theorem file_refines_spec_seek (w : World) (f : OFile) (wh : Spec.File.Whence) (off : Int64) :
    match Spec.File.sseek w.fs.maxOff (absF w f) wh off.toInt with
    | none => seekH w f wh off = (w, .int 22)
    | some s => (seekH w f wh off).2 = .int 0 ∧ (seekH w f wh off).1.h.file = some { f with pos := s.pos, last := .none }
                ∧ (seekH w f wh off).1.fs = w.fs := by
  unfold seekH absF
  cases h : Spec.File.sseek w.fs.maxOff ⟨(w.fs.get f.path).getD [], f.pos, f.app⟩ wh off.toInt <;> simp [EINVAL, h]

section Seq
open BlocV.Spec.File (srun)

/-- For EVERY open handle (any mode, any content, any position) and EVERY list of stream calls —
    `read` (string or bytes variant, any count: negative, zero, below / equal to / above the 4096-byte buffer), `readln`,
    `write` (string or bytes), `seekset` / `seekcur` / `seekend` (any offset), `position`, `flush`, mixed in any order —
    the answers of the module are the answers of the POSIX-level specification run on the abstraction of the handle
    (`srun`), call by call, and the handle ends as the abstraction of the specification's final state: same content of
    the file, same offset. Side condition: no call of the run answers `undefinedSeq`, i.e. the history stays outside
    the recorded region `C18.file_update_without_reposition` (C11 7.21.5.3 p7). -/
theorem file_refines_spec : ∀ (ops : List Op) (w : World) (f : OFile), w.h.file = some f →
    (∀ op ∈ ops, StreamOp op) → (∀ r ∈ (run w ops).2, r ≠ .undefinedSeq) →
    (run w ops).2 = (srun w.fs.maxOff (absS w f) (ops.map toS)).2.map resOf
    ∧ ∃ f', (run w ops).1.h.file = some f' ∧ absS (run w ops).1 f' = (srun w.fs.maxOff (absS w f) (ops.map toS)).1 := by
  intro ops
  induction ops with
  | nil => intro w f hf _ _; exact ⟨by simp [run, srun], f, by simpa [run] using hf, by simp [run, srun]⟩
  | cons op ops ih =>
    intro w f hf hops hu
    rw [run_cons] at hu ⊢
    obtain ⟨hop, hops⟩ := List.forall_mem_cons.1 hops
    obtain ⟨hu1, hu⟩ := List.forall_mem_cons.1 hu
    obtain ⟨f1, h1, h2, _, h3, h4⟩ := (step_refines hf hop).resolve_right fun h => hu1 h.1
    have := ih (step w op).1 f1 h1 hops hu
    rw [h2, h3] at this
    obtain ⟨ha, f', hb, hc⟩ := this
    simp only [List.map_cons, srun]
    exact ⟨by rw [ha, h4], f', hb, hc⟩

/-- On a handle opened without `+` (read-only or write-only stream) whose `_r` flag
    is not set when the stream cannot read, the side condition of `file_refines_spec` holds by itself: EVERY list of stream
    calls refines the specification. (The proviso excludes the mode strings `"wr"`, `"w\0r"`, `"ar"`: BLOC computes `_r` with
    `find('r')` over the whole string, so `read()` reaches `fread` on a write-only stream with output pending — part of the
    recorded region `C18.file_update_without_reposition`.) -/
theorem file_refines_spec_oneway : ∀ (ops : List Op) (w : World) (f : OFile), w.h.file = some f → (f.wr && f.rd) = false →
    (f.rd = false → w.h.r = false) →
    (∀ op ∈ ops, StreamOp op) → ∀ r ∈ (run w ops).2, r ≠ .undefinedSeq := by
  intro ops
  induction ops with
  | nil => intro w f _ _ _ _ r hr; simp [run] at hr
  | cons op ops ih =>
    intro w f hf h1 h2 hops
    obtain ⟨hop, hops⟩ := List.forall_mem_cons.1 hops
    have ha := step_oneway hf h1 h2 hop
    have ⟨f1, g1, _, _, g3, _⟩ := ha
    -- the two conditions speak of the stream's flags only, which no request changes
    obtain ⟨f', e⟩ := sstep_frame w.fs.maxOff (absS w f) (toS op)
    have h1' : ((absS (step w op).1 f1).canWrite && (absS (step w op).1 f1).canRead) = false := by rw [g3, e]; exact h1
    have h2' : (absS (step w op).1 f1).canRead = false → (absS (step w op).1 f1).mayRead = false := by rw [g3, e]; exact h2
    rw [run_cons]
    exact List.forall_mem_cons.2 ⟨ha.defined, ih (step w op).1 f1 g1 h1' h2' hops⟩

/-- the hypotheses of `file_refines_spec` are satisfiable on a non-trivial history: a stream opened "r" on the file
    `61 0a 62 63`: `readln`, `read(S, 1)`, `seekset(1)`, `write("XY")` (refused), `position()`, `flush()`, `seekend(-1)`,
    `read(X, 5000)`, `read(S, -3)` — every call is a stream call and none answers `undefinedSeq`. -/
def wSeq : World :=
  { fs := { get := fun q => if q = [120] then some [97, 10, 98, 99] else none, maxOff := 1000 },
    h := { file := some { path := [120], pos := 0, rd := true, wr := false, app := false }, path := [120], mode := [114], r := true, w := false } }

def opsSeq : List Op :=
  [.readln, .readS (some 1), .seekSet (some 1), .writeS (some [88, 89]), .position, .flush, .seekEnd (some (-1)), .readB (some 5000),
   .readS (some (-3))]

example : wSeq.h.file = some { path := [120], pos := 0, rd := true, wr := false, app := false } ∧ (∀ op ∈ opsSeq, StreamOp op)
    ∧ (∀ r ∈ (run wSeq opsSeq).2, r ≠ .undefinedSeq) :=
  ⟨rfl, fun op h => (isStreamOp_iff op).mp (by revert op; decide), by decide +kernel⟩

/-- the specification side of that history, evaluated: line `61 0a`, then `62`, seek, refused write, offset 1, …, the last
    byte, nothing for a negative count -/
example : (srun 1000 ⟨⟨[97, 10, 98, 99], 0, false⟩, true, false, true, false⟩
      [.readLine, .read 1, .seek .set 1, .write [88, 89], .tell, .sync, .seek .end_ (-1), .read 5000, .read (-3)]).2
    = [.line (some [97, 10]), .data [98], .errno 0, .denied, .offset 1, .done, .errno 0, .data [99], .data []] := by
  decide +kernel

end Seq

section Repositioned
open BlocV.Proofs.FileDir
open BlocV.Spec.File (srun)

/-- A history of stream calls in which no call switches the direction of transfer while one is
    "open" — a read after a write only behind an in-range `seekset` or a `flush`, a write after a read only behind an
    in-range `seekset` (`Disciplined`, a condition on the CALLS alone, no state consulted) — never reaches the region C11
    7.21.5.3 p7 leaves undefined (recorded finding `C18.file_update_without_reposition` is its complement): no call answers
    `undefinedSeq`, on ANY handle (any mode incl. r+ / w+ / a+, any content, any position) whose stream is not in the
    middle of a transfer. -/
theorem file_disciplined_defined : ∀ (ops : List Op) (w : World) (f : OFile) (p : Pend), w.h.file = some f →
    (∀ op ∈ ops, StreamOp op) → Approx p f.last → Disciplined w.fs.maxOff p ops →
    ∀ r ∈ (run w ops).2, r ≠ .undefinedSeq := by
  intro ops
  induction ops with
  | nil => intro w f p _ _ _ _ r hr; simp [run] at hr
  | cons op ops ih =>
    intro w f p hf hops ha hd
    obtain ⟨hop, hops⟩ := List.forall_mem_cons.1 hops
    obtain ⟨hal, hd'⟩ := hd
    obtain ⟨hu, f1, g1, g2, hn⟩ := step_disciplined hf hop ha hal
    have hd'' : Disciplined (step w op).1.fs.maxOff (p.next w.fs.maxOff op) ops := by rw [g2]; exact hd'
    rw [run_cons]
    exact List.forall_mem_cons.2 ⟨hu, ih (step w op).1 f1 _ g1 hops hn hd''⟩

/-- On EVERY open handle — update streams `r+`, `w+`, `a+` and their `b` variants
    included — whose stream is not in the middle of a transfer (as after `open`), EVERY history of stream calls in which the
    switches of direction go through a seek (`Disciplined`) is the POSIX-level specification run: same answers call by call,
    same content and offset at the end. In particular what is read after a write is what the specification reads: the bytes
    written (`srun_update_roundtrip`, `file_update_roundtrip`). This is `file_refines_spec` with its side condition
    discharged from the shape of the history. -/
theorem file_refines_spec_repositioned (ops : List Op) (w : World) (f : OFile) (hf : w.h.file = some f)
    (hops : ∀ op ∈ ops, StreamOp op) (hfresh : f.last ≠ .output ∧ f.last ≠ .input) (hd : Disciplined w.fs.maxOff .none ops) :
    (run w ops).2 = (srun w.fs.maxOff (absS w f) (ops.map toS)).2.map resOf
    ∧ ∃ f', (run w ops).1.h.file = some f' ∧ absS (run w ops).1 f' = (srun w.fs.maxOff (absS w f) (ops.map toS)).1 :=
  file_refines_spec ops w f hf hops
    (file_disciplined_defined ops w f .none hf hops ⟨fun h => absurd h hfresh.1, fun h => absurd h hfresh.2⟩ hd)

/-- Read-after-write on an update stream: on any handle opened for reading AND writing without
    append (`r+`, `w+`), whatever the file holds and wherever the stream stands, `seekset(o); write(d); seekset(o); read(v, |d|)`
    with any offset `0 ≤ o ≤ maxOff` and any non-empty data below 2^32 bytes answers `0, |d|, 0` and then delivers exactly `d`. -/
theorem file_update_roundtrip (w : World) (f : OFile) (o n : Int64) (d : Bytes) (hf : w.h.file = some f)
    (hrd : f.rd = true) (hwr : f.wr = true) (happ : f.app = false) (hr : w.h.r = true) (hw : w.h.w = true)
    (hfresh : f.last ≠ .output ∧ f.last ≠ .input) (ho : inRange w.fs.maxOff o = true)
    (hd : d ≠ []) (hlen : d.length < 4294967296) (hn : n.toInt = d.length) :
    (run w [.seekSet (some o), .writeS (some d), .seekSet (some o), .readS (some n)]).2
      = [.int 0, .int d.length, .int 0, .rd d.length d] := by
  have hdis : Disciplined w.fs.maxOff .none [.seekSet (some o), .writeS (some d), .seekSet (some o), .readS (some n)] := by
    simp [Disciplined, Pend.allows, Pend.next, ho]
  have hops : ∀ op ∈ [Op.seekSet (some o), .writeS (some d), .seekSet (some o), .readS (some n)], StreamOp op := by
    intro op hop
    simp only [List.mem_cons, List.not_mem_nil, or_false] at hop
    rcases hop with rfl | rfl | rfl | rfl <;> simp [StreamOp, hlen]
  have h := (file_refines_spec_repositioned _ w f hf hops hfresh hdis).1
  simp only [inRange, Bool.and_eq_true, decide_eq_true_eq] at ho
  have hs := srun_update_roundtrip w.fs.maxOff (absS w f) d ho.1 ho.2 hd hrd hwr hr hw happ
  rw [h]
  simp only [List.map_cons, List.map_nil, toS, hn]
  rw [hs]
  simp [resOf]

/-- hypotheses satisfiable (a handle opened "w+" on the file `abcdef`, standing at offset 6 after a read that met the end
    of the file): `seekset(2); write("XY"); seekset(2); read(v, 2)` — and the same history WITHOUT the second seek is the
    recorded finding's region (the read directly after the write answers `undefinedSeq`). -/
def wUpd : World :=
  { fs := { get := fun q => if q = [120] then some [97, 98, 99, 100, 101, 102] else none, maxOff := 1000 },
    h := { file := some { path := [120], pos := 6, rd := true, wr := true, app := false, last := .inputEof }, path := [120],
           mode := [119, 43], r := true, w := true } }

example : wUpd.h.file = some { path := [120], pos := 6, rd := true, wr := true, app := false, last := .inputEof }
    ∧ inRange wUpd.fs.maxOff 2 = true ∧ ((2 : Int64).toInt = ([88, 89] : Bytes).length)
    ∧ Disciplined wUpd.fs.maxOff .none [.seekSet (some 2), .writeS (some [88, 89]), .seekSet (some 2), .readS (some 2)]
    ∧ ¬ Disciplined wUpd.fs.maxOff .none [.seekSet (some 2), .writeS (some [88, 89]), .readS (some 2)]
    ∧ (step (step (step wUpd (.seekSet (some 2))).1 (.writeS (some [88, 89]))).1 (.readS (some 2))).2 = .undefinedSeq := by
  refine ⟨rfl, by decide, by decide, by decide, by decide, by decide +kernel⟩

/-- the region also holds the write-only streams on which BLOC sets `_r` (mode string `"wr"`: `find('r')` succeeds, `fopen`
    opens for writing only): `write(1 byte); read(X, 4097)` calls `fread` with output pending — the model answers
    `undefinedSeq` (glibc throws the unflushed byte away); with a `flush()` in between the read is defined and delivers nothing -/
def wWr : World :=
  { fs := { get := fun q => if q = [120] then some [] else none, maxOff := 1000 },
    h := { file := some { path := [120], pos := 0, rd := false, wr := true, app := false }, path := [120], mode := [119, 114],
           r := true, w := true } }

example : (step (step wWr (.writeB (some [20]))).1 (.readB (some 4097))).2 = .undefinedSeq
    ∧ (step (step (step wWr (.writeB (some [20]))).1 .flush).1 (.readB (some 4097))).2 = .rd 0 []
    ∧ Disciplined wWr.fs.maxOff .none [.writeB (some [20]), .flush, .readB (some 4097)]
    ∧ ¬ Disciplined wWr.fs.maxOff .none [.writeB (some [20]), .readB (some 4097)] := by
  refine ⟨by decide +kernel, by decide +kernel, by decide, by decide⟩

end Repositioned

/-- On a readable stream at ANY position of ANY content `readln` is the specification's line read:
    FALSE (nothing stored) exactly at the end of the file, otherwise TRUE with `Spec.File.sline` of the unread part —
    the bytes up to and including the first LF, but at most 4096 per call (NOT 4095: the buffer is not NUL-terminated) —
    and the position moves by exactly that many bytes. (`sline_line`: a line shorter than 4096 ends with its LF;
    `sline_full`: 4096 bytes without LF come back as one piece of exactly 4096; `sline_length_le`, `sline_prefix`.) -/
theorem file_readln_spec (w : World) (p : Path) (D : Bytes) (k : Nat) (hs : RState w p D k) :
    (step w .readln).2 = (if D.drop k = [] then .ln false none else .ln true (some (Spec.File.sline (D.drop k))))
    ∧ RState (step w .readln).1 p D (k + (if D.drop k = [] then 0 else (Spec.File.sline (D.drop k)).length)) := by
  obtain ⟨lst, hf, hr, hg⟩ := hs
  obtain ⟨l, e⟩ := readlnH_shape w { path := cstr p, pos := k, rd := true, wr := false, app := false, last := lst }
  rw [step_readln_eq hf, if_pos hr, if_neg (by simp [badInput]), e]
  by_cases hrest : D.drop k = [] <;> simp [lineD, hg, hrest, moved, RState, hr]

/-- On a readable stream whose unread part is `l ++ LF :: rest` with `l` shorter than the buffer
    and free of LF — and otherwise ARBITRARY bytes, NUL included — `readln` answers TRUE, stores exactly `l ++ [LF]`
    and leaves the position behind the LF: nothing is dropped. -/
theorem file_readln_line (w : World) (p : Path) (D : Bytes) (k : Nat) (l rest : Bytes) (hs : RState w p D k)
    (hD : D.drop k = l ++ LF :: rest) (hl : LF ∉ l) (hlen : l.length < 4096) :
    (step w .readln).2 = .ln true (some (l ++ [LF])) ∧ RState (step w .readln).1 p D (k + l.length + 1) := by
  have h := file_readln_spec w p D k hs
  have hsl : Spec.File.sline (D.drop k) = l ++ [LF] := by
    rw [hD]; exact sline_line l rest (fun b hb e => hl (by subst e; exact hb)) hlen
  rw [if_neg (by rw [hD]; simp), if_neg (by rw [hD]; simp), hsl] at h
  simpa [Nat.add_assoc] using h

/-- … and the last line of a file without final LF comes back whole as well, NUL bytes included. -/
theorem file_readln_last (w : World) (p : Path) (D : Bytes) (k : Nat) (hs : RState w p D k)
    (hl : LF ∉ D.drop k) (hne : D.drop k ≠ []) (hlen : (D.drop k).length ≤ 4096) :
    (step w .readln).2 = .ln true (some (D.drop k)) := by
  have h := (file_readln_spec w p D k hs).1
  rwa [if_neg hne, sline_full _ (fun b hb e => hl (by subst e; exact List.mem_of_mem_take hb)), List.take_of_length_le hlen] at h

/-- the lines a client gets from repeated `readln` calls -/
def linesOf : List Res → List Bytes
  | [] => []
  | .ln _ (some l) :: rs => l :: linesOf rs
  | _ :: rs => linesOf rs

/-- Reading a file line by line loses nothing and invents nothing: for every content (NUL bytes,
    CR, lines longer than the 4096-byte buffer, no final LF) and every start position, the lines stored by `n` consecutive
    `readln` calls, concatenated, are exactly the unread part of the file, as soon as `n` is at least its length. -/
theorem file_readln_all (p : Path) (D : Bytes) : ∀ (n : Nat) (w : World) (k : Nat), RState w p D k → (D.drop k).length ≤ n →
    (linesOf (run w (List.replicate n .readln)).2).flatten = D.drop k := by
  intro n
  induction n with
  | zero =>
    intro w k _ hl
    have : D.drop k = [] := List.eq_nil_of_length_eq_zero (by omega)
    simp [run, linesOf, this]
  | succ n ih =>
    intro w k hs hl
    have h := file_readln_spec w p D k hs
    rw [List.replicate_succ, run_cons]
    by_cases hrest : D.drop k = []
    · simp only [hrest, if_true, Nat.add_zero] at h
      have := ih (step w .readln).1 k h.2 (by simp [hrest])
      simp only [h.1, linesOf, this]
    · simp only [hrest, if_false] at h
      have hpos := sline_length_pos (D.drop k) hrest
      have := ih (step w .readln).1 _ h.2 (by rw [← List.drop_drop, List.length_drop]; omega)
      simp only [h.1, linesOf, List.flatten_cons, this, ← List.drop_drop]
      exact List.prefix_iff_eq_append.mp (sline_prefix (D.drop k))

/-- the hypotheses of `file_readln_spec` / `file_readln_all` hold after `open(p, "r")` of an existing file -/
def wL : World := { fs := { get := fun q => if q = [120] then some [97, 10, 98] else none, maxOff := 1000 }, h := {} }

example : RState (step wL (.open (some [120]) (some modeR))).1 [120] [97, 10, 98] 0 ∧ (([97, 10, 98] : Bytes).drop 0).length ≤ 5 :=
  ⟨(step_open_r wL [120] [97, 10, 98] (by simp [wL, cstr])).2, by decide⟩

example : Spec.File.sline [97, 0, 98, 10, 99] = [97, 0, 98, 10] ∧ Spec.File.sline [97, 98] = [97, 98]
    ∧ (Spec.File.sline (List.replicate 5000 120)).length = 4096 ∧ (Spec.File.sline (List.replicate 4095 120 ++ [10, 121])).length = 4096
    ∧ (Spec.File.sline (List.replicate 4096 120 ++ [10, 121])).length = 4096 := by
  have hx : ∀ n, ∀ b ∈ List.replicate n (120 : UInt8), b ≠ 10 := fun n b hb => by
    rw [List.eq_of_mem_replicate hb]; decide
  refine ⟨by decide, by decide, ?_, ?_, ?_⟩
  · rw [sline_full _ (by rw [List.take_replicate]; exact hx _), List.length_take, List.length_replicate]; rfl
  · rw [sline_line _ _ (hx _) (by rw [List.length_replicate]; decide), List.length_append, List.length_replicate]; rfl
  · have e := List.take_left' (l₂ := [10, 121]) (List.length_replicate (n := 4096) (a := (120 : UInt8)))
    rw [sline_full _ (by rw [e]; exact hx _), e, List.length_replicate]

/-- a NUL byte is data: the bytes 61 00 62 0a 63 read as the line 61 00 62 0a -/
example : readlnScan [97, 0, 98, 10, 99] 0 [] 0 = ([97, 0, 98, 10], 4, .lf)
    ∧ readlnScan [0, 0] 0 [] 0 = ([0, 0], 2, .eof) ∧ LF ∉ [(97 : UInt8), 0, 98] := by decide

/-- For EVERY state of the object, EVERY method and EVERY argument (null, negative, zero, INT64
    extremes as count or offset, any mode string, any path, empty values) a call yields a defined result, a BLOC error,
    or one of the two documented non-answers (`unmodelled`: stat / dir, a mode with `,` or glibc's `m`, a constructor on an
    open handle; `undefinedSeq`: C11 7.21.5.3 p7) — never a hazard: the hazard region is empty. -/
theorem file_args_total (w : World) (op : Op) : ∀ z, (step w op).2 ≠ .hazard z :=
  step_no_hazard w op

/-- extreme counts and empty values have defined answers: on a stream open for update on the 1-byte file "a",
    `read(S, 2^62)` and `read(X, INT64_MAX)` return that byte, `write` of an empty bytes value returns 0; and null /
    negative / zero arguments are a BLOC error or a defined result -/
def wR : World :=
  { fs := { get := fun _ => some [97], maxOff := 1000 },
    h := { file := some { path := [120], pos := 0, rd := true, wr := true, app := false }, r := true, w := true } }

example : (readLoop true [97] (readFuel 4611686018427387904) 0 4611686018427387904 []) = ([97], 1)
    ∧ (readLoop true [97] (readFuel 9223372036854775807) 0 9223372036854775807 []) = ([97], 1) :=
  ⟨by rw [readLoop_eq _ _ _ _ _ (readFuel_ok _)]; decide, by rw [readLoop_eq _ _ _ _ _ (readFuel_ok _)]; decide⟩
example : (step wR (.writeB (some []))).2 = .int 0 ∧ (step wR (.writeS (some []))).2 = .int 0 := by decide +kernel
example : (step wR (.readS none)).2 = .err ∧ (step wR (.readS (some (-5)))).2 = .rd 0 []
    ∧ (step wR (.seekSet (some (-1)))).2 = .int 22 ∧ (step wR (.seekSet none)).2 = .err
    ∧ (step wR (.writeS none)).2 = .int 0 ∧ (step wR (.open none (some [114]))).2 = .err := by decide +kernel

section Sqlite
open BlocV.Mod.Sqlite

/-- The EXACT exception list. For every BLOC value `v` and both buffer states of empty vectors:
    binding `v` and fetching it back yields `v` again (content and type) IF AND ONLY IF `v` is storable (any integer, any
    non-NaN decimal, any string, any non-empty bytes), or the empty bytes value WITH a buffer, or the untyped null. Everything
    else is changed: booleans (→ integer), NaN (→ untyped null), empty buffer-less bytes (→ untyped null), typed nulls
    (→ untyped null), objects (not bound) — the recorded findings `C18.sqlite_bool_as_integer`, `…nan_as_null`,
    `…empty_bytes_as_null`, `…unbound_item_keeps_old_binding`. -/
theorem sqlite_roundtrip_iff (eb : Bool) (v : BVal) :
    (∃ s, bindOf eb v = some s ∧ fetchOf s = v) ↔ (Storable v ∨ (v = .bytes [] ∧ eb = true) ∨ v = .null .noType) := by
  cases v with
  | null t => cases t <;> simp [bindOf, fetchOf, Storable]
  | bool b => simp [bindOf, fetchOf, Storable]
  | int i => simp [bindOf, fetchOf, Storable]
  | dec d =>
    cases hd : isNaN d <;> simp [bindOf, fetchOf, Storable, hd]
  | str s => simp [bindOf, fetchOf, Storable]
  | bytes b =>
    by_cases hb : b = []
    · subst hb; cases eb <;> simp [bindOf, fetchOf, Storable]
    · simp [bindOf, fetchOf, Storable, hb]
  | obj => simp [bindOf, Storable]

/-- Every storable value — any integer, any decimal that is not a NaN, ANY string
    (empty, invalid UTF-8, NUL bytes anywhere), any non-empty bytes value — is bound to a storage class from which
    `fetch` / `query` rebuild the identical value with the identical type, whatever the buffer state of empty vectors. -/
theorem sqlite_value_roundtrip (eb : Bool) (v : BVal) (h : Storable v) :
    ∃ s, bindOf eb v = some s ∧ fetchOf s = v ∧ (fetchOf s).ty = v.ty :=
  let ⟨s, hb, hf⟩ := (sqlite_roundtrip_iff eb v).mpr (.inl h)
  ⟨s, hb, hf, by rw [hf]⟩

example : Storable (.int (-9223372036854775808)) ∧ Storable (.dec 0x8000000000000000) ∧ Storable (.dec 0x7ff0000000000000)
    ∧ Storable (.str [0xc3, 0xa9, 0xff]) ∧ Storable (.str []) ∧ Storable (.str [97, 0, 98]) ∧ Storable (.str [0])
    ∧ Storable (.bytes [0, 255]) := by decide

/-- a string with NUL bytes makes the round trip -/
example : (bindOf false (.str [97, 0, 98])).map fetchOf = some (.str [97, 0, 98])
    ∧ (bindOf false (.str [0])).map fetchOf = some (.str [0]) := by decide

/-- What is NOT preserved (each a proved negation at a witness): boolean → integer,
    NaN → untyped null, empty bytes without buffer → untyped null, a typed null → untyped null, an object is not bound. -/
theorem sqlite_not_preserved :
    (bindOf false (.bool true)).map fetchOf = some (.int 1)
    ∧ (bindOf false (.dec 0x7ff8000000000000)).map fetchOf = some (.null .noType)
    ∧ (bindOf false (.bytes [])).map fetchOf = some (.null .noType)
    ∧ (bindOf true (.bytes [])).map fetchOf = some (.bytes [])
    ∧ (bindOf false (.null .integer)).map fetchOf = some (.null .noType)
    ∧ bindOf false .obj = none := by decide

/-- the full path through the state machine: `exec("INSERT …", tup(v))` then `query("SELECT a, typeof(a) FROM t")`,
    and `prepare / bind / execute` (argument tuple temporary or not), then `prepare / execute / fetch`: the value comes back -/
theorem sqlite_insert_query_roundtrip (eb temp : Bool) (v : BVal) (s : SVal) (hb : bindOf eb v = some s) (hf : fetchOf s = v)
    (hs : s ≠ .null) :
    (Sqlite.run { emptyBuf := eb } [.open, .create, .insert (some [v]), .queryAll]).2
      = [.bool true, .bool true, .bool true, .table [(v, typeofS s)] v.ty]
    ∧ (Sqlite.run { emptyBuf := eb } [.open, .create, .prepare (some .insert), .bind (some [v]) temp, .execute, .finalize,
          .prepare (some .select), .execute, .fetch, .fetch]).2
      = [.bool true, .bool true, .bool true, .bool true, .bool true, .bool true, .bool true, .bool true, .row (v, typeofS s), .bool false] := by
  constructor
  · simp [Sqlite.run, Sqlite.step, Handle.cursorActive, bindArgs, hb, rowOf, hf, declOf]
  · simp [Sqlite.run, Sqlite.step, bindArgs, hb, rowOf, hf]

example : bindOf false (.str [97, 0, 98]) = some (.text [97, 0, 98]) ∧ fetchOf (.text [97, 0, 98]) = .str [97, 0, 98]
    ∧ SVal.text [97, 0, 98] ≠ .null := by decide

/-- For EVERY state of the handle (open or closed, with or without statement, any status), EVERY
    method and EVERY argument tuple, a call yields a defined result, a BLOC error or `unmodelled` (errmsg; an INSERT
    while a SELECT cursor is on a row) — never a use after free. -/
theorem sqlite_args_total (w : Sqlite.World) (op : Sqlite.Op) : ∀ z, (Sqlite.step w op).2 ≠ .hazard z := by
  intro z
  fun_cases Sqlite.step w op <;> simp [closeH]

/-- A step-time failure does not poison the prepared statement: in ANY state with an open
    connection, the table `t(a NOT NULL)` and an INSERT statement prepared whose parameter is NULL, `execute()` fails with
    SQLite's error (BLOC error EXC_RT_USER_S) and changes NOTHING — no row, same status; a following `bind(tup(v))`
    (argument tuple temporary or not) with any value `v` that is bound to a non-NULL storage class succeeds, and the next
    `execute()` on the SAME statement stores exactly that value (not the stale NULL); a second failing `execute()` in
    between changes nothing either. -/
theorem sqlite_stepfail_rebind (w : Sqlite.World) (s : Stmt) (rows : List SVal) (v : BVal) (x : SVal) (temp : Bool)
    (ho : w.h.isOpen = true) (hs : w.h.stmt = some s) (hk : s.kind = .insert) (ht : w.table = some rows)
    (hn : w.notNull = true) (hnull : s.binding = .null) (hb : bindOf w.emptyBuf v = some x) (hx : x ≠ .null) :
    Sqlite.step w .execute = (w, .sqlErr)
    ∧ (Sqlite.run w [.execute, .execute, .bind (some [v]) temp, .execute]).2 = [.sqlErr, .sqlErr, .bool true, .bool true]
    ∧ (Sqlite.run w [.execute, .execute, .bind (some [v]) temp, .execute]).1.table = some (rows ++ [x])
    ∧ (Sqlite.run w [.execute, .execute, .bind (some [v]) temp, .execute]).1.h.status = .done := by
  have e1 : Sqlite.step w .execute = (w, .sqlErr) := by
    simp [Sqlite.step, ho, hs, hk, ht, hn, hnull]
  have e2 := SqliteSeq.bind_execute temp ho hs hk ht hb (fun h => hx h.2)
  refine ⟨e1, ?_⟩
  rw [SqliteSeq.sqlite_run_cons, e1, SqliteSeq.sqlite_run_cons, e1, e2]
  exact ⟨rfl, rfl, rfl⟩

/-- … and the one-step form: `exec("INSERT …", tup(v))` of a value stored as NULL into `t(a NOT NULL)` fails and stores
    nothing (no cursor on a row). -/
theorem sqlite_stepfail_exec (w : Sqlite.World) (rows : List SVal) (v : BVal)
    (ho : w.h.isOpen = true) (ht : w.table = some rows) (hn : w.notNull = true) (hc : w.h.cursorActive = false)
    (hb : bindOf w.emptyBuf v = some .null) :
    Sqlite.step w (.insert (some [v])) = (w, .sqlErr) := by
  simp [Sqlite.step, ho, ht, hn, hc, bindArgs, hb]

/-- the hypotheses are satisfiable: `open, CREATE TABLE t(a NOT NULL), prepare(INSERT)` reaches such a state (the
    parameter of a fresh statement is NULL), `"two"` is bound as TEXT; a NaN / typed null is stored as NULL -/
example : let w := (Sqlite.run {} [.open, .createNN, .prepare (some .insert)]).1
    w.h.isOpen = true ∧ w.h.stmt = some { kind := .insert } ∧ w.table = some [] ∧ w.notNull = true
    ∧ bindOf w.emptyBuf (.str [116, 119, 111]) = some (.text [116, 119, 111]) ∧ SVal.text [116, 119, 111] ≠ .null
    ∧ bindOf w.emptyBuf (.dec 0x7ff8000000000000) = some .null ∧ bindOf w.emptyBuf (.null .integer) = some .null
    ∧ w.h.cursorActive = false := by decide +kernel

/-- After `close()` there is no statement and the status is NEW, whatever was prepared -/
theorem sqlite_close_forgets (w : Sqlite.World) (h : w.h.isOpen = true) :
    (Sqlite.step w .close).2 = .bool true ∧ (Sqlite.step w .close).1.h.stmt = none
    ∧ (Sqlite.step w .close).1.h.status = .new ∧ (Sqlite.step w .close).1.h.isOpen = false := by
  simp [Sqlite.step, closeH, h]

/-- `bind` copies: whether the argument tuple is a temporary makes no difference -/
theorem sqlite_bind_temp_irrelevant (w : Sqlite.World) (a : Option (List BVal)) :
    Sqlite.step w (.bind a true) = Sqlite.step w (.bind a false) := by
  cases a <;> simp [Sqlite.step]

/-- `close()` then the destructor, `close()` then re-open, and a temporary tuple: the statement left by `close()` is gone, the destructor has
    nothing to free twice, a re-opened connection has no statement; a temporary tuple bound before another statement
    with a temporary is stored intact by `execute()`. -/
example : (Sqlite.run {} [.open, .create, .prepare (some .select), .close, .destroy]).2.getLast? = some (.bool true) := by
  decide +kernel
example : (Sqlite.run {} [.open, .create, .prepare (some .select), .close, .open, .finalize]).2.getLast? = some (.bool false) := by
  decide +kernel
example : (Sqlite.run {} [.open, .create, .prepare (some .insert), .bind (some [.str [97]]) true, .insert (some [.int 1]), .execute,
      .queryAll]).2.getLast? = some (.table [(.int 1, typeofS (.integer 1)), (.str [97], typeofS (.text [97]))] .string) := by
  decide +kernel

end Sqlite

section SqliteHistory
open BlocV.Mod.Sqlite BlocV.Mod.SqliteAbs BlocV.Proofs.SqliteSeq
open BlocV.Spec.Sqlite (stored)

/-- From ANY state with an open connection, the table present (with or without NOT
    NULL) and an `INSERT INTO t VALUES(?)` prepared (any status flag, any parameter content), for EVERY list of calls out
    of bind(tuple) / bind(null) / execute() / exec(INSERT, tuple) / fetch / header / isopen / query(SELECT …) /
    query(SELECT ?1, tuple) with ANY arguments — step-time failures (NOT NULL violations of execute and of exec)
    anywhere in it — the module is the specification `Spec.Sqlite.run` ("one parameter slot; execute stores the slot's
    CURRENT content unless the table refuses it"): same parameter content and same stored rows at the end, every
    executing call answers TRUE exactly when the specification stores a row and SQLite's error exactly when it refuses,
    and the state at the end is again such a state (so the theorem composes). The status flag `_stmt_status`, which a
    failed step leaves at NEW on a halted statement, has no influence. -/
theorem sqlite_history_refines_spec : ∀ (cs : List InsCall) (w : Sqlite.World) (cur : SVal) (rows : List SVal), Ready w cur rows →
    Ready (Sqlite.run w (cs.map InsCall.toOp)).1
        (BlocV.Spec.Sqlite.run (okNN w.notNull) ⟨cur, rows⟩ (cs.map (·.toCall w.emptyBuf))).1.slot
        (BlocV.Spec.Sqlite.run (okNN w.notNull) ⟨cur, rows⟩ (cs.map (·.toCall w.emptyBuf))).1.rows
    ∧ List.zipWith InsCall.ans cs (Sqlite.run w (cs.map InsCall.toOp)).2
        = (BlocV.Spec.Sqlite.run (okNN w.notNull) ⟨cur, rows⟩ (cs.map (·.toCall w.emptyBuf))).2
    ∧ (Sqlite.run w (cs.map InsCall.toOp)).1.notNull = w.notNull
    ∧ (Sqlite.run w (cs.map InsCall.toOp)).1.emptyBuf = w.emptyBuf := by
  intro cs
  induction cs with
  | nil => intro w cur rows h; exact ⟨h, rfl, rfl, rfl⟩
  | cons c cs ih =>
    intro w cur rows h
    obtain ⟨h1, hn, he, ha⟩ := ins_step c h
    have := ih (Sqlite.step w c.toOp).1 _ _ h1
    rw [hn, he] at this
    simp only [List.map_cons, sqlite_run_cons, BlocV.Spec.Sqlite.run, List.zipWith_cons_cons]
    exact ⟨this.1, by rw [ha, this.2.1], by rw [this.2.2.1], by rw [this.2.2.2]⟩

/-- The row set is the function of the values bound at the time of each execute: after
    ANY such history the table holds the earlier rows followed by `Spec.Sqlite.stored` — for every successful `execute()`
    the value of the LAST bind before it (the initial parameter content if there was none; a tuple without bindable item
    keeps the previous value), for every successful one-step `exec` its own argument — and `query("SELECT a, typeof(a)
    FROM t")` then delivers exactly these rows, each as `fetchOf` of the stored value with its `typeof`. -/
theorem sqlite_rows_function_of_binds (cs : List InsCall) (w : Sqlite.World) (cur : SVal) (rows : List SVal) (h : Ready w cur rows) :
    (Sqlite.run w (cs.map InsCall.toOp)).1.table
        = some (rows ++ stored (okNN w.notNull) cur (cs.map (·.toCall w.emptyBuf)))
    ∧ (Sqlite.step (Sqlite.run w (cs.map InsCall.toOp)).1 .queryAll).2
        = (match rows ++ stored (okNN w.notNull) cur (cs.map (·.toCall w.emptyBuf)) with
           | [] => .nullTable
           | r :: rs => .table ((r :: rs).map rowOf) (declOf (r :: rs) .noType)) := by
  obtain ⟨⟨ho, ht, _⟩, _⟩ := sqlite_history_refines_spec cs w cur rows h
  rw [run_rows] at ht
  refine ⟨ht, ?_⟩
  simp only [Sqlite.step, ho, ht]
  cases rows ++ stored (okNN w.notNull) cur (cs.map (·.toCall w.emptyBuf)) <;> simp

/-- A bind after ANY history — whatever the outcome of the executes before it, failed
    ones included — is what the next execute runs with: `bind(tup(v))` (temporary or not) answers TRUE and the following
    `execute()` stores exactly the storage value of `v` (refused only if the table's own constraint refuses THAT value),
    never a stale parameter. (The seeded change C18-m3 — bind skips `sqlite3_reset` when the status flag is NEW — falsifies
    this on the real module after a failed execute.) -/
theorem sqlite_bind_after_any_history (cs : List InsCall) (w : Sqlite.World) (cur : SVal) (rows : List SVal) (h : Ready w cur rows)
    (v : BVal) (x : SVal) (temp : Bool) (hb : bindOf w.emptyBuf v = some x) (hx : ¬ (w.notNull = true ∧ x = .null)) :
    ∃ rows', (Sqlite.run w (cs.map InsCall.toOp)).1.table = some rows'
      ∧ Sqlite.run (Sqlite.run w (cs.map InsCall.toOp)).1 [.bind (some [v]) temp, .execute]
          = ({ (Sqlite.run w (cs.map InsCall.toOp)).1 with
                table := some (rows' ++ [x]),
                h := { (Sqlite.run w (cs.map InsCall.toOp)).1.h with
                        stmt := some { kind := .insert, binding := x, cursor := [] }, status := .done } },
             [.bool true, .bool true]) := by
  obtain ⟨⟨ho, ht, s, hs, hk, _, _⟩, _, hn, he⟩ := sqlite_history_refines_spec cs w cur rows h
  exact ⟨_, ht, bind_execute temp ho hs hk ht (by rw [he]; exact hb) (by rw [hn]; exact hx)⟩

/-- hypotheses satisfiable and the statement non-trivial: on `t(a NOT NULL)`, statement prepared (parameter NULL):
    execute fails, bind(5), execute, execute, bind(NaN) [stored as NULL], execute fails, bind(object) [keeps NULL], execute
    fails, exec(tup("x")), bind("y"), fetch, header, execute: rows 5, 5, "x", "y" -/
example : let w := (Sqlite.run {} [.open, .createNN, .prepare (some .insert)]).1
    let cs : List InsCall := [.execute, .bind [.int 5] true, .execute, .execute, .bind [.dec 0x7ff8000000000000] false, .execute,
      .bind [.obj] true, .execute, .exec [.str [120]], .bind [.str [121]] true, .fetch, .header, .execute]
    Ready w .null [] ∧ (Sqlite.run w (cs.map InsCall.toOp)).1.table = some [.integer 5, .integer 5, .text [120], .text [121]]
    ∧ stored (okNN w.notNull) .null (cs.map (·.toCall w.emptyBuf)) = [.integer 5, .integer 5, .text [120], .text [121]]
    ∧ List.zipWith InsCall.ans cs (Sqlite.run w (cs.map InsCall.toOp)).2
        = [some false, none, some true, some true, none, some false, none, some false, some true, none, none, none, some true] := by
  refine ⟨⟨by decide +kernel, by decide +kernel, { kind := .insert }, by decide +kernel, rfl, rfl, rfl⟩, by decide +kernel, by decide +kernel,
    by decide +kernel⟩

end SqliteHistory

end BlocV.Proofs.C18F
