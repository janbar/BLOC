/-
  C12 — saving a compiled program as text and loading it back preserves its behaviour.

  Property theorems; their proofs are the lemmas of Proofs/Lemmas/Parse*.lean. The parser theorems are stated on TOKEN lists:
  `toksExpr e` is the token sequence the text `unparseExpr e` is meant to scan to; that it does scan to it is
  evaluated by the driver on every case of the correspondence run (`lex=1`), not proved here.

  Status: the full statement "parse (unparse p) = p up to `norm` for every tree the parser can build" is
  FALSE. The theorems below hold on the decidable domain `wf` (Spec/Roundtrip.lean); the three regions it
  excludes (wrapped integer literals, 17-digit decimals, fused print items) are witnessed (`decimal_roundtrip_fails`
  and the examples at the end: negations proved by evaluation) and recorded as findings. `doHead` (DO statements
  whose expression does not start with a word; the region of a repaired finding, Spec/Roundtrip.lean) excludes
  nothing: DOStatement::unparse writes the keyword `do` before every expression, `stmt_do_roundtrip` has no hypothesis
  about how the expression starts, and its example `do (1 + 2);` lies inside the region.
-/
import BlocV.Proofs.Lemmas.ParseBlock
import BlocV.Proofs.Lemmas.ParseExamples
import BlocV.Proofs.Lemmas.Fmt

namespace BlocV.C12
open BlocV.Parse BlocV.Unparse BlocV.Roundtrip BlocV.C12L

/-- `parseLiteral (readableLiteral s) = s` for every byte string without a NUL byte: every escape
(`\a \b \f \n \r \t \\ \"`), every other byte written raw. -/
theorem literal_roundtrip (s : Bytes) (h : ∀ c ∈ s, c ≠ 0) : parseLiteral (readableLiteral s) = s :=
  parseLiteral_readable s h

example : parseLiteral (readableLiteral [97, 34, 92, 10, 13, 9, 7, 8, 12, 255, 39]) = [97, 34, 92, 10, 13, 9, 7, 8, 12, 255, 39] := by decide

/-- The hypothesis is exactly what the code needs, and it holds for every string constant the parser can
build: `parseLiteral` never outputs a NUL byte (its "no pending byte" marker is 0). -/
theorem parseLiteral_no_nul (text : Bytes) : ∀ c ∈ parseLiteral text, c ≠ 0 :=
  plGo_no_nul text false 0

/-- …and without it the statement is false: a NUL byte is lost. -/
example : parseLiteral (readableLiteral [97, 0, 98]) = [97, 98] := by decide

/-- so every literal the parser builds survives unparse ∘ parse -/
theorem literal_roundtrip_image (text : Bytes) :
    parseLiteral (readableLiteral (parseLiteral text)) = parseLiteral text :=
  literal_roundtrip _ (parseLiteral_no_nul text)

/-- A non-negative integer constant reads back from the decimal text `std::to_string` writes. -/
theorem integer_literal_roundtrip (v : Int64) (h : v ≥ 0) : parseDec (intToString v) = some v :=
  parseDec_intToString v h

example : parseDec (intToString 9223372036854775807) = some 9223372036854775807 := by decide +kernel

/-- The parser also builds NEGATIVE constants (`std::stoull`, then the conversion to int64): -/
example : parseDec (bytesOf "18446744073709551615") = some (-1) := by decide +kernel
example : parseHex (bytesOf "0x8000000000000000") = some (-9223372036854775808) := by decide +kernel

/-! ### Decimal literals: "%.16g" is not injective -/

/-- 0.3 and 0.30000000000000004 (= 0.1 + 0.2) are different doubles with the same "%.16g" text. -/
theorem fmt16_not_injective :
    ∃ a b : UInt64, a ≠ b ∧ Fmt.fmt16g a = Fmt.fmt16g b :=
  ⟨0x3FD3333333333333, 0x3FD3333333333334, by decide, by decide +kernel⟩

/-- consequently the constant `0.30000000000000004` is saved as `0.3` and loads as another number -/
theorem decimal_roundtrip_fails :
    parseNumeric (bytesOf "0.30000000000000004") = some 0x3FD3333333333334 ∧
    numText 0x3FD3333333333334 = bytesOf "0.3" ∧
    parseNumeric (numText 0x3FD3333333333334) = some 0x3FD3333333333333 := by decide +kernel

/-- The literal reader is `std::stod` with glibc's ERANGE rule (Model/Strtod.lean): just below DBL_MIN a literal that
rounds to 2^-1022 is still "tiny after rounding" and inexact, hence a parse error (`parseNumericOld`,
which rounds without that rule, answers 2^-1022); DBL_MIN itself and the exactly representable subnormals are read. -/
example : parseNumeric (bytesOf "2.22507385850720119781e-308") = none ∧
    parseNumericOld (bytesOf "2.22507385850720119781e-308") = some 0x0010000000000000 ∧
    parseNumeric (bytesOf "2.2250738585072014e-308") = some 0x0010000000000000 ∧
    parseNumeric (bytesOf "4.9e-324") = none ∧ parseNumeric (bytesOf "1.7976931348623159e308") = none ∧
    parseNumeric (bytesOf "1.7976931348623157e308") = some 0x7fefffffffffffff := by decide +kernel

/-- Decimal constants: the round trip holds exactly where `std::stod` reads the "%.16g" text back. `numOk d` — the
hypothesis of `expr_roundtrip` on decimal leaves — is, both `Fmt.fmt16g` (glibc "%.16g") and `Strtod.stod` (glibc
strtod + ERANGE rule) being exact models, the statement `std::stod (text unparse writes for d) = d`; and the parser returns the
constant `d` from that text iff it holds (`pElem` at every fuel ≥ 1; where it holds, `pExpr` before every stop token at
every fuel ≥ 29). -/
theorem decimal_roundtrip_iff (d : UInt64) :
    (numOk d = true ↔ Strtod.stod (numText d) = .val d) ∧
    (∀ (rest : List Tok) (g : Nat), pElem (g + 1) (numTok d :: rest) = .ok (.num d, rest) ↔ numOk d = true) ∧
    (numOk d = true → ∀ (t : Tok) (ts : List Tok), Stops 9 t → ∀ f, 29 ≤ f →
      pExpr f (toksExpr (.num d) ++ t :: ts) = .ok (.num d, t :: ts)) := by
  have h1 : numOk d = true ↔ Strtod.stod (numText d) = .val d := by
    simp only [numOk, parseNumeric, beq_iff_eq]
    cases h : Strtod.stod (numText d) <;> simp
  refine ⟨h1, ?_, ?_⟩
  · intro rest g
    obtain ⟨c, hc, heq⟩ := numTok_eq d
    rw [heq, pElem_num_eq hc, numOk, beq_iff_eq]
    cases parseNumeric (numText d) <;> simp
  · intro hok t ts hst f hf
    exact expr_rt (.num d) hok t ts hst (by simp [endsVar]) f hf

example : numOk 0x3FD3333333333333 = true ∧ Strtod.stod (numText 0x3FD3333333333333) = .val 0x3FD3333333333333 :=
  ⟨by decide +kernel, (decimal_roundtrip_iff _).1.mp (by decide +kernel)⟩

/-- a decimal that "%.16g" gives back (the hypothesis `numOk` of the round trip is satisfiable) -/
example : numOk 0x3FD3333333333333 = true ∧ numOk 0x4005bf0a8b145769 = true := by decide +kernel

/-- the largest double is NOT such a decimal: its 16-digit text 1.797693134862316e+308 overflows when read -/
example : numOk 0x7fefffffffffffff = false := by
  unfold numOk numText; rw [Lemmas.fmt16g_max]; decide +kernel

/-! ### Expressions: parse ∘ unparse, every expression form -/

/-- For every tree `e` in the image of the parser (`wf`: precedence
respected, integer constants ≥ 0, decimals that survive "%.16g", NUL-free strings, upper-case non-reserved
names, built-in calls with an accepted arity, member receivers that are elements) built from all 21 binary
operators, the 4 unary operators, variables, literals, the constants `null true false error phi pi ee ii`,
parentheses, built-in calls `f(a, b)` (incl. `tup(...)`, `tab(..)` constructors), user function calls `F(a,b)`, member
calls `e.m(args)`, `e.set@N(x)` and items `e@N` — argument lists of any length, member chains of any depth:
parsing the tokens of its text, followed by any token `t` that does not continue an expression (and is not `(`
when the text ends with a variable name), yields exactly `norm e` and leaves `t :: ts`, for every sufficient fuel. -/
theorem expr_roundtrip (e : PExpr) (hwf : wf e = true)
    (t : Tok) (ts : List Tok) (hstop : Stops 9 t) (hvar : endsVar e = true → t.code ≠ cLP)
    (f : Nat) (hf : 16 * esize e + 13 ≤ f) :
    pExpr f (toksExpr e ++ t :: ts) = .ok (norm e, t :: ts) :=
  expr_rt e hwf t ts hstop hvar f hf

/-- the same at every precedence level `L` the node can be produced at (what the operand positions need) -/
theorem expr_roundtrip_level (e : PExpr) (L : Nat) (hwf : wf e = true)
    (hl : lvlE e ≤ L) (h9 : L ≤ 9) (t : Tok) (ts : List Tok) (hstop : Stops L t)
    (hvar : endsVar e = true → t.code ≠ cLP) (f : Nat) (hf : 16 * esize e + L + 4 ≤ f) :
    pLevel f L (toksExpr e ++ t :: ts) = .ok (norm e, t :: ts) :=
  (full_rt e L hwf hl h9).pstm t ts hstop hvar f hf

example : wf exTree = true ∧ core exTree = true := exTree_wf
example : Stops 9 (ch 59) ∧ (endsVar exTree = true → (ch 59).code ≠ cLP) := by decide
example : pExpr 1000 (toksExpr exTree ++ [ch 59]) = .ok (norm exTree, [ch 59]) :=
  expr_roundtrip exTree exTree_wf.1 (ch 59) [] semi_stops (by decide) 1000 (by decide +kernel)

example : wf exCalls = true ∧ core exCalls = false := exCalls_wf
example : unparseExpr exCalls = bytesOf "max(A, F(1,\"x\")).concat(T@2).set@3(tup(1, -B))" := by decide +kernel
example : pExpr 1000 (toksExpr exCalls ++ [ch 59]) = .ok (norm exCalls, [ch 59]) :=
  expr_roundtrip exCalls exCalls_wf.1 (ch 59) [] semi_stops (by decide) 1000 (by decide +kernel)

/-- Trees the parser itself returns with every unary operand already enclosed are fixed points. -/
theorem expr_roundtrip_id (e : PExpr) (hwf : wf e = true) (hn : norm e = e)
    (t : Tok) (ts : List Tok) (hstop : Stops 9 t) (hvar : endsVar e = true → t.code ≠ cLP)
    (f : Nat) (hf : 16 * esize e + 13 ≤ f) :
    pExpr f (toksExpr e ++ t :: ts) = .ok (e, t :: ts) := by
  have := expr_roundtrip e hwf t ts hstop hvar f hf
  rwa [hn] at this

/-- after one round trip the tree is in normal form: the second round trip is the identity -/
theorem norm_idempotent (e : PExpr) : norm (norm e) = norm e := norm_idem e

/-! ### unparse is a fixpoint, behaviour is preserved (all node kinds) -/

/-- The text of the tree read back is the text it was read from — byte for byte, and token for token.
With `expr_roundtrip`: unparse (parse (unparse e)) = unparse e. -/
theorem unparse_fixpoint (e : PExpr) : unparseExpr (norm e) = unparseExpr e ∧ toksExpr (norm e) = toksExpr e :=
  ⟨unparse_norm e, toks_norm e⟩

-- `_core` here and in `behaviour_preserved_core` is not `core e` of Spec/Roundtrip.lean: there is no such hypothesis
theorem unparse_fixpoint_core (e : PExpr) (hwf : wf e = true)
    (t : Tok) (ts : List Tok) (hstop : Stops 9 t) (hvar : endsVar e = true → t.code ≠ cLP)
    (f : Nat) (hf : 16 * esize e + 13 ≤ f) :
    (pExpr f (toksExpr e ++ t :: ts)).toOption.map (fun r => unparseExpr r.1) = some (unparseExpr e) := by
  rw [expr_roundtrip e hwf t ts hstop hvar f hf]
  simp [Except.toOption, unparse_norm]

/-- The tree read back translates to the SAME interpreter program (the translation forgets `enc`), so it
has the same behaviour — value, output, errors, final variables — in every state, for every fuel. -/
theorem behaviour_preserved (e : PExpr) : toExpr (norm e) = toExpr e := toExpr_norm e

theorem behaviour_preserved_eval (e : PExpr) (funcs : List Func) (depth fuel : Nat) (st : St) :
    (toExpr (norm e)).map (fun x => eval funcs depth fuel x st) = (toExpr e).map (fun x => eval funcs depth fuel x st) := by
  rw [behaviour_preserved]

theorem behaviour_preserved_core (e : PExpr) (hwf : wf e = true)
    (t : Tok) (ts : List Tok) (hstop : Stops 9 t) (hvar : endsVar e = true → t.code ≠ cLP)
    (f : Nat) (hf : 16 * esize e + 13 ≤ f) :
    ∃ e', pExpr f (toksExpr e ++ t :: ts) = .ok (e', t :: ts) ∧ toExpr e' = toExpr e :=
  ⟨norm e, expr_roundtrip e hwf t ts hstop hvar f hf, toExpr_norm e⟩

theorem semi_not_lp : (ch 59).code ≠ cLP := by decide

/-- `NAME = e;` reads back as the same assignment (of `norm e`), whatever follows, at top level or in a block. -/
theorem stmt_let_roundtrip (n : Bytes) (e : PExpr) (hn : nameOk n = true) (hwf : wf e = true)
    (nested : Bool) (rest : List Tok) (f : Nat) (hf : 16 * esize e + 16 ≤ f) :
    pStmt f nested (toksLet n e ++ rest) = .ok (some (.letS n (norm e) none), rest) :=
  let_rt n e hn hwf nested rest f hf

example : pStmt 100 false (toksLet (bytesOf "A") (.bin .add false (.int 1) (.var (bytesOf "B"))) ++ [kw "print"]) =
    .ok (some (.letS (bytesOf "A") (.bin .add false (.int 1) (.var (bytesOf "B"))) none), [kw "print"]) :=
  stmt_let_roundtrip _ _ nameA_ok onePlusB_wf false _ 100 (by decide)

/-- Chained: `NAME = e , <next statement>` reads back as the assignment carrying whatever the next
statement reads back as (`unparse_next` writes ` , `). -/
theorem stmt_let_chain (n : Bytes) (e : PExpr) (hn : nameOk n = true) (hwf : wf e = true)
    (nested : Bool) (ts' r : List Tok) (nx : Option PStmt) (f : Nat) (hf : 16 * esize e + 13 ≤ f)
    (hnext : pStmt f nested ts' = .ok (nx, r)) :
    pStmt (f + 2) nested (⟨cKW, n⟩ :: ch 61 :: (toksExpr e ++ ch 44 :: ts')) = .ok (some (.letS n (norm e) nx), r) :=
  let_chain n e hn hwf nested ts' r nx f hf hnext

/-! ### Statements: DO — saved WITH its keyword (`doKeyword`, DOStatement::unparse) -/

/-- the text of a saved DO statement: the keyword, a blank, the expression — for every expression -/
theorem stmt_do_text (lvl : Nat) (e : PExpr) : unparseStmt lvl (.doS e) = bytesOf "do " ++ unparseExpr e := by
  have h : bytesOf "do" ++ [32] = bytesOf "do " := by decide
  simp only [unparseStmt, doKeyword_eq, ← h]

example : unparseStmt 0 (.doS (.var (bytesOf "X"))) = bytesOf "do X" := by decide +kernel

/-- `do e ;` as saved (`toksDo e` = the keyword, the tokens of the expression,
the separator) reads back as the DO statement of `norm e`, whatever follows, at top level or in a block — for
every well-formed expression. There is no hypothesis on how the text of `e` starts (`doHead e` may be true): the
parser recognises an expression statement WITHOUT keyword by a leading word only, but the saved text always has the
keyword. -/
theorem stmt_do_roundtrip (e : PExpr) (hwf : wf e = true)
    (nested : Bool) (rest : List Tok) (f : Nat) (hf : 16 * esize e + 14 ≤ f) :
    pStmt f nested (toksDo e ++ rest) = .ok (some (.doS (norm e)), rest) :=
  do_rt e hwf nested rest f hf

example : doHead exDo = true ∧ wf exDo = true ∧ core exDo = true := by decide +kernel
example : norm exDo = exDo := rfl
example : unparseProgram [.doS exDo] = bytesOf "do (1 + 2);\n" := by decide +kernel
/-- …its saved text scans (C13 lexer model) to the token list the theorem speaks about… -/
example : tokensOf (unparseStmt 0 (.doS exDo) ++ [59]) = toksDo exDo := by decide +kernel
/-- …and loads as the same statement. -/
example : pStmt 100 false (toksDo exDo ++ [kw "print"]) = .ok (some (.doS exDo), [kw "print"]) :=
  stmt_do_roundtrip exDo (by decide +kernel) false _ 100 (by decide +kernel)
/-- the other kinds of expression in the region `doHead`: `do 1;`, `do -X;`, `do "s";`, `do 2.5;` -/
example : (pStmt 100 true (toksDo (.int 1))).toOption.isSome = true ∧
    (pStmt 100 true (toksDo (.un .neg false (.var (bytesOf "X"))))).toOption.isSome = true ∧
    (pStmt 100 true (toksDo (.str (bytesOf "s")))).toOption.isSome = true ∧
    (pStmt 100 true (toksDo (.num 0x4004000000000000))).toOption.isSome = true :=
  ⟨do_rt_isSome _ (by decide) true 100 (by decide), do_rt_isSome _ negX_wf true 100 (by decide),
   do_rt_isSome _ (by decide +kernel) true 100 (by decide), do_rt_isSome _ (by decide +kernel) true 100 (by decide)⟩

/-- The keyword is what makes the text a statement: the expression text alone is rejected (a fact about the
parser; `unparse` never writes that text). -/
example : (pStmt 200 false (toksExpr exDo ++ [ch 59])).toOption.isNone = true := by decide +kernel

/-- An expression statement written WITHOUT the keyword (`t.concat(5);`, `x + 1;`) is a DO statement too and is
saved with the keyword; that text loads as the same statement and is saved as the same text (by evaluation,
through the lexer model). -/
example : (parseText (bytesOf "t.concat(5);\nx + 1;\n")).toOption.map unparseProgram = some (bytesOf "do T.concat(5);\ndo X + 1;\n") ∧
    (parseText (bytesOf "do T.concat(5);\ndo X + 1;\n")).toOption.map unparseProgram = some (bytesOf "do T.concat(5);\ndo X + 1;\n") := by
  decide +kernel

/-- Chained: `NAME = e1 , do e2 ;` (`unparse_next` writes ` , ` and then the DO statement with its keyword). -/
theorem stmt_let_do_chain (n : Bytes) (e1 e2 : PExpr) (hn : nameOk n = true)
    (hwf1 : wf e1 = true) (hwf2 : wf e2 = true)
    (nested : Bool) (rest : List Tok) (f : Nat) (hf1 : 16 * esize e1 + 13 ≤ f) (hf2 : 16 * esize e2 + 14 ≤ f) :
    pStmt (f + 2) nested (⟨cKW, n⟩ :: ch 61 :: (toksExpr e1 ++ ch 44 :: (toksDo e2 ++ rest))) =
      .ok (some (.letS n (norm e1) (some (.doS (norm e2)))), rest) :=
  stmt_let_chain n e1 hn hwf1 nested _ rest _ f hf1 (stmt_do_roundtrip e2 hwf2 nested rest f hf2)

example : pStmt 102 false (⟨cKW, bytesOf "A"⟩ :: ch 61 :: (toksExpr (.int 1) ++ ch 44 :: (toksDo exDo ++ []))) =
    .ok (some (.letS (bytesOf "A") (.int 1) (some (.doS exDo))), []) :=
  stmt_let_do_chain _ _ _ nameA_ok (by decide) (by decide +kernel) false [] 100 (by decide) (by decide)

/-- Fixpoint for DO statements: the DO statement of the tree read back is saved as the same
bytes, at every indentation level, and as the same tokens. -/
theorem stmt_do_fixpoint (lvl : Nat) (e : PExpr) :
    unparseStmt lvl (.doS (norm e)) = unparseStmt lvl (.doS e) ∧ toksDo (norm e) = toksDo e :=
  ⟨unparseStmt_norm lvl (.doS e), by rw [toksDo, toks_norm, toksDo]⟩

example : norm exDoNeg = .un .neg false (.bin .exp true (.var (bytesOf "A")) (.int 2)) := rfl
example : unparseStmt 1 (.doS (norm exDoNeg)) = bytesOf "do -(A power 2)" ∧
    unparseStmt 1 (.doS exDoNeg) = bytesOf "do -(A power 2)" := by decide +kernel

/-- with the round trip: unparse (parse (unparse (do e))) = unparse (do e) -/
theorem stmt_do_fixpoint_core (e : PExpr) (hwf : wf e = true)
    (nested : Bool) (rest : List Tok) (f : Nat) (hf : 16 * esize e + 14 ≤ f) (lvl : Nat) :
    (pStmt f nested (toksDo e ++ rest)).toOption.map (fun r => r.1.map (unparseStmt lvl)) =
      some (some (unparseStmt lvl (.doS e))) := by
  rw [stmt_do_roundtrip e hwf nested rest f hf]
  simp [Except.toOption, (stmt_do_fixpoint lvl e).1]

example : (pStmt 100 false (toksDo exDoNeg)).toOption.map (fun r => r.1.map (unparseStmt 0)) = some (some (bytesOf "do -(A power 2)")) := by
  decide +kernel

/-- Behaviour of DO statements is preserved: the statement read back translates to the same
interpreter program. -/
theorem stmt_do_behaviour (e : PExpr) : toStmts (.doS (norm e)) = toStmts (.doS e) := toStmts_norm (.doS e)

example : toStmts (.doS (norm exDoNeg)) = toStmts (.doS exDoNeg) ∧ (toStmts (.doS exDoNeg)).isSome = true :=
  ⟨stmt_do_behaviour _, by decide +kernel⟩

/-! ### Statements and programs

  Full statement aimed at: ∀ p, wfP p → parseText (unparseProgram p) = .ok (normP p).
  Proved: for ALL programs, every statement kind of the model, every indentation level, the program read back is saved
  as the same bytes / tokens and is the same interpreter program (`unparse_fixpoint_program`,
  `behaviour_preserved_program`); the parser half on TOKENS, first for the statements without a block
  (`stmt_roundtrip_flat`, `print_roundtrip`, `program_roundtrip_partial`, with the smaller fuel bound `fsize`), then for
  every statement kind the model has (`stmt_roundtrip`, `block_roundtrip`, `program_roundtrip`); on BYTES with the
  scanning step as a hypothesis (`program_roundtrip_bytes`).
  Not proved: the step from bytes to tokens (`tokensOf (unparseProgram p) = toksProgram p`), which is evaluated by the
  driver on every case. Not modelled: `import`, `include`, module constructors and methods (Model/Parse.lean). -/

/-- The items of a print list are written one after the other; they read
back as the same items iff consecutive items are separable — `itemsSep`: the next item's first token does not continue
an expression (no sign) and is not `(` after a bare name (the region `printAdj` of finding C12.print_items_fuse). -/
theorem print_roundtrip (args : List PExpr) (hwf : wfArgs args = true) (hsep : itemsSep args = true)
    (rest : List Tok) (f : Nat) (hf : 16 * esizeArgs args + 15 ≤ f) :
    pItems f ((toksArgs args).flatten ++ ch 59 :: rest) = .ok (normArgs args, ch 59 :: rest) :=
  items_rt args hwf hsep rest f hf

example : wfArgs exItems = true ∧ itemsSep exItems = true := exItems_wf
/-- the side condition is needed, and it is where the finding lives: `X` `(-1)` fuse; a sign fuses too -/
example : itemsSep [.var (bytesOf "X"), .un .neg true (.int 1)] = false ∧ printAdj [.var (bytesOf "X"), .un .neg true (.int 1)] = true ∧
    itemsSep [.int 1, .un .neg false (.var (bytesOf "X"))] = false := by decide +kernel

/-- Round trip of every statement kind without a block (nop, break, continue, trace, return [e], `X = e`, `X:type`,
both with chains ` , ` of any length and any flat statement after the comma, print, put, do, raise), all expression
forms inside: the tokens of the saved statement followed by the separator read back as `normS s`. -/
theorem stmt_roundtrip_flat (s : PStmt) (hwf : wfFlat s = true) (nested : Bool) (rest : List Tok) (f : Nat)
    (hf : 16 * fsize s + 20 ≤ f) :
    pStmt f nested (toksStmt s ++ ch 59 :: rest) = .ok (some (normS s), rest) :=
  flat_rt s hwf nested rest f hf

example : wfFlat exChain = true := exChain_wf
example : unparseStmt 0 exChain = bytesOf "A = -(B power 2) , C:integer , print A \"x\" (B + 1)" := by decide +kernel
example : pStmt 1000 true (toksStmt exChain ++ ch 59 :: [kw "end"]) = .ok (some (normS exChain), [kw "end"]) :=
  stmt_roundtrip_flat exChain exChain_wf true _ 1000 (by decide +kernel)

/-- `Parser::parse` on the tokens of a saved program whose statements are flat gives `normP p`
(`program_roundtrip` below is the same for every well-formed program, with the larger fuel bound `ssizeB`). -/
theorem program_roundtrip_partial (p : List PStmt) (hwf : wfFlatB p = true) (f : Nat) (hf : 16 * psize p + 21 ≤ f) :
    pProgram f (toksProgram p) = .ok (normP p) :=
  flat_program_rt p hwf f hf

example : wfFlatB exProg = true := exProg_wf
example : pProgram 2000 (toksProgram exProg) = .ok (normP exProg) :=
  program_roundtrip_partial exProg exProg_wf 2000 (by decide +kernel)
/-- on this example the saved bytes do scan to `toksProgram` (C13 lexer model, by evaluation) -/
example : tokensOf (unparseProgram exProg) = toksProgram exProg := by decide +kernel

/-- Fixpoint at program level, every statement kind: the program read back (`normP p`) is saved as the same bytes —
indentation, `elsif` / `else` / `exception` / `when` / `end` lines, function headers included — and as the same tokens. -/
theorem unparse_fixpoint_program (p : List PStmt) :
    unparseProgram (normP p) = unparseProgram p ∧ toksProgram (normP p) = toksProgram p :=
  ⟨unparseBlock_norm 0 p, toksBlock_norm p⟩

/-- the same for a block at any exec level -/
theorem unparse_fixpoint_block (lvl : Nat) (b : List PStmt) : unparseBlock lvl (normB b) = unparseBlock lvl b :=
  unparseBlock_norm lvl b

/-- Behaviour at program level, every statement kind: the program read back translates to the SAME interpreter
program (Model/Interp.lean), hence runs the same in every state. -/
theorem behaviour_preserved_program (p : List PStmt) : toProgram (normP p) = toProgram p := toBlock_norm p

example : unparseProgram (normP exBlocks) = unparseProgram exBlocks := (unparse_fixpoint_program exBlocks).1
example : toProgram (normP exBlocks) = toProgram exBlocks ∧ (toProgram exBlocks).isSome = true :=
  ⟨behaviour_preserved_program _, by decide +kernel⟩
/-- by evaluation (lexer + parser model): this block program does load again from its BYTES and is saved as the same bytes -/
example : (parseText (unparseProgram exBlocks)).toOption.map unparseProgram = some (unparseProgram exBlocks) := by decide +kernel

/-- with the partial round trip: unparse (parse (unparse p)) = unparse p on the tokens of flat programs -/
theorem unparse_fixpoint_program_partial (p : List PStmt) (hwf : wfFlatB p = true) (f : Nat) (hf : 16 * psize p + 21 ≤ f) :
    (pProgram f (toksProgram p)).toOption.map unparseProgram = some (unparseProgram p) := by
  rw [program_roundtrip_partial p hwf f hf]
  simp [Except.toOption, (unparse_fixpoint_program p).1]

example : (pProgram 2000 (toksProgram exProg)).toOption.map unparseProgram = some (unparseProgram exProg) :=
  unparse_fixpoint_program_partial exProg exProg_wf 2000 (by decide +kernel)

/-! ### Every statement kind of the model, clauses, programs: the parser half on tokens, no `flat` restriction -/

/-- For every well-formed statement `s` (`wfS`: names are parser names, type
keywords are type keywords, expressions `wf`, print lists `itemsSep`, clauses of if / elsif / else / while / for / forall /
when non-empty, function declarations at top level only, parameters `paramOk`) — nop, break, continue, trace, return,
assignments and typed declarations with chains, print, put, do, raise, if / elsif… / else, while, for (with and without
step, asc / desc), forall (asc / desc), begin / exception / when…, function declarations with typed parameters and
exception clauses, nested to any depth: the tokens of the saved statement followed by the separator read back as
`normS s`, whatever follows. By mutual induction over statements, clauses (`block_roundtrip`), rule lists and catch lists. -/
theorem stmt_roundtrip (s : PStmt) (nested : Bool) (hwf : wfS nested s = true) (rest : List Tok) (f : Nat)
    (hf : 16 * ssize s + 30 ≤ f) :
    pStmt f nested (toksStmt s ++ ch 59 :: rest) = .ok (some (normS s), rest) :=
  stmt_rt s nested hwf rest f hf

/-- Clauses (`parse_clause` / `parse_catch` / the body of BEGIN): the statements of a clause, followed by a word `e`
that ends it (`end`, `elsif`, `else`, `exception`, `when` — whichever set `enders` the construct uses), read back as
`normB b` and leave `e`; `ne` = the construct requires at least one statement. -/
theorem block_roundtrip (b : List PStmt) (hwf : wfB b = true) (enders : List Bytes) (ne : Bool) (e : Tok) (rest : List Tok)
    (f : Nat) (hc : e.code = cKW) (he : enders.contains e.text = true)
    (hsub : ∀ x, enders.contains x = true → enderKws.contains x = true) (hne : ne = true → b ≠ [])
    (hf : 16 * ssizeB b + 30 ≤ f) :
    pBlock f enders ne (toksBlock b ++ e :: rest) = .ok (normB b, e :: rest) :=
  block_rt b hwf enders ne hsub hne e rest hc he f hf

/-- Round trip of programs (tokens), every statement kind: `Parser::parse` on the tokens of a saved program gives
`normP p`. (What is still missing for `parseText (unparseProgram p) = ok (normP p)` is only the byte → token step.) -/
theorem program_roundtrip (p : List PStmt) (hwf : wfP p = true) (f : Nat) (hf : 16 * ssizeB p + 31 ≤ f) :
    pProgram f (toksProgram p) = .ok (normP p) :=
  program_rt p hwf f hf

/-- unparse ∘ parse ∘ unparse = unparse on tokens, all programs: the program read back from the tokens of the saved
text is saved as the same bytes. -/
theorem unparse_fixpoint_program_tokens (p : List PStmt) (hwf : wfP p = true) (f : Nat) (hf : 16 * ssizeB p + 31 ≤ f) :
    (pProgram f (toksProgram p)).toOption.map unparseProgram = some (unparseProgram p) := by
  rw [program_roundtrip p hwf f hf]
  simp [Except.toOption, (unparse_fixpoint_program p).1]

/-- …and is the same interpreter program -/
theorem behaviour_preserved_program_tokens (p : List PStmt) (hwf : wfP p = true) (f : Nat) (hf : 16 * ssizeB p + 31 ≤ f) :
    ∃ q, pProgram f (toksProgram p) = .ok q ∧ toProgram q = toProgram p ∧ unparseProgram q = unparseProgram p :=
  ⟨normP p, program_roundtrip p hwf f hf, behaviour_preserved_program p, (unparse_fixpoint_program p).1⟩

example : wfP exAll = true := exAll_wf
example : pProgram 5000 (toksProgram exAll) = .ok (normP exAll) :=
  program_roundtrip exAll exAll_wf 5000 (by decide +kernel)
/-- on this example the saved bytes scan to `toksProgram` (C13 lexer model, by evaluation) -/
example : tokensOf (unparseProgram exAll) = toksProgram exAll := exAll_scan

/-! ### On BYTES: `parseText ∘ unparseProgram`, with the scanning step as ONE explicit hypothesis

  `parseText text = pProgram (parseFuel ts) ts` with `ts = tokensOf text` (the library's line reader + chunked scanner,
  C13). The byte → token step `tokensOf (unparseProgram p) = toksProgram p` is NOT proved in general (plan in
  notes/NOTES-C12.md); it is a decidable statement about `p`, evaluated by the driver on every case (`ptoks`), and enters
  here as hypothesis `hscan`. It subsumes the three side conditions a proof of it needs (names are identifiers, the shape
  of `numText d`, lines ≤ 1023 bytes). That the fuel `parseText` gives the parser suffices is proved (`parse_fuel_suffices`). -/

/-- The fuel `parseText` hands to the parser (`parseFuel`, 64 per token) covers the bound of `program_roundtrip` for EVERY
program: the fuel measure is at most three times the number of tokens (`C12L.ssizeB_le`, all statement and expression kinds). -/
theorem parse_fuel_suffices (p : List PStmt) : 16 * ssizeB p + 31 ≤ parseFuel (toksProgram p) := by
  have := ssizeB_le p
  simp only [parseFuel, toksProgram]; omega

example : 16 * ssizeB exAll + 31 ≤ parseFuel (toksProgram exAll) := parse_fuel_suffices exAll

/-- `parseText (unparseProgram p) = ok (normP p)` for every well-formed program of every statement kind whose saved
bytes scan to its token list. -/
theorem program_roundtrip_bytes (p : List PStmt) (hwf : wfP p = true)
    (hscan : tokensOf (unparseProgram p) = toksProgram p) :
    parseText (unparseProgram p) = .ok (normP p) := by
  simp only [parseText, hscan]
  exact program_roundtrip p hwf _ (parse_fuel_suffices p)

/-- unparse (parse (unparse p)) = unparse p on BYTES, and the program read back is the same interpreter program. -/
theorem unparse_fixpoint_program_bytes (p : List PStmt) (hwf : wfP p = true)
    (hscan : tokensOf (unparseProgram p) = toksProgram p) :
    ∃ q, parseText (unparseProgram p) = .ok q ∧ unparseProgram q = unparseProgram p ∧ toProgram q = toProgram p :=
  ⟨normP p, program_roundtrip_bytes p hwf hscan, (unparse_fixpoint_program p).1, behaviour_preserved_program p⟩

/-- expressions on bytes: the text of `e` followed by `;`, scanned and parsed -/
theorem expr_roundtrip_bytes (e : PExpr) (hwf : wf e = true)
    (hscan : tokensOf (unparseExpr e ++ [59]) = toksExpr e ++ [ch 59]) (f : Nat) (hf : 16 * esize e + 13 ≤ f) :
    pExpr f (tokensOf (unparseExpr e ++ [59])) = .ok (norm e, [ch 59]) := by
  rw [hscan]
  exact expr_roundtrip e hwf (ch 59) [] semi_stops (fun _ => semi_not_lp) f hf

example : parseText (unparseProgram exAll) = .ok (normP exAll) :=
  program_roundtrip_bytes exAll exAll_wf exAll_scan
example : pExpr 1000 (tokensOf (unparseExpr exCalls ++ [59])) = .ok (norm exCalls, [ch 59]) :=
  expr_roundtrip_bytes exCalls exCalls_wf.1 (by decide +kernel) 1000 (by decide +kernel)
/-- `parseFuel` covers deep parentheses: one pair costs eleven levels of the call tree and is two tokens -/
example : (parseText (bytesOf "a = ((((((((((((1))))))))))));")).toOption.map unparseProgram = some (bytesOf "A = 1;\n") := by
  decide +kernel

/-! ### Where the full statement fails (negations, by evaluation) -/

/-- the text the tokens `ts` are read back to (`none` = rejected) -/
def reText (ts : List Tok) : Option Bytes := (pExpr 200 ts).toOption.map fun r => unparseExpr r.1

/-- `18446744073709551615 ** 2` is the tree EXP(int −1, int 2); its text `-1 power 2` reads back as −(1  2). -/
example : unparseExpr (.bin .exp false (.int (-1)) (.int 2)) = bytesOf "-1 power 2" ∧
    reText (toksExpr (.bin .exp false (.int (-1)) (.int 2)) ++ [ch 59]) = some (bytesOf "-(1 power 2)") := by decide +kernel

/-- `2 ** 18446744073709551615`: the text `2 power -1` is rejected. -/
example : reText (toksExpr (.bin .exp false (.int 2) (.int (-1))) ++ [ch 59]) = none := by decide +kernel

/-- `9223372036854775808` is the constant −2^63; the text read back unparses to `--9223372036854775808`. -/
example : reText (toksExpr (.int (-9223372036854775808)) ++ [ch 59]) = some (bytesOf "--9223372036854775808") := by decide +kernel

/-- print items `X` `(-1)` are written `X (-1)`, which reads back as ONE item, a call of a function X. -/
example : (pItems 200 (toksExpr (.var (bytesOf "X")) ++ toksExpr (.un .neg true (.int 1)) ++ [ch 59])).toOption.map
    (fun r => r.1.map unparseExpr) = some [bytesOf "X(-1)"] := by decide +kernel

end BlocV.C12
