/-
  C09 — tables stay uniform, tuples keep their structure, indexing is range-checked.

  Model: Model/Members.lean (the C++ `value()` methods on values). Spec: Spec/Containers.lean.
  Regions of the recorded findings: KF/C09.lean. Lemmas: Proofs/Lemmas/MemberEqs.lean (the members as equations),
  Containers.lean (uniformity), ContainersRefine.lean (Model = Spec).

  The full property is FALSE for the code as it is; the file proves the negation at concrete
  witnesses (`make_type_collision`, `uniform_broken_by_*`), and the `_partial` theorem under
  "the tuple declarations in play hash injectively" + "no call in the level-mixing region".
  The null-pointer dereference of a typed-null element argument in the type-mixing branch of
  put / insert / concat / set@ is repaired (373dc26): `mix_null_stores_null`, `mix_null_sat_spec`,
  `table_methods_no_hazard` state what the code does there now; the `_partial` theorem covers those calls
  (they succeed and keep the table uniform) without any exclusion.
-/
import BlocV.Proofs.Lemmas.Containers
import BlocV.Proofs.Lemmas.ContainersRefine

namespace BlocV.C09
open BlocV.Spec

def declA : List Ty := [Ty.bool, Ty.raw, Ty.bool, Ty.bool, Ty.str]
def declB : List Ty := [Ty.num, Ty.int, Ty.bool, Ty.str, Ty.bool]
def declZ : List Ty := [Ty.raw, Ty.raw, Ty.raw, Ty.num, Ty.raw]

/-- Two different declarations with the same tuple type, and a non-empty declaration whose type is
the "opaque" tuple type (minor 0). Proved by evaluation of `TupleDecl::Decl::make_type`. -/
theorem make_type_collision :
    makeTupleTy declA 0 = makeTupleTy declB 0 ∧ declA ≠ declB ∧
    makeTupleTy declZ 0 = { major := .tup, minor := 0, level := 0 } ∧ declZ ≠ [] := by decide +kernel

def tA : Val := .tup declA [.bool true, .raw [97], .bool true, .bool true, .str [115]]
def tB : Val := .tup declB [.num 0x3ff8000000000000, .int 2, .bool true, .str [115], .bool true]
def tabA : Val := .tab (makeTupleTy declA 1) declA [tA]

/-- Witness C09.tuple.hashCollision: from a uniform table and a uniform tuple, `put` succeeds and the
table is no longer uniform. -/
theorem uniform_broken_by_collision :
    uniform tabA = true ∧ uniform tB = true ∧
    (match memberCall .put tabA [.int 0, tB] false with
      | .ok (_, x') => !uniform x'
      | _ => false) = true := by decide +kernel

def tabI2 : Val := .tab { major := .int, level := 2 } [] [.tab { major := .int, level := 1 } [] [.int 1]]

/-- Witness C09.mix.level: `tab(1, tab(1, 1)).insert(0, null)` stores an integer null of level 0 in
a table of tables. -/
theorem uniform_broken_by_level_mixing :
    uniform tabI2 = true ∧
    (match memberCall .insert tabI2 [.int 0, .null Ty.none] false with
      | .ok (_, x') => !uniform x'
      | _ => false) = true := by decide +kernel

/-- (repaired upstream, 373dc26; was `hazard nullDeref`) a typed-null decimal put into an integer table is
stored as a null integer. The general statement is `mix_null_stores_null` below. -/
example : memberCall .put (.tab { major := .int, level := 1 } [] [.int 0]) [.int 0, .null Ty.num] false =
    .ok (.tab { major := .int, level := 1 } [] [.null Ty.int], .tab { major := .int, level := 1 } [] [.null Ty.int]) := by rfl
/-- Witness C09.tuple.hashZero: the tab constructor refuses the tuple whose declaration hashes to 0. -/
example : (match biTab (m := Res) [.ok (.int 1), .ok (.tup declZ [.raw [], .raw [], .raw [], .num 0, .raw []])] with
    | .err c _ => c == Gen.EXC_RT_COMPOUND_OPAQUE | _ => false) = true := by decide +kernel
/-- (repaired upstream, 7b31e38) a rank above 2^32 − 1 is refused at compile time. -/
example : acceptItem (makeTupleTy [Ty.int] 0) 4294967297 = some Gen.EXC_PARSE_OUT_OF_INDICE := by decide +kernel

/-- A scalar typed null of the OTHER numeric type (a NULL decimal for an
integer container, a NULL integer for a decimal one: `crossNum`) is stored as the null of the container's
own major (`numNull`: `Value(Value::type_integer)` / `Value(Value::type_numeric)`), by all four methods:
`put` replaces the element at an in-range position, `insert` adds it at a position 0 ≤ p ≤ n, `concat`
appends it, `set@` replaces the item — the result is the receiver itself. For a table of one dimension
and for a tuple item that null has exactly the element type (`numNull_elem_type`); the table's LEVEL is
still not consulted (C09.mix.level: the example on `Ti2[].insert(0, num())` below). -/
theorem mix_null_stores_null :
    (∀ (t nt : Ty) (d : List Ty) (es : List Val) (p : Int64) (c : Bool),
      crossNum t.major nt.major = true → nt.level = 0 →
      (inRange p es.length = true →
        mPut (.tab t d es) (.int p) (.null nt) c =
          .ok (.tab t d (listPut es (idxOf p) (numNull t.major)), .tab t d (listPut es (idxOf p) (numNull t.major)))) ∧
      (inRangeIns p es.length = true →
        mInsert (.tab t d es) (.int p) (.null nt) c =
          .ok (.tab t d (listIns es (idxOf p) [numNull t.major]), .tab t d (listIns es (idxOf p) [numNull t.major]))) ∧
      (t.level > 0 →
        mConcat (.tab t d es) (.null nt) c =
          .ok (.tab t d (es ++ [numNull t.major]), .tab t d (es ++ [numNull t.major])))) ∧
    (∀ (decl : List Ty) (items : List Val) (idx : Nat) (dt nt : Ty) (old : Val),
      decl[idx]? = some dt → items[idx]? = some old → crossNum dt.major nt.major = true → nt.level = 0 →
      setItemV (.tup decl items) idx (.null nt) =
        .ok (.tup decl (listPut items idx (numNull dt.major)), .tup decl (listPut items idx (numNull dt.major)))) := by
  refine ⟨?_, ?_⟩
  · intro t nt d es p c hc hl
    refine ⟨fun hp => ?_, fun hp => ?_, fun hlev => ?_⟩
    · have hlt : idxOf p < es.length := by
        unfold inRange at hp; unfold idxOf; simp at hp; omega
      rw [mPut_tab, memPos_int, hp]
      simp only [↓reduceIte, Lemmas.Res.ok_bind, List.getElem?_eq_getElem hlt, classify_null_cross .put t nt _ hc hl]
    · rw [mInsert_tab, memPos_int, ← inRangeIns_eq, hp]
      simp only [↓reduceIte, Lemmas.Res.ok_bind, classify_null_cross .insert t nt _ hc hl]
    · rw [mConcat_tab _ _ _ _ _ hlev, classify_null_cross .concat t nt _ hc hl]; rfl
  · intro decl items idx dt nt old hdt hold hc hl
    have hm : dt.major ≠ .tup ∧ dt.major ≠ .none := by
      rcases (crossNum_iff _ _).1 hc with ⟨h, _⟩ | ⟨h, _⟩ <;> rw [h] <;> exact ⟨nofun, nofun⟩
    rw [setItemV_eq decl items idx (.null nt) dt old hl hm.1 hm.2 hdt hold, classify_null_cross .put dt.levelUp nt _ hc hl]
    rfl

/-- non-vacuity, all four methods and both directions, as member calls / statements: `Ti1[0].put(0, num())`,
`Ti1[0].insert(1, num())`, `Ti1[0].concat(num())`, `Td1[1.5].put(0, int())`, `tup(1, "a").set@1(num())`,
`tup(1.5, 2).set@1(int())` -/
example : crossNum .int .num = true ∧ crossNum .num .int = true ∧ crossNum .int .int = false ∧
    crossNum .int .none = false ∧ crossNum .str .int = false := by decide +kernel
def ti1 (es : List Val) : Val := .tab { major := .int, level := 1 } [] es
def td1 (es : List Val) : Val := .tab { major := .num, level := 1 } [] es
example : memberCall .put (ti1 [.int 0]) [.int 0, .null Ty.num] false = .ok (ti1 [.null Ty.int], ti1 [.null Ty.int]) := by rfl
example : memberCall .insert (ti1 [.int 0]) [.int 1, .null Ty.num] false =
    .ok (ti1 [.int 0, .null Ty.int], ti1 [.int 0, .null Ty.int]) := by rfl
example : memberCall .concat (ti1 [.int 0]) [.null Ty.num] false =
    .ok (ti1 [.int 0, .null Ty.int], ti1 [.int 0, .null Ty.int]) := by rfl
example : memberCall .put (td1 [.num 0x3ff8000000000000]) [.int 0, .null Ty.int] false =
    .ok (td1 [.null Ty.num], td1 [.null Ty.num]) := by rfl
example : memberCall .concat (td1 []) [.null Ty.int] false = .ok (td1 [.null Ty.num], td1 [.null Ty.num]) := by rfl
example : setItemV (.tup [Ty.int, Ty.str] [.int 1, .str [97]]) 0 (.null Ty.num) =
    .ok (.tup [Ty.int, Ty.str] [.null Ty.int, .str [97]], .tup [Ty.int, Ty.str] [.null Ty.int, .str [97]]) := by rfl
example : setItemV (.tup [Ty.num, Ty.int] [.num 0x3ff8000000000000, .int 2]) 0 (.null Ty.int) =
    .ok (.tup [Ty.num, Ty.int] [.null Ty.num, .int 2], .tup [Ty.num, Ty.int] [.null Ty.num, .int 2]) := by rfl
/-- the stored null has the element type of a one-dimensional table, and the results above are uniform -/
example : (numNull .int).type = ({ major := .int, level := 1 } : Ty).levelDown ∧
    uniform (ti1 [.int 0, .null Ty.int]) = true ∧ uniform (td1 [.null Ty.num]) = true := by decide +kernel
/-- an out-of-range position still wins over the element (index error), a null TABLE of the other type is
still refused / ignored: the repair changed the dereferencing cell only -/
example : (match memberCall .put (ti1 [.int 0]) [.int 1, .null Ty.num] false with
    | .err c _ => c == Gen.EXC_RT_INDEX_RANGE_S | _ => false) = true := by decide +kernel
example : (match memberCall .put (ti1 [.int 0]) [.int 0, .null { major := .num, level := 1 }] false with
    | .err c _ => c == Gen.EXC_RT_TYPE_MISMATCH_S | _ => false) = true := by decide +kernel
/-- C09.mix.level stays: `Ti2[].insert(0, num())` yields `Ti2[N:i0]` — a level-0 null integer in a table of
tables (inside `KF.levelBug`, not uniform). -/
example : memberCall .insert (.tab { major := .int, level := 2 } [] []) [.int 0, .null Ty.num] false =
      .ok (.tab { major := .int, level := 2 } [] [.null Ty.int], .tab { major := .int, level := 2 } [] [.null Ty.int]) ∧
    KF.levelBug { major := .int, level := 2 } (.null Ty.num) = true ∧
    uniform (.tab { major := .int, level := 2 } [] [.null Ty.int]) = false := ⟨by rfl, by decide +kernel, by decide +kernel⟩

/-- On a one-dimensional integer / decimal table the repaired
`put` of a scalar typed null of the other numeric type does what the specification allows at EVERY
integer position: the null of the element type is stored (Spec: `either`, int↔decimal mixing is
UNDETERMINED BY DOCUMENTATION) or the index error is raised. -/
theorem mix_null_sat_spec (t nt : Ty) (es : List Val) (p : Int64) (c : Bool)
    (hl1 : t.level = 1) (hc : crossNum t.major nt.major = true) (hl : nt.level = 0) :
    Sat (mPut (.tab t [] es) (.int p) (.null nt) c) (Spec.tabPut t [] es (.int p) (.null nt)) := by
  rw [mPut_tab]
  refine memPos_sat (fun _ => true) rfl fun i hlt => ?_
  simp only [List.getElem?_eq_getElem hlt, classify_null_cross .put t nt _ hc hl, fit_null_cross t [] nt (by rw [hl1]) hl hc,
    listPut_eq_set es i _ hlt]
  exact .inl rfl

/-- the hypotheses are satisfiable (both directions), and what the Spec says at such an input -/
example : Sat (mPut (ti1 [.int 0]) (.int 0) (.null Ty.num) false)
      (Spec.tabPut { major := .int, level := 1 } [] [.int 0] (.int 0) (.null Ty.num)) ∧
    Sat (mPut (td1 []) (.int 0) (.null Ty.int) false)
      (Spec.tabPut { major := .num, level := 1 } [] [] (.int 0) (.null Ty.int)) :=
  ⟨mix_null_sat_spec _ Ty.num _ 0 false rfl (by decide +kernel) rfl, mix_null_sat_spec _ Ty.int _ 0 false rfl (by decide +kernel) rfl⟩
example : Spec.tabPut { major := .int, level := 1 } [] [.int 0] (.int 0) (.null Ty.num) =
    .either (ti1 [.null Ty.int]) (ti1 [.null Ty.int]) := by
  simp [Spec.tabPut, Spec.pos, fit, elemETy, mkETy, etyOf, normMinor, isUntypedNull, Ty.num, Ty.int, Val.type, ti1]

/-- After the repair no C-level hazard is left in `put`, `insert`, `concat` on a
table receiver: for every table, every position value and every element argument that is not a malformed
table (`WfArg`: a `Collection` carries a table type), the outcome is a value or a BLOC error. -/
theorem table_methods_no_hazard (t : Ty) (d : List Ty) (es : List Val) (a0 a1 : Val) (c : Bool)
    (h0 : WfArg a0) (h1 : WfArg a1) :
    (mPut (.tab t d es) a0 a1 c).isHazard = false ∧
    (mInsert (.tab t d es) a0 a1 c).isHazard = false ∧
    (t.level > 0 → (mConcat (.tab t d es) a1 c).isHazard = false) := by
  have hw : ∀ a ∈ [a0, a1], WfArg a := by simp [h0, h1]
  exact ⟨tab_no_hazard (m := .put) (c := c) nofun hw, tab_no_hazard (m := .insert) (c := c) nofun hw,
    fun hl => tab_no_hazard (m := .concat) (args := [a1]) (c := c) (fun _ => hl) (by simp [h1])⟩

example : WfArg (.null Ty.num) ∧ WfArg (.int 0) := ⟨fun _ _ _ h => by simp at h, fun _ _ _ h => by simp at h⟩
example : (memberCall .put (ti1 [.int 0]) [.int 0, .null Ty.num] false).isHazard = false ∧
    (memberCall .insert (td1 []) [.int 0, .null Ty.int] false).isHazard = false := by decide +kernel

inductive Op
  | mem (m : Member) (args : List Val)
  | set (rank : Nat) (arg : Val)

/-- one statement `x.m(args)` / `x.set@rank(arg)` on the variable `x` -/
def stepRes (x : Val) : Op → Res (Val × Val)
  | .mem m args => memberCall m x args false
  | .set rank a =>
    match itemNo rank with
    | .ok no => setItemV x (itemIndex no) a
    | .err c e => .err c e
    | .haz h => .haz h
    | .unmodelled => .unmodelled

/-- the variable after the statement: a call that does not succeed leaves it as it was -/
def applyOp (x : Val) (op : Op) : Val :=
  match stepRes x op with
  | .ok (_, x') => x'
  | _ => x

def run (x : Val) (ops : List Op) : Val := ops.foldl applyOp x

/-- the arguments are uniform values with declarations in `P`, and the call is outside the
level-mixing region C09.mix.level -/
def OpOk (P : List Ty → Bool) (x : Val) : Op → Prop
  | .mem m args => (∀ a ∈ args, uniformP P a = true) ∧
      (∀ t d es a, x = .tab t d es → KF.elemArg m args = some a → KF.levelBug t a = false)
  | .set _ a => uniformP P a = true

def Safe (P : List Ty → Bool) : Val → List Op → Prop
  | _, [] => True
  | x, op :: ops => OpOk P x op ∧ Safe P (applyOp x op) ops

theorem stepRes_set {x : Val} {rank : Nat} {a : Val} {p : Val × Val} (h : stepRes x (.set rank a) = .ok p) :
    setItemV x (itemIndex rank) a = .ok p := by
  by_cases hr : rank ≥ 2 ^ 32
  · simp [stepRes, itemNo, hr] at h     -- a rank that does not fit 32 bits never runs
  · simpa [stepRes, itemNo, hr] using h

theorem step_preserves (P) (hinj : Inj P) {x : Val} {op : Op} {r x' : Val}
    (hx : uniformP P x = true) (hok : OpOk P x op) (h : stepRes x op = .ok (r, x')) :
    uniformP P r = true ∧ uniformP P x' = true := by
  cases op with
  | mem m args =>
    exact member_preserves P hinj hx hok.1 hok.2 h
  | set rank a =>
    obtain ⟨h1, h2, _⟩ := setItemV_preserves hx hok (stepRes_set h)
    exact ⟨by rw [h1]; exact h2, h2⟩

theorem safe_split (P : List Ty → Bool) (hinj : Inj P) :
    ∀ (pre post : List Op) (x : Val), UniformIn P x → Safe P x (pre ++ post) →
      UniformIn P (run x pre) ∧ Safe P (run x pre) post
  | [], _, _, hx, hs => ⟨hx, hs⟩
  | op :: pre, post, x, hx, ⟨hok, hrest⟩ => by
    refine safe_split P hinj pre post (applyOp x op) ?_ hrest
    unfold applyOp
    split
    · exact (step_preserves P hinj hx hok ‹_›).2
    · exact hx

/-- For every sequence of member calls and `set@` on a variable that
starts uniform, with uniform arguments, when the tuple declarations in play (`P`) hash injectively
and no call lies in the level-mixing region: after every step the variable is uniform, every value
returned by a successful step is uniform, and a step that is rejected leaves the variable unchanged.
(No exclusion is needed for typed-null element arguments: since 373dc26 a NULL decimal / integer given for
an integer / decimal table or item is a successful step that stores the null of the element type —
`mix_null_stores_null`; see `nullOps_safe` for such a run.) -/
theorem uniform_preserved_partial (P : List Ty → Bool) (hinj : Inj P) :
    ∀ (ops : List Op) (x : Val), UniformIn P x → Safe P x ops →
      UniformIn P (run x ops) ∧
      (∀ (pre : List Op) (op : Op) (post : List Op), ops = pre ++ op :: post →
        UniformIn P (run x pre) ∧
        (∀ r x', stepRes (run x pre) op = .ok (r, x') → UniformIn P r ∧ run x (pre ++ [op]) = x') ∧
        ((∀ r x', stepRes (run x pre) op ≠ .ok (r, x')) → run x (pre ++ [op]) = run x pre)) := by
  intro ops x hx hs
  refine ⟨(safe_split P hinj ops [] x hx (by rwa [List.append_nil])).1, fun pre op post hsplit => ?_⟩
  subst hsplit
  obtain ⟨hx', hok, _⟩ := safe_split P hinj pre (op :: post) x hx hs
  have snoc : run x (pre ++ [op]) = applyOp (run x pre) op := by simp [run]
  rw [snoc]
  refine ⟨hx', fun r x' he => ⟨(step_preserves P hinj hx' hok he).1, by simp [applyOp, he]⟩, fun hne => ?_⟩
  unfold applyOp
  split
  · exact absurd ‹_› (hne _ _)
  · rfl

/- the hypotheses are satisfiable: one declaration in play, a three-step run (append a tuple, replace
it, delete out of range = rejected) -/
def declIS : List Ty := [Ty.int, Ty.str]
def onlyIS (d : List Ty) : Bool := d == declIS
theorem inj_onlyIS : Inj onlyIS := by
  intro d1 d2 h1 h2 _
  simp [onlyIS] at h1 h2
  rw [h1, h2]

def tIS (i : Int64) : Val := .tup declIS [.int i, .str [97]]
def exOps : List Op := [.mem .concat [tIS 1], .mem .put [.int 0, tIS 3], .mem .delete [.int 5]]
def exTab : Val := .tab (makeTupleTy declIS 1) declIS []

theorem exOps_safe : ∀ x, Safe onlyIS x exOps := by
  intro x
  have lb : ∀ t (i : Int64), KF.levelBug t (tIS i) = false := by
    intro t i; simp [KF.levelBug, tIS, Val.type, makeTupleTy_major]
  refine ⟨⟨?_, ?_⟩, ⟨?_, ?_⟩, ⟨?_, ?_⟩, trivial⟩
  · intro a ha; simp at ha; subst ha; decide
  · intro t d es a _ he; simp [KF.elemArg] at he; subst he; exact lb t 1
  · intro a ha; simp at ha; rcases ha with rfl | rfl <;> decide
  · intro t d es a _ he; simp [KF.elemArg] at he; subst he; exact lb t 3
  · intro a ha; simp at ha; subst ha; decide
  · intro t d es a _ he; simp [KF.elemArg] at he

example : UniformIn onlyIS exTab ∧ Safe onlyIS exTab exOps ∧
    (run exTab exOps == .tab (makeTupleTy declIS 1) declIS [tIS 3]) = true :=
  ⟨by decide +kernel, exOps_safe exTab, by decide +kernel⟩

/-- the hypotheses are also satisfiable by a run whose steps give a typed null of the other numeric type
(the cells repaired by 373dc26): `t = tab(1, 0); t.put(0, num()); t.concat(num());` ends as `Ti1[N:i0,N:i0]` -/
def nullOps : List Op := [.mem .put [.int 0, .null Ty.num], .mem .concat [.null Ty.num]]

theorem nullOps_safe : Safe onlyIS (ti1 [.int 0]) nullOps := by
  have lb : ∀ es t d es' a, ti1 es = .tab t d es' → a = .null Ty.num → KF.levelBug t a = false := by
    intro es t d es' a hx ha
    simp [ti1] at hx
    subst ha
    rw [← hx.1]; decide
  refine ⟨⟨?_, ?_⟩, ⟨?_, ?_⟩, trivial⟩
  · intro a ha; simp at ha; rcases ha with rfl | rfl <;> decide
  · intro t d es a hx he; simp [KF.elemArg] at he; exact lb _ t d es a hx he.symm
  · intro a ha; simp at ha; subst ha; decide
  · intro t d es a hx he; simp [KF.elemArg] at he
    have e : applyOp (ti1 [.int 0]) (.mem .put [.int 0, .null Ty.num]) = ti1 [.null Ty.int] := by rfl
    rw [e] at hx; exact lb _ t d es a hx he.symm

example : UniformIn onlyIS (ti1 [.int 0]) ∧ Safe onlyIS (ti1 [.int 0]) nullOps ∧
    (run (ti1 [.int 0]) nullOps == ti1 [.null Ty.int, .null Ty.int]) = true ∧
    UniformIn onlyIS (run (ti1 [.int 0]) nullOps) :=
  ⟨by decide +kernel, nullOps_safe, by decide +kernel, (uniform_preserved_partial onlyIS inj_onlyIS nullOps _ (by decide +kernel) nullOps_safe).1⟩

/-- `uniform_preserved_partial` with the conclusion in plain `Uniform` (monotonicity `uniformP P v → uniform v`,
`uniformIn_uniform`): along every safe run the variable and every returned value are uniform. The hypotheses stay those of
`uniform_preserved_partial` — they cannot be dropped (`uniform_preserved_fails`). -/
theorem uniform_preserved_plain (P : List Ty → Bool) (hinj : Inj P) (ops : List Op) (x : Val)
    (hx : UniformIn P x) (hs : Safe P x ops) :
    Uniform (run x ops) ∧
    (∀ (pre : List Op) (op : Op) (post : List Op), ops = pre ++ op :: post →
      Uniform (run x pre) ∧ (∀ r x', stepRes (run x pre) op = .ok (r, x') → Uniform r ∧ Uniform x')) := by
  refine ⟨uniformIn_uniform (safe_split P hinj ops [] x hx (by rwa [List.append_nil])).1, fun pre op post hsplit => ?_⟩
  subst hsplit
  obtain ⟨hx', hok, _⟩ := safe_split P hinj pre (op :: post) x hx hs
  exact ⟨uniformIn_uniform hx', fun r x' he => (step_preserves P hinj hx' hok he).imp uniformIn_uniform uniformIn_uniform⟩

example : Uniform (run (ti1 [.int 0]) nullOps) :=
  (uniform_preserved_plain onlyIS inj_onlyIS nullOps _ (by decide +kernel) nullOps_safe).1

/-- The unrestricted statement is false: a uniform start and uniform arguments do not suffice
(refuted at the hash-collision witness `tabA`, `tB`; `uniform_broken_by_level_mixing` is a second one). -/
theorem uniform_preserved_fails :
    ¬ (∀ (ops : List Op) (x : Val), Uniform x → (∀ m args, Op.mem m args ∈ ops → ∀ a ∈ args, Uniform a) →
        Uniform (run x ops)) := by
  intro h
  have := h [.mem .put [.int 0, tB]] tabA (by decide +kernel) (by
    intro m args hm a ha
    simp at hm
    obtain ⟨_, rfl⟩ := hm
    simp at ha
    rcases ha with rfl | rfl <;> decide)
  revert this
  decide

/-- `t.at(p)` for every position value `p`: the element for an integer 0 ≤ p < n, the index error for a
null or out-of-range position, a refusal for anything that is not an integer. -/
theorem at_index_contract (P) (t : Ty) (d : List Ty) (es : List Val) (p : Val) (hp : uniformP P p = true) :
    Sat (mAt (.tab t d es) p) (Spec.tabAt (.tab t d es) es p) := by
  rw [mAt_tab]
  unfold Spec.tabAt
  cases hpos : Spec.pos p es.length with
  | error e => exact memPos_reject P hp hpos _
  | ok i =>
    rw [(memPos_ok hpos).1]
    simp only [Lemmas.Res.ok_bind]
    cases es[i]? <;> rfl

/-- `t.delete(p)` for every position value. -/
theorem delete_index_contract (P) (t : Ty) (d : List Ty) (es : List Val) (p : Val) (c : Bool) (hp : uniformP P p = true) :
    Sat (mDelete (.tab t d es) p c) (Spec.tabDelete t d es p) := by
  rw [mDelete_tab]
  refine memPos_sat P hp fun i _ => ?_
  rw [listDel_eq_eraseIdx]; rfl

theorem itemNo_small (rank : Nat) (hr : rank < 4294967296) : itemNo rank = .ok rank :=
  if_neg (by omega)

theorem itemIndex_small (rank : Nat) (h1 : 1 ≤ rank) (hr : rank < 4294967296) : itemIndex rank = rank - 1 := by
  unfold itemIndex
  omega

/-- rank 0 wraps to the index 2^32 − 1: hence the bound on `n` -/
theorem itemIndex_lt (rank n : Nat) (hr : rank < 4294967296) (hn : n < 4294967295) :
    itemIndex rank < n ↔ 1 ≤ rank ∧ rank ≤ n := by
  unfold itemIndex
  omega

/-- tuples: `u@rank` reads item `rank` (index rank − 1) for 1 ≤ rank ≤ n and raises the index error for every
other index; with `itemNo_small` / `itemIndex_small` / `itemIndex_lt`: for every rank below 2^32 (rank 0 wraps to
index 2^32 − 1, which no tuple has). Ranks ≥ 2^32 are refused at compile time (`acceptItem`). -/
theorem item_index_contract (decl : List Ty) (items : List Val) (hlen : decl.length = items.length) :
    (∀ idx, idx < items.length → ∃ v, items[idx]? = some v ∧ itemAtV (.tup decl items) idx = .ok v) ∧
    (∀ idx, ¬ idx < items.length → itemAtV (.tup decl items) idx = idxErr) := by
  constructor
  · intro idx h
    refine ⟨items[idx], by simp [h], ?_⟩
    simp [itemAtV, Val.isNull, hlen, h]
  · intro idx h
    simp [itemAtV, Val.isNull, hlen, h]

/-- (Model = Spec). `t.put(p, x)` on a uniform table, for EVERY position value `p` and EVERY uniform
element argument `x` outside the level-mixing region (hash collisions are excluded by `Inj P`): the model's outcome is the
specification's — the table with element `p` replaced by `x` (converted / as the typed null it denotes) where the Spec says
`ok` / `either`, the index error for a null or out-of-range position, a refusal where the Spec refuses. -/
theorem put_refines (P) (hinj : Inj P) (t : Ty) (d : List Ty) (es : List Val) (p x : Val) (c : Bool)
    (hx : UniformIn P (.tab t d es)) (hcx : canon (.tab t d es) = true)
    (hp : UniformIn P p) (ha : UniformIn P x) (hca : canonTy x.type = true)
    (hl : KF.levelBug t x = false) :
    Sat (mPut (.tab t d es) p x c) (Spec.tabPut t d es p x) := by
  obtain ⟨hh, hpd, hes⟩ := tab_parts hx
  obtain ⟨hct, hce⟩ := canon_tab_parts hcx
  rw [mPut_tab]
  refine memPos_sat P hp fun i hlt => ?_
  -- the element replaced has the table's element type: the type an adopted untyped null is given
  have hm : es[i] ∈ es := List.getElem_mem hlt
  have hold := (uniformAll_iff ..).1 hes _ hm
  have rel := classify_fit P hinj .put t d x es[i].type hh hpd hct ha hca hl
    (fun hnt => (type_of_ety_eq hh hct hold.2 (hce _ hm) hold.1).1.trans (levelDown_tyOfETy t d hct hnt))
    (fun _ _ _ => rfl)
  simp only [List.getElem?_eq_getElem hlt, listPut_eq_set es i _ hlt]
  exact slotRel_sat (fun v => .tab t d (es.set i v)) rel

example : Sat (mPut (ti1 [.int 0, .int 5]) (.int 1) (.num 0x4004000000000000) false)
    (Spec.tabPut { major := .int, level := 1 } [] [.int 0, .int 5] (.int 1) (.num 0x4004000000000000)) :=
  put_refines onlyIS inj_onlyIS _ _ _ _ _ _ (by decide +kernel) (by decide +kernel) (by decide +kernel) (by decide +kernel) (by decide +kernel) (by decide +kernel)

/-- (Model = Spec). `t.insert(p, x)` for every position value and every uniform argument outside the
level-mixing region: one element (converted / typed null) or the elements of a table of the receiver's own type — in
REVERSE order, UNDETERMINED BY DOCUMENTATION = what the code does — are spliced in at `p` (0 ≤ p ≤ n); a null table / null
tuple leaves the receiver as it is; index error for a null or out-of-range position; refusal of a non-fitting element. -/
theorem insert_refines (P) (hinj : Inj P) (t : Ty) (d : List Ty) (es : List Val) (p x : Val) (c : Bool)
    (hx : UniformIn P (.tab t d es)) (hcx : canon (.tab t d es) = true)
    (hp : UniformIn P p) (ha : UniformIn P x) (hca : canonTy x.type = true)
    (hl : KF.levelBug t x = false) :
    Sat (mInsert (.tab t d es) p x c) (Spec.tabInsert (.tab t d es) t d es p x) := by
  rw [mInsert_tab]
  exact memPos_sat P hp fun i _ => classify_addOf P hinj .insert (by decide +kernel) hx
    (canon_tab_parts hcx).1 ha hca hl fun vs => .tab t d (es.take i ++ vs.reverse ++ es.drop i)

example : Sat (mInsert (ti1 [.int 0, .int 5]) (.int 1) (ti1 [.int 7, .int 8]) false)
    (Spec.tabInsert (ti1 [.int 0, .int 5]) { major := .int, level := 1 } [] [.int 0, .int 5] (.int 1) (ti1 [.int 7, .int 8])) :=
  insert_refines onlyIS inj_onlyIS _ _ _ _ _ _ (by decide +kernel) (by decide +kernel) (by decide +kernel) (by decide +kernel) (by decide +kernel) (by decide +kernel)
/-- … and what that outcome is: the inserted table appears reversed -/
example : mInsert (ti1 [.int 0, .int 5]) (.int 1) (ti1 [.int 7, .int 8]) false =
    .ok (ti1 [.int 0, .int 8, .int 7, .int 5], ti1 [.int 0, .int 8, .int 7, .int 5]) := by rfl

/-- (Model = Spec). `t.concat(x)` for every uniform argument outside the level-mixing region: the element
(converted / typed null) or the elements of a table of the receiver's own type are appended, in order; a null table / null
tuple leaves the receiver as it is; a non-fitting argument is refused. -/
theorem concat_refines (P) (hinj : Inj P) (t : Ty) (d : List Ty) (es : List Val) (x : Val) (c : Bool)
    (hx : UniformIn P (.tab t d es)) (hcx : canon (.tab t d es) = true)
    (ha : UniformIn P x) (hca : canonTy x.type = true) (hl : KF.levelBug t x = false) :
    Sat (mConcat (.tab t d es) x c) (Spec.tabConcat (.tab t d es) t d es x) := by
  rw [mConcat_tab t d es x c (tab_level_pos hx)]
  exact classify_addOf P hinj .concat (by decide +kernel) hx (canon_tab_parts hcx).1 ha hca hl fun vs =>
    .tab t d (es ++ vs)

example : Sat (mConcat (td1 [.num 0]) (.int 3) false)
    (Spec.tabConcat (td1 [.num 0]) { major := .num, level := 1 } [] [.num 0] (.int 3)) :=
  concat_refines onlyIS inj_onlyIS _ _ _ _ _ (by decide +kernel) (by decide +kernel) (by decide +kernel) (by decide +kernel) (by decide +kernel)

/-- at / delete / count refine the Spec on every table and every position value (`at_index_contract` and
`delete_index_contract` are stated against the full Spec outcome: element / erased list / index error). -/
theorem at_delete_count_refine (P) (t : Ty) (d : List Ty) (es : List Val) (p : Val) (c : Bool) (hp : UniformIn P p) :
    Sat (mAt (.tab t d es) p) (Spec.tabAt (.tab t d es) es p) ∧
    Sat (mDelete (.tab t d es) p c) (Spec.tabDelete t d es p) ∧
    mCount (.tab t d es) = .ok (.int (Int64.ofNat es.length), .tab t d es) :=
  ⟨at_index_contract P t d es p hp, delete_index_contract P t d es p c hp, rfl⟩

example : Sat (mAt (ti1 [.int 4]) (.int 0)) (.ok (.int 4) (ti1 [.int 4])) := by
  have := (at_delete_count_refine onlyIS { major := .int, level := 1 } [] [.int 4] (.int 0) false (by decide +kernel)).1
  exact this

def specOp (x : Val) : Op → Option SOut
  | .mem m args => Spec.specMember m x args
  | .set rank a => Spec.specSet x rank a

/-- the variable after a call whose Spec outcome is `o`: the Spec's new receiver, the old one after a refusal, one of
the two where the Spec leaves the choice (`either`) -/
def SpecNext (x : Val) (o : SOut) (x' : Val) : Prop :=
  match o with
  | .ok _ y => x' = y
  | .reject _ => x' = x
  | .either _ y => x' = y ∨ x' = x

/-- a run of the variable that the Spec allows: every step is in the Spec's domain and goes to a receiver the Spec names -/
inductive SpecRun : Val → List Op → Val → Prop
  | nil (x : Val) : SpecRun x [] x
  | cons (x : Val) (op : Op) (ops : List Op) (x' x'' : Val) (o : SOut) :
      specOp x op = some o → SpecNext x o x' → SpecRun x' ops x'' → SpecRun x (op :: ops) x''

theorem sat_next {x : Val} {op : Op} {o : SOut} (h : Sat (stepRes x op) o) : SpecNext x o (applyOp x op) := by
  unfold applyOp
  cases o with
  | ok r y => simp only [Sat] at h; rw [h]; rfl
  | reject e =>
    cases e with
    | index | range => rw [show _ = _ from h]; rfl
    | type | any => obtain ⟨c, a, h⟩ := h; rw [h]; rfl
  | either r y =>
    simp only [Sat] at h
    rcases h with h | ⟨c, a, h⟩ <;> rw [h]
    · left; rfl
    · right; rfl

/-- the induction behind the op-sequence theorems: `Inv` holds of the variable at the start and every admissible step is in
the Spec's domain, has the Spec's outcome and keeps `Inv` -/
theorem run_refines (Inv : Val → Prop) (Good : Op → Prop)
    (hstep : ∀ x op, Inv x → Good op → ∃ o, specOp x op = some o ∧ Sat (stepRes x op) o ∧ Inv (applyOp x op)) :
    ∀ (ops : List Op) (x : Val), Inv x → (∀ op ∈ ops, Good op) → SpecRun x ops (run x ops) ∧ Inv (run x ops)
  | [], x, hx, _ => ⟨.nil _, hx⟩
  | op :: ops, x, hx, hg => by
    obtain ⟨o, hspec, hsat, hinv⟩ := hstep x op hx (hg op (by simp))
    obtain ⟨ih1, ih2⟩ := run_refines Inv Good hstep ops _ hinv fun op' h => hg op' (by simp [h])
    exact ⟨.cons _ op ops _ _ o hspec (sat_next hsat) ih1, ih2⟩

def arityOk : Member → List Val → Bool
  | .at, [_] | .delete, [_] | .concat, [_] | .put, [_, _] | .insert, [_, _] | .count, [] => true
  | _, _ => false

/-- a member call with the right number of arguments, uniform arguments in the image of the implementation, outside the
level-mixing region of a table of type `t` -/
def OpGood (P : List Ty → Bool) (t : Ty) : Op → Prop
  | .mem m args => arityOk m args = true ∧ (∀ a ∈ args, uniformP P a = true ∧ canon a = true) ∧
      (∀ a, KF.elemArg m args = some a → KF.levelBug t a = false)
  | .set _ _ => False

theorem step_refines (P) (hinj : Inj P) {t : Ty} {d : List Ty} {es : List Val} {op : Op}
    (hx : UniformIn P (.tab t d es)) (hcx : canon (.tab t d es) = true) (hg : OpGood P t op) :
    ∃ o, specOp (.tab t d es) op = some o ∧ Sat (stepRes (.tab t d es) op) o := by
  cases op with
  | set r a => exact absurd hg id
  | mem m args =>
    obtain ⟨har, hargs, hreg⟩ := hg
    -- by the cases of `arityOk` (at, delete, concat, put, insert, count); `har` goes along, so the catch-all case has `false = true`
    revert har
    fun_cases arityOk m args
    all_goals intro har
    next p => exact ⟨_, spec_dom hx _, at_index_contract P t d es p (hargs p (by simp)).1⟩
    next p => exact ⟨_, spec_dom hx _, delete_index_contract P t d es p false (hargs p (by simp)).1⟩
    next x =>
      have hxx := hargs x (by simp)
      exact ⟨_, spec_dom hx _, concat_refines P hinj t d es x false hx hcx hxx.1 (canon_type hxx.2) (hreg x rfl)⟩
    next p x =>
      have hp := hargs p (by simp)
      have hxx := hargs x (by simp)
      exact ⟨_, spec_dom hx _, put_refines P hinj t d es p x false hx hcx hp.1 hxx.1 (canon_type hxx.2) (hreg x rfl)⟩
    next p x =>
      have hp := hargs p (by simp)
      have hxx := hargs x (by simp)
      exact ⟨_, spec_dom hx _, insert_refines P hinj t d es p x false hx hcx hp.1 hxx.1 (canon_type hxx.2) (hreg x rfl)⟩
    next => exact ⟨.ok (.int (Int64.ofNat es.length)) (.tab t d es), spec_dom hx _, rfl⟩
    next => cases har

/-- one step keeps the header, the uniformity and the canonical minors: the elements afterwards are old ones or what `classify`
handed over (`tab_edit`) -/
theorem step_invariant (P) (hinj : Inj P) {t : Ty} {d : List Ty} {es : List Val} {op : Op}
    (hx : UniformIn P (.tab t d es)) (hcx : canon (.tab t d es) = true) (hg : OpGood P t op) :
    ∃ es', applyOp (.tab t d es) op = .tab t d es' ∧ UniformIn P (.tab t d es') ∧ canon (.tab t d es') = true := by
  cases op with
  | set r a => exact absurd hg id
  | mem m args =>
    obtain ⟨_, hargs, hreg⟩ := hg
    unfold applyOp
    split
    case h_2 => exact ⟨es, rfl, hx, hcx⟩
    rename_i r x' he
    have hu := (member_preserves P hinj hx (fun a ha => (hargs a ha).1) (fun _ _ _ a e => by cases e; exact hreg a) he).2
    obtain ⟨hct, hce⟩ := canon_tab_parts hcx
    obtain ⟨_, es', rfl, hes'⟩ := tab_edit (tab_level_pos hx) he
    refine ⟨es', rfl, hu, ?_⟩
    simp only [canon, Val.type, Bool.and_eq_true, List.all_eq_true]
    refine ⟨hct, fun e he => ?_⟩
    rcases hes' e he with h | ⟨a, ha, k, nullTy, s, hn, hc, hv⟩
    · exact hce e h
    · refine classify_canon (hargs a (elemArg_mem ha)).2 ?_ hc e hv
      rcases hn with rfl | ⟨old, ho, rfl⟩
      · exact hct     -- `canonTy` does not look at the level
      · exact hce old ho

/-- the op-SEQUENCE theorem against the Spec. For every list of member calls (at / put / insert /
delete / concat / count, any position values, any uniform arguments) applied to a uniform table, outside the recorded
finding regions (C09.mix.level: `OpGood`; hash collisions: `Inj P`): the whole run is a run the specification allows
(`SpecRun`: each step's receiver is the one the Spec's list-level function names — `List.set`, take/drop splice, append,
`List.eraseIdx` —, the old receiver after a refusal), and before every step the variable is a table with the SAME header,
plainly `Uniform` (monotonicity `uniformIn_uniform`), and the model's outcome of the step — result value, receiver, error
class — is the Spec's (`Sat`). By induction over the operation list. -/
theorem ops_refine_spec (P : List Ty → Bool) (hinj : Inj P) (t : Ty) (d : List Ty) :
    ∀ (ops : List Op) (es : List Val), UniformIn P (.tab t d es) → canon (.tab t d es) = true →
      (∀ op ∈ ops, OpGood P t op) →
      SpecRun (.tab t d es) ops (run (.tab t d es) ops) ∧
      (∃ es', run (.tab t d es) ops = .tab t d es' ∧ Uniform (.tab t d es')) ∧
      (∀ (pre : List Op) (op : Op) (post : List Op), ops = pre ++ op :: post →
        ∃ es' o, run (.tab t d es) pre = .tab t d es' ∧ Uniform (.tab t d es') ∧ UniformIn P (.tab t d es') ∧
          specOp (.tab t d es') op = some o ∧ Sat (stepRes (.tab t d es') op) o) := by
  intro ops es hx hcx hg
  have along := run_refines
    (fun x => ∃ es, x = .tab t d es ∧ UniformIn P (.tab t d es) ∧ canon (.tab t d es) = true) (OpGood P t)
    (fun x op ⟨es, he, hx, hcx⟩ hg => by
      subst he
      obtain ⟨o, hspec, hsat⟩ := step_refines P hinj hx hcx hg
      exact ⟨o, hspec, hsat, step_invariant P hinj hx hcx hg⟩)
  obtain ⟨h1, es1, he1, hx1, _⟩ := along ops _ ⟨es, rfl, hx, hcx⟩ hg
  refine ⟨h1, ⟨es1, he1, uniformIn_uniform hx1⟩, fun pre op post hsplit => ?_⟩
  subst hsplit
  obtain ⟨_, es', he, hx', hcx'⟩ := along pre _ ⟨es, rfl, hx, hcx⟩ fun op' h => hg op' (by simp [h])
  obtain ⟨o, hspec, hsat⟩ := step_refines P hinj hx' hcx' (hg op (by simp))
  exact ⟨es', o, he, uniformIn_uniform hx', hx', hspec, hsat⟩

/-- the hypotheses are satisfiable by a non-trivial run: insert a table (reversed), put a decimal (converted), a rejected
delete, concat of an untyped null -/
def refOps : List Op := [.mem .insert [.int 1, ti1 [.int 7, .int 8]], .mem .put [.int 0, .num 0x4004000000000000],
  .mem .delete [.int 9], .mem .concat [.null Ty.none]]

theorem refOps_good : ∀ op ∈ refOps, OpGood onlyIS { major := .int, level := 1 } op := by
  intro op h
  simp [refOps] at h
  rcases h with rfl | rfl | rfl | rfl
  all_goals
    refine ⟨rfl, ?_, ?_⟩
    · intro a ha; simp at ha
      first
        | (rcases ha with rfl | rfl <;> exact ⟨by decide +kernel, by decide +kernel⟩)
        | (subst ha; exact ⟨by decide +kernel, by decide +kernel⟩)
    · intro a he; simp [KF.elemArg] at he
      try (subst he; decide)

example : (run (ti1 [.int 0, .int 5]) refOps == ti1 [.int 2, .int 8, .int 7, .int 5, .null Ty.int]) = true ∧
    SpecRun (ti1 [.int 0, .int 5]) refOps (run (ti1 [.int 0, .int 5]) refOps) :=
  ⟨by decide +kernel, (ops_refine_spec onlyIS inj_onlyIS _ _ refOps _ (by decide +kernel) (by decide +kernel) refOps_good).1⟩

theorem code_not_index (x : Val) : Spec.code x ≠ .error .index := by
  unfold Spec.code
  split
  · split <;> simp
  · simp
  · simp

/-- strings and bytes: `s.at(p)` for every position value. -/
theorem seq_at_refines (P) {mk : Bytes → Val} (hmk : mk = Val.str ∨ mk = Val.raw) (s : Bytes) (p : Val) (hp : uniformP P p = true) :
    Sat (mAt (mk s) p) (Spec.seqAt (mk s) s p) := by
  rw [mAt_seq hmk]
  unfold Spec.seqAt
  cases hpos : Spec.pos p s.length with
  | error e => exact memPos_reject P hp hpos _
  | ok i =>
    rw [(memPos_ok hpos).1]
    simp only [Lemmas.Res.ok_bind]
    cases s[i]? <;> rfl

/-- bytes: `r.at(p)` for every position value (the case `mk = Val.raw` of `seq_at_refines`) -/
theorem raw_at_refines (P) (s : Bytes) (p : Val) (hp : UniformIn P p) :
    Sat (mAt (.raw s) p) (Spec.seqAt (.raw s) s p) :=
  seq_at_refines P (.inr rfl) s p hp

/-- `s.put(p, c)` on a string variable and on bytes, for every position value and every argument:
the character at `p` is replaced by the code `c` (0..255), OUT_OF_RANGE for another integer, the index error for a null or
out-of-range position, a refusal for a null or non-integer code. -/
theorem seq_put_refines (P) (s : Bytes) (p x : Val) (c : Bool) (hp : UniformIn P p) (hx : UniformIn P x) :
    Sat (mPut (.str s) p x false) (Spec.seqPut Val.str s p x) ∧
    Sat (mPut (.raw s) p x c) (Spec.seqPut Val.raw s p x) :=
  ⟨by rw [mPut_str]; exact putBytes_sat P hp hx, by rw [mPut_raw]; exact putBytes_sat P hp hx⟩

example : mPut (.str [97, 98]) (.int 1) (.int 65) false = .ok (.str [97, 65], .str [97, 65]) ∧
    Spec.seqPut Val.str [97, 98] (.int 1) (.int 65) = .ok (.str [97, 65]) (.str [97, 65]) := by
  constructor <;> rfl

/-- `s.insert(p, x)` on a string variable / bytes, every position value, every argument: a string
(bytes receivers: also bytes) or one character code is spliced in at `p` (0 ≤ p ≤ n), any null leaves the receiver as it
is, OUT_OF_RANGE for a code outside 0..255, the index error for a null / out-of-range position, a refusal otherwise. -/
theorem seq_insert_refines (P) (s : Bytes) (p x : Val) (c : Bool) (hp : UniformIn P p) (hx : UniformIn P x) :
    Sat (mInsert (.str s) p x false) (Spec.seqInsert (.str s) Val.str false s p x) ∧
    Sat (mInsert (.raw s) p x c) (Spec.seqInsert (.raw s) Val.raw true s p x) :=
  ⟨by rw [mInsert_str]; exact insBytes_sat P hp hx, by rw [mInsert_raw]; exact insBytes_sat P hp hx⟩

example : mInsert (.str [97, 98]) (.int 1) (.str [120, 121]) false = .ok (.str [97, 120, 121, 98], .str [97, 120, 121, 98]) := by rfl

/-- `s.delete(p)` on a string variable / bytes for every position value. -/
theorem seq_delete_refines (P) (s : Bytes) (p : Val) (c : Bool) (hp : UniformIn P p) :
    Sat (mDelete (.str s) p false) (Spec.seqDelete Val.str s p) ∧
    Sat (mDelete (.raw s) p c) (Spec.seqDelete Val.raw s p) :=
  ⟨by rw [mDelete_str]; exact delBytes_sat P hp, by rw [mDelete_raw]; exact delBytes_sat P hp⟩

/-- `s.concat(x)` on a non-null string variable / bytes for every argument: a string (bytes
receivers: also bytes) or one character code is appended, any null leaves the receiver as it is, OUT_OF_RANGE for a code
outside 0..255, a refusal otherwise (bytes given to a string: NOT_TABCHAR by fall-through). -/
theorem seq_concat_refines (P) (s : Bytes) (x : Val) (c : Bool) (hx : UniformIn P x) :
    Sat (mConcat (.str s) x false) (Spec.seqConcat (.str s) Val.str false s x) ∧
    Sat (mConcat (.raw s) x c) (Spec.seqConcat (.raw s) Val.raw true s x) :=
  ⟨by rw [mConcat_str]; exact catBytes_sat P hx, by rw [mConcat_raw]; exact catBytes_sat P hx⟩

example : mConcat (.raw [0]) (.str [97]) false = .ok (.raw [0, 97], .raw [0, 97]) ∧
    (match mConcat (.str [97]) (.raw [0]) false with | .err c _ => c == Gen.EXC_RT_NOT_TABCHAR | _ => false) = true :=
  ⟨by rfl, by decide +kernel⟩

/-- (Model = Spec). `u.set@rank(x)` on a uniform tuple, for every rank below 2^32 (larger ranks are refused
at compile time, `acceptSet`) and every uniform argument: item `rank` (1-based) is replaced by `x` — as it is, as the typed
null it denotes, or converted int↔decimal (`either`) —, the index error for rank 0 and ranks above the number of items, a
refusal for a non-fitting value or a table. -/
theorem set_refines (P) (hinj : Inj P) (decl : List Ty) (items : List Val) (rank : Nat) (x : Val)
    (hu : UniformIn P (.tup decl items)) (hx : UniformIn P x) (hcx : canonTy x.type = true)
    (hrank : rank < 4294967296) (hlen : items.length < 4294967295) :
    ∃ o, Spec.specSet (.tup decl items) rank x = some o ∧ Sat (stepRes (.tup decl items) (.set rank x)) o := by
  have hlen' := tup_length P hu
  unfold Spec.specSet
  simp only [stepRes, itemNo_small rank hrank, spec_dom hu]
  by_cases hl : x.type.level = 0
  · have hl' : (x.type.level != 0) = false := by simp [hl]
    simp only [hl', Bool.false_eq_true, ↓reduceIte]
    by_cases hr : 1 ≤ rank ∧ rank ≤ items.length
    · have hidx : itemIndex rank = rank - 1 := itemIndex_small rank hr.1 hrank
      have hlt : rank - 1 < decl.length := by omega
      have hlt' : rank - 1 < items.length := by omega
      obtain ⟨dt, old, hdt, hold, hold_ty, hdts⟩ := tup_item P hu hlt
      obtain ⟨hl0, hnt, hnn, hcan⟩ := scalarTy_facts dt hdts
      -- the item type as the header of a one-dimensional table
      obtain ⟨hh, hE⟩ := header_levelUp dt [] hnn (by omega) (.inr ⟨hnt, rfl⟩)
      rw [hl0] at hE
      have hct : canonTy dt.levelUp = true := beq_iff_eq.2 hcan     -- `canonTy` does not look at the level
      have hlb : KF.levelBug dt.levelUp x = false := by
        simp [KF.levelBug, Ty.levelUp, hl0]
      have hnull : dt.levelUp.major ≠ .tup → old.type = tyOfETy (elemETy dt.levelUp []) :=
        fun h => hold_ty.trans (levelDown_tyOfETy dt.levelUp [] hct h)
      have rel := classify_fit P hinj .put dt.levelUp [] x old.type hh (fun h => absurd h (by simpa [Ty.levelUp] using hnt))
        hct hx hcx hlb hnull (fun _ _ _ => rfl)
      rw [← hE] at rel
      rw [hidx, setItemV_eq decl items (rank - 1) x dt old hl hnt hnn hdt hold]
      simp only [hr, and_self, ↓reduceIte, hdt, listPut_eq_set items (rank - 1) _ hlt']
      cases hig : ignoredNull x with
      | false =>
        have := slotRel_sat (fun v => .tup decl (items.set (rank - 1) v)) (ign := false) (hig ▸ rel)
        cases hf : fit (mkETy dt [] 0) x <;> rw [hf] at this <;> exact ⟨_, rfl, this⟩
      | true =>
        rw [fit_ign_lvl0 (mkETy dt [] 0) x hig hl (by rw [mkETy_nontup dt [] 0 hnt]; exact hnt)] at rel ⊢
        exact ⟨_, rfl, slotRel_sat _ rel⟩
    · simp only [hr, ↓reduceIte]
      refine ⟨_, rfl, ?_⟩
      have hge : ¬ itemIndex rank < decl.length := by rw [itemIndex_lt rank _ hrank (by omega), hlen']; exact hr
      simp [setItemV, Val.isNull, hl, hge, Sat, idxErr]
  · have hl' : (x.type.level != 0) = true := by simpa using hl
    simp only [hl', ↓reduceIte]
    refine ⟨_, rfl, ?_⟩
    simp [setItemV, Val.isNull, hl', Sat]

example : ∃ o, Spec.specSet (tIS 1) 1 (.num 0x4004000000000000) = some o ∧ Sat (stepRes (tIS 1) (.set 1 (.num 0x4004000000000000))) o :=
  set_refines onlyIS inj_onlyIS _ _ 1 _ (by decide +kernel) (by decide +kernel) (by decide +kernel) (by decide +kernel) (by decide +kernel)
example : stepRes (tIS 1) (.set 1 (.num 0x4004000000000000)) = .ok (tIS 2, tIS 2) := by rfl

/-- `u@rank` on a uniform tuple for every rank below 2^32: item `rank` (1-based), the index error for
rank 0 and ranks above the number of items. -/
theorem item_refines (P) (decl : List Ty) (items : List Val) (rank : Nat)
    (hu : UniformIn P (.tup decl items)) (hrank : rank < 4294967296) (hlen : items.length < 4294967295) :
    match Spec.specItem (.tup decl items) rank with
    | some (.ok v _) => itemAtV (.tup decl items) (itemIndex rank) = .ok v
    | some (.reject _) => itemAtV (.tup decl items) (itemIndex rank) = idxErr
    | _ => False := by
  obtain ⟨h1, h2⟩ := item_index_contract decl items (tup_length P hu)
  unfold Spec.specItem
  simp only [spec_dom hu]
  by_cases hr : 1 ≤ rank ∧ rank ≤ items.length
  · have hidx : itemIndex rank = rank - 1 := itemIndex_small rank hr.1 hrank
    obtain ⟨v, hv, hm⟩ := h1 (rank - 1) (by omega)
    simp only [hr, and_self, ↓reduceIte, hv, hidx, hm]
  · simp only [hr, ↓reduceIte]
    apply h2
    rw [itemIndex_lt rank _ hrank hlen]; exact hr

/-! ### "a table being traversed by forall cannot change": the parse-time lock -/

/-- locked ⇒ every mutating member is refused, every non-mutating one is accepted (the head test of
`Member{CONCAT,PUT,DELETE,INSERT,SET}Expression::parse`; `at` and `count` have none): for a receiver expression whose
`symbolId()` is a locked symbol — the variable itself or any chain `t.at(i).…` / `t@N.…` hanging off it. -/
theorem lock_refuses_mutating (op : MemberOp) (recv : RecvExp) (fl : Nat → Bool) (s : Nat)
    (hs : recv.symbolId = some s) (hl : fl s = true) :
    lockRefuses op recv fl = op.mutating ∧
    (op.mutating = true ↔ op = .m .concat ∨ op = .m .put ∨ op = .m .delete ∨ op = .m .insert ∨ op = .set) := by
  constructor
  · simp [lockRefuses, recvLocked, hs, hl]
  · cases op with
    | set => simp [MemberOp.mutating]
    | m m => cases m <;> simp [MemberOp.mutating]

/-- an unlocked receiver, or one without a symbol, is never refused by the lock test -/
theorem lock_accepts_unlocked (op : MemberOp) (recv : RecvExp) (fl : Nat → Bool)
    (h : ∀ s, recv.symbolId = some s → fl s = false) : lockRefuses op recv fl = false := by
  unfold lockRefuses recvLocked
  cases hs : recv.symbolId with
  | none => simp
  | some s => simp [h s hs]

/-- the lock test inside the full compile-time check: with a locked receiver the four mutating methods and `set@` answer
CONST_VIOLATION whatever the arguments are (once the receiver's static type reaches the built-in members at all); `at` and
`count` do not look at the flag. -/
theorem accept_locked (m : Member) (exp : Ty) (args : List Ty) (hd : memberDispatch exp = none) :
    ((MemberOp.m m).mutating = true → acceptMember m exp args true = some Gen.EXC_PARSE_CONST_VIOLATION_S) ∧
    ((MemberOp.m m).mutating = false → acceptMember m exp args true = acceptMember m exp args false) ∧
    (∀ decl rank arg, acceptSet exp decl rank arg true = some Gen.EXC_PARSE_CONST_VIOLATION_S) := by
  refine ⟨?_, ?_, ?_⟩
  · intro h
    cases m <;> simp [MemberOp.mutating] at h <;> simp [acceptMember, hd]
  · intro h
    cases m <;> simp [MemberOp.mutating] at h <;> simp [acceptMember, hd]
  · intro decl rank arg
    simp [acceptSet, hd]

example : memberDispatch { major := .int, level := 1 } = none := by decide +kernel
example : acceptMember .delete { major := .int, level := 1 } [Ty.int] false = none ∧
    acceptMember .delete { major := .int, level := 1 } [Ty.int] true = some Gen.EXC_PARSE_CONST_VIOLATION_S := by decide +kernel

/-- entering `forall <iter> in <target>` locks the target's symbol and never unlocks another symbol than its own iterator -/
theorem forallEnter_locks {iter s : Nat} {tgt : Option Nat} {fl : Nat → Bool} (hs : s ≠ iter) (h : fl s = true ∨ tgt = some s) :
    forallEnter iter tgt fl s = true := by
  cases tgt with
  | none => exact h.resolve_right nofun
  | some t =>
    simp only [forallEnter, beq_iff_eq, hs, ↓reduceIte]
    split
    · rfl
    · exact h.resolve_right fun e => ‹¬ s = t› (Option.some.inj e).symm

mutual
  /-- an accepted statement leaves every flag as it was (the flags saved by `parse_clause` are restored) -/
  theorem lockStmt_restores : ∀ (st : LStmt) (fl fl' : Nat → Bool), lockStmt st fl = some fl' → ∀ s, fl' s = fl s
    | .call _ _, fl, fl', h, s | .assign _, fl, fl', h, s => by
      simp only [lockStmt] at h
      split at h
      · simp at h
      · simp at h; rw [← h]
    | .loop iter target body, fl, fl', h, s => by
      simp only [lockStmt] at h
      split at h
      · simp at h
      · rename_i cur hb
        simp at h
        have ih := lockBody_restores body _ cur hb s
        rw [← h]
        simp only [forallLeave]
        split
        · rename_i e; simp at e; rw [e]
        · split
          · rfl
          · rename_i h1 h2
            rw [ih]
            cases ht : target.symbolId with
            | none => simp [forallEnter]
            | some t =>
              have : t ≠ s := by intro e; rw [ht, e] at h2; simp at h2
              have h1' : s ≠ iter := by simpa using h1
              simp [forallEnter, h1', Ne.symm this]
  theorem lockBody_restores : ∀ (body : List LStmt) (fl fl' : Nat → Bool), lockBody body fl = some fl' → ∀ s, fl' s = fl s
    | [], fl, fl', h, s => by simp [lockBody] at h; rw [← h]
    | st :: rest, fl, fl', h, s => by
      simp only [lockBody] at h
      split at h
      · simp at h
      · rename_i fl1 h1
        rw [lockBody_restores rest fl1 fl' h s, lockStmt_restores st fl fl1 h1 s]
end

/-- the body contains, at any nesting depth under loops that do not re-use `s` as their iterator, a mutating member call
on a receiver hanging off the symbol `s`, or an assignment `s = …` -/
inductive Touches (s : Nat) : List LStmt → Prop
  | here (op : MemberOp) (recv : RecvExp) (rest : List LStmt) :
      op.mutating = true → recv.symbolId = some s → Touches s (.call op recv :: rest)
  | assigned (rest : List LStmt) : Touches s (.assign s :: rest)
  | nested (iter : Nat) (target : RecvExp) (body rest : List LStmt) :
      iter ≠ s → Touches s body → Touches s (.loop iter target body :: rest)
  | later (st : LStmt) (rest : List LStmt) : Touches s rest → Touches s (st :: rest)

/-- a locked table cannot be changed anywhere in the body: if `s` is locked, every statement list that somewhere
(directly, in a nested forall over any table, after other statements) calls a mutating member on `s` or on a chain hanging
off `s` is refused at compile time. -/
theorem locked_body_refused (s : Nat) : ∀ (body : List LStmt), Touches s body → ∀ (fl : Nat → Bool), fl s = true →
    lockBody body fl = none := by
  intro body ht
  induction ht with
  | here op recv rest hm hs =>
    intro fl hl
    simp [lockBody, lockStmt, lockRefuses, recvLocked, hm, hs, hl]
  | assigned rest =>
    intro fl hl
    simp [lockBody, lockStmt, hl]
  | nested iter target body rest hne _ ih =>
    intro fl hl
    have := ih (forallEnter iter target.symbolId fl) (forallEnter_locks (Ne.symm hne) (.inl hl))
    simp [lockBody, lockStmt, this]
  | later st rest _ ih =>
    intro fl hl
    simp only [lockBody]
    split
    · rfl
    · rename_i fl1 h1
      exact ih fl1 (by rw [lockStmt_restores st fl fl1 h1 s]; exact hl)

/-- `forall e in t loop <body> end loop` with `e ≠ t` is refused whenever the body touches
`t`; an accepted forall statement leaves all lock flags as they were. -/
theorem forall_table_cannot_change (e t : Nat) (body : List LStmt) (fl : Nat → Bool) (hne : t ≠ e) :
    (Touches t body → lockStmt (.loop e (.var t) body) fl = none) ∧
    (∀ fl', lockStmt (.loop e (.var t) body) fl = some fl' → ∀ s, fl' s = fl s) := by
  constructor
  · intro ht
    have := locked_body_refused t body ht (forallEnter e (some t) fl) (forallEnter_locks hne (.inr rfl))
    simp [lockStmt, RecvExp.symbolId, this]
  · exact fun fl' h => lockStmt_restores _ fl fl' h

/-- non-vacuity: `forall e in t loop forall f in u loop x = 1; t.at(0).delete(0); end loop; end loop` (symbols t=0, u=1,
e=2, f=3) is refused; the same body with `u.delete(0)` on the copy is accepted and restores the flags -/
example : lockStmt (.loop 2 (.var 0) [.loop 3 (.var 1) [.call (.m .count) (.var 0), .call (.m .delete) (.chain (.var 0))]])
    (fun _ => false) = none :=
  (forall_table_cannot_change 2 0 _ _ (by decide +kernel)).1
    (.nested 3 (.var 1) _ _ (by decide +kernel) (.later _ _ (.here _ _ _ rfl rfl)))
example : (lockStmt (.loop 2 (.var 0) [.call (.m .delete) (.var 1), .call (.m .concat) (.var 2)]) (fun _ => false)).isSome = true := by
  decide
/-- the lock on assignment: `forall e in t loop forall f in u loop t = u; end loop; end loop` is refused, `u = t;` is not
(inside `forall e in t` only) -/
example : lockStmt (.loop 2 (.var 0) [.loop 3 (.var 1) [.assign 0]]) (fun _ => false) = none :=
  (forall_table_cannot_change 2 0 _ _ (by decide +kernel)).1 (.nested 3 (.var 1) _ _ (by decide +kernel) (.assigned _))
example : (lockStmt (.loop 2 (.var 0) [.assign 1, .assign 2]) (fun _ => false)).isSome = true := by decide +kernel

/-- what `tab_refines` says for one Spec outcome -/
def TabSat (P : List Ty → Bool) (r : Res Val) : Option SOut → Prop
  | some (.ok v _) => r = .ok v ∧ UniformIn P v
  | some (.reject .index) => r = .err Gen.EXC_RT_INDEX_RANGE_S
  | some (.reject _) => ∃ c a, r = .err c a
  | some (.either _ _) => False
  | none => True

/-- (Model = Spec, and the result is uniform). `tab(n, x)` with a non-null count up to 2^20 and a uniform
`x` whose declaration does not hash to 0 (C09.tuple.hashZero): the table of `n` copies of `x` one dimension above `x` —
nested tables (`tab(2, tab(3, 0))`), tables of tuples (header = the tuple's declaration), tables of typed nulls —, and that
table is uniform; the index error for a negative count; a refusal for an untyped null / the opaque tuple (COMPOUND_OPAQUE)
and at the dimension limit (`x` of 254 dimensions: OUT_OF_DIMENSION, TYPE_LEVEL_MAX = 255). -/
theorem tab_refines (P) (n : Int64) (x : Val) (hx : UniformIn P x) (hz : KF.hashZero x = false)
    (hlv : x.type.level < 255) (hn1 : n.toInt ≤ 1048576) :
    TabSat P (biTab (m := Res) [.ok (.int n), .ok x]) (Spec.specTab [.int n, x]) := by
  rw [biTab_vals]
  show TabSat P (if n.toInt < 0 then _ else _) _
  by_cases hneg : n.toInt < 0
  · have : Spec.specTab [.int n, x] = some (.reject .index) := by
      unfold Spec.specTab; simp only [spec_dom hx, ↓reduceIte, hneg]
    rw [this, if_pos hneg]
    rfl
  · have h0 : 0 ≤ n.toInt := by omega
    rw [if_neg hneg, if_neg (by omega)]
    rcases tabHeader_uniform P n x hx hz h0 hn1 with ⟨t, decl, hhd, hh, hp, he, hty, hs⟩ | ⟨⟨c, hc⟩, hs⟩ | ⟨_, hs⟩ <;> rw [hs]
    · have hl := (headerOk_iff t decl).1 hh
      refine ⟨?_, tab_uniform_build _ hh hp he hx⟩
      rw [hhd]
      exact tabFill_body n x t decl h0 hty hl.1 (by omega)
    · exact ⟨c, [], by rw [hc]; rfl⟩
    · trivial

/-- nested tables: `tab(2, tab(3, 0))` is the uniform 2 × 3 table of integers -/
example : biTab (m := Res) [.ok (.int 2), .ok (ti1 [.int 0, .int 0, .int 0])] =
    .ok (.tab { major := .int, level := 2 } [] [ti1 [.int 0, .int 0, .int 0], ti1 [.int 0, .int 0, .int 0]]) := by rfl
example : TabSat onlyIS (biTab (m := Res) [.ok (.int 2), .ok (tIS 1)]) (Spec.specTab [.int 2, tIS 1]) :=
  tab_refines onlyIS 2 (tIS 1) (by decide +kernel) (by decide +kernel) (by decide +kernel) (by decide +kernel)
/-- the level limit: a table of 254 dimensions cannot be nested further (run time), a static type of 255 dimensions is
refused at compile time -/
example : (match biTab (m := Res) [.ok (.int 1), .ok (.null { major := .int, level := 254 })] with
    | .err c _ => c == Gen.EXC_RT_OUT_OF_DIMENSION | _ => false) = true ∧
    acceptTab [Ty.int, { major := .int, level := 255 }] = some Gen.EXC_PARSE_OUT_OF_DIMENSION := by decide +kernel

theorem tabHeader_level {x : Val} {t : Ty} {decl : List Ty} (h : tabHeader x = .ok (t, decl)) :
    1 ≤ t.level ∧ t.level ≤ 254 ∧ KF.hashZero x = false := by
  obtain ⟨hop, hl, hup⟩ := tabHeader_ok h
  refine ⟨by omega, by omega, ?_⟩
  cases x with
  | tup d items =>
    -- a declaration that hashes to 0 gives the opaque tuple type, which `tabHeader` refuses
    have : ((makeTupleTy d 0).minor == 0) = false := beq_eq_false_iff_ne.mpr fun hm => hop (by
      rw [show (Val.tup d items).type = { major := .tup } from Ty.ext' _ _ (makeTupleTy_major d 0) hm (makeTupleTy_level d 0)]
      rfl)
    simp only [KF.hashZero, this, Bool.and_false]
  | _ => rfl

/-- (positive statement after the repair 2c67aef of the former finding C09.tab.levelWrap). Whatever the count and the element are (static types known or opaque, null count or not, element
of any number of dimensions): a value returned by `tab(n, x)` has between 1 and 254 dimensions — the `uint8_t` level never
wraps —, and for a uniform `x` (not a typed null tuple, which has no declaration) it is uniform. -/
theorem tab_level_bounded (P : List Ty → Bool) (a0 x r : Val) (h : biTab (m := Res) [.ok a0, .ok x] = .ok r) :
    1 ≤ r.type.level ∧ r.type.level ≤ 254 ∧
    (UniformIn P x → (∀ ty, x = .null ty → ty.major ≠ .tup) → UniformIn P r) := by
  rw [biTab_vals] at h
  by_cases hn : a0.isNull = true
  case neg =>
    rw [if_neg hn] at h
    obtain ⟨n, _, h⟩ := Lemmas.Res.bind_eq_ok _ _ _ h
    split at h
    · cases h
    split at h
    · cases h
    rename_i h0 h1
    obtain ⟨⟨t, decl⟩, hh, h⟩ := Lemmas.Res.bind_eq_ok _ _ _ h
    obtain ⟨hl1, hl2, hz⟩ := tabHeader_level hh
    have hshape : ∃ es, r = .tab t decl es := by
      split at h
      · cases h; exact ⟨_, rfl⟩
      · obtain ⟨es, _, h⟩ := Lemmas.Res.bind_eq_ok _ _ _ h; cases h; exact ⟨_, rfl⟩
    obtain ⟨es, rfl⟩ := hshape
    refine ⟨hl1, hl2, fun hx hnt => ?_⟩
    rcases tabHeader_uniform P n x hx hz (by omega) (by omega) with
      ⟨t', decl', hhd, hh', hp, he, hty, _⟩ | ⟨⟨c, hc⟩, _⟩ | ⟨⟨ty, rfl, htup⟩, _⟩
    · rw [hh] at hhd; cases hhd
      rw [tabFill_body n x t decl (by omega) hty hl1 (by omega)] at h
      cases h
      exact tab_uniform_build _ hh' hp he hx
    · rw [hh] at hc; cases hc
    · exact absurd htup (hnt ty rfl)
  case pos =>
    rw [if_pos hn] at h
    split at h <;> cases h
    rename_i hl
    rw [levelUp8_eq _ (by omega)]
    exact ⟨Nat.succ_pos _, Nat.succ_le_of_lt (Nat.lt_of_not_le hl), fun _ _ => rfl⟩

/-- the former witnesses of C09.tab.levelWrap are refused now, on both paths -/
example : (match biTab (m := Res) [.ok (.null Ty.int), .ok (.null { major := .int, level := 254 })] with
      | .err c _ => c == Gen.EXC_RT_OUT_OF_DIMENSION | _ => false) = true ∧
    (match biTab (m := Res) [.ok (.int 0), .ok (.null { major := .int, level := 255 })] with
      | .err c _ => c == Gen.EXC_RT_OUT_OF_DIMENSION | _ => false) = true ∧
    biTab (m := Res) [.ok (.null Ty.int), .ok (.null { major := .int, level := 253 })] = .ok (.null { major := .int, level := 254 }) := by
  refine ⟨by decide +kernel, by decide +kernel, by rfl⟩
example : ∀ r, biTab (m := Res) [.ok (.int 2), .ok (.int 7)] = .ok r → UniformIn onlyIS r :=
  fun r h => (tab_level_bounded onlyIS _ _ r h).2.2 (by decide +kernel) (fun ty e => by simp at e)

/-! ### tab(n, e) with an element expression whose value changes between evaluations -/

theorem tabFill_stream (ty : Ty) : ∀ (k : Nat) (acc vs : List Val), k ≤ vs.length →
    (tabFill (m := StateT (List Val) Res) nextVal ty k acc).run vs =
      if (vs.take k).all (fun v => v.type == ty) then .ok (acc ++ vs.take k, vs.drop k)
      else .err Gen.EXC_RT_VARYING_COLLECTION := by
  intro k
  induction k with
  | zero => intro acc vs _; simp [tabFill, StateT.run, pure, StateT.pure]
  | succ k ih =>
    intro acc vs hl
    cases vs with
    | nil => simp at hl
    | cons v vs =>
      have hl' : k ≤ vs.length := by simpa using hl
      have ih' := ih (acc ++ [v]) vs hl'
      simp only [StateT.run] at ih' ⊢
      simp only [tabFill, bind, StateT.bind, nextVal, List.take_succ_cons, List.all_cons, List.drop_succ_cons]
      by_cases hv : v.type = ty
      · have h1 : (v.type != ty) = false := by simp [hv]
        have h2 : (v.type == ty) = true := by simp [hv]
        simp only [h1, h2, Bool.false_eq_true, ↓reduceIte, Bool.true_and]
        rw [ih']
        split <;> simp
      · have : (v.type != ty) = true := by simpa using hv
        have h2 : (v.type == ty) = false := by simpa using hv
        simp [this, h2, rerr, liftR, liftM, monadLift, MonadLift.monadLift, StateT.lift, bind]

theorem tab_varying (n : Int64) (v : Val) (vs : List Val) (t : Ty) (decl : List Ty)
    (h0 : 1 ≤ n.toInt) (h1 : n.toInt ≤ 1048576) (hh : tabHeader v = .ok (t, decl))
    (hlen : n.toInt.toNat - 1 ≤ vs.length) :
    (biTab (m := StateT (List Val) Res) [pure (.int n), nextVal]).run (v :: vs) =
      if (vs.take (n.toInt.toNat - 1)).all (fun w => w.type == levelDown8 t)
      then .ok (.tab t decl (v :: vs.take (n.toInt.toNat - 1)), vs.drop (n.toInt.toNat - 1))
      else .err Gen.EXC_RT_VARYING_COLLECTION := by
  have a : ¬ (n < 0) := by rw [Int64.lt_iff_toInt_lt]; show ¬ n.toInt < 0; omega
  have b : ¬ (n > 1048576) := by
    show ¬ ((1048576 : Int64) < n)
    rw [Int64.lt_iff_toInt_lt]; show ¬ (1048576 : Int) < n.toInt; omega
  have hz : (n == 0) = false := by
    apply beq_eq_false_iff_ne.mpr; intro e; subst e; simp at h0
  have e : (Val.int n).asInt = .ok n := rfl
  have hf := tabFill_stream (levelDown8 t) (idxOf n - 1) [v] vs (by unfold idxOf; exact hlen)
  simp only [StateT.run] at hf ⊢
  unfold idxOf at hf
  unfold biTab
  simp only [bind, StateT.bind, pure, StateT.pure, Val.isNull, Bool.false_eq_true, ↓reduceIte, liftR, liftM, monadLift,
    MonadLift.monadLift, StateT.lift, e, a, b, hh, hz, nextVal, idxOf, hf]
  by_cases hc : ((vs.take (n.toInt.toNat - 1)).all fun w => w.type == levelDown8 t) = true
  · rw [if_pos hc, if_pos hc]; rfl
  · rw [if_neg hc, if_neg hc]

/-- a varying element expression: `tab(3, e)` with e = 1, 2, "a" is refused with VARYING_COLLECTION; with e = 1, 2, 3 it is the
table of the three values (the first evaluation fixes the item type, every later one must have exactly that type) -/
example : (match biTabScript (.int 3) [.int 1, .int 2, .str [97]] with | .err c _ => c == Gen.EXC_RT_VARYING_COLLECTION | _ => false) = true ∧
    biTabScript (.int 3) [.int 1, .int 2, .int 3] = .ok (ti1 [.int 1, .int 2, .int 3]) := by
  refine ⟨by decide +kernel, by rfl⟩

/-- an item that `tup` accepts at run time: typed, not a table, not a tuple (builtin_tup.cpp value(), 4db32b5) -/
def tupItemOk (v : Val) : Bool := v.type.major != .none && !(decide (v.type.level > 0) || v.type.major == .tup)

theorem tupItems_const : ∀ (vs acc : List Val),
    tupItems (m := Res) (vs.map fun v => Res.ok v) acc =
      (match vs.find? (fun v => !tupItemOk v) with
        | none => .ok (acc ++ vs)
        | some v => if v.type.major == .none then .err Gen.EXC_RT_COMPOUND_OPAQUE else .err Gen.EXC_RT_FUNC_ARG_TYPE_S) := by
  intro vs
  induction vs with
  | nil => intro acc; simp [tupItems, pure]
  | cons v vs ih =>
    intro acc
    simp only [List.map_cons, tupItems, bind, List.find?_cons]
    by_cases h : v.type.major = .none
    · simp [h, tupItemOk, rerr, liftR, liftM, monadLift]
    · have h' : (v.type.major == Major.none) = false := by simpa using h
      by_cases h2 : (decide (v.type.level > 0) || v.type.major == .tup) = true
      · simp [h', h2, tupItemOk, rerr, liftR, liftM, monadLift]
      · have hok : tupItemOk v = true := by simp [tupItemOk, h]; simpa using h2
        simp only [h', Bool.false_eq_true, ↓reduceIte, h2, hok, Bool.not_true, ih]
        simp

theorem biTup_vals (vs : List Val) (hne : vs ≠ []) :
    biTup (m := Res) (vs.map fun v => Res.ok v) =
      match vs.find? (fun v => !tupItemOk v) with
      | none => .ok (.tup (vs.map Val.type) vs)
      | some v => if v.type.major == .none then .err Gen.EXC_RT_COMPOUND_OPAQUE else .err Gen.EXC_RT_FUNC_ARG_TYPE_S := by
  cases vs with
  | nil => exact absurd rfl hne
  | cons v vs =>
    show (tupItems (m := Res) ((v :: vs).map fun v => Res.ok v) [] >>= fun items => Res.ok (Val.tup (items.map Val.type) items)) = _
    rw [tupItems_const]
    cases (v :: vs).find? _ with
    | none => rfl
    | some w => dsimp only; split <;> rfl

/-- `tup(v1, …, vn)` (n ≥ 1): the tuple whose declaration is the list of the items' types, in order, with
exactly the given items, when every item is typed and neither a table nor a tuple; otherwise COMPOUND_OPAQUE (first offending
item untyped) or FUNC_ARG_TYPE (first offending item a table / tuple — also at run time since 4db32b5); when the items are
scalars the tuple is uniform; `acceptTup` refuses exactly static tuple / table / pointer arguments. -/
theorem tup_structure (P : List Ty → Bool) (vs : List Val) (hne : vs ≠ []) :
    ((∀ v ∈ vs, tupItemOk v = true) →
      biTup (m := Res) (vs.map fun v => Res.ok v) = .ok (.tup (vs.map Val.type) vs) ∧
      ((∀ v ∈ vs, scalarVal v = true) → P (vs.map Val.type) = true → UniformIn P (.tup (vs.map Val.type) vs))) ∧
    ((∃ v ∈ vs, tupItemOk v = false) →
      biTup (m := Res) (vs.map fun v => Res.ok v) = .err Gen.EXC_RT_COMPOUND_OPAQUE ∨
      biTup (m := Res) (vs.map fun v => Res.ok v) = .err Gen.EXC_RT_FUNC_ARG_TYPE_S) ∧
    (∀ args : List Ty, acceptTup args = some Gen.EXC_PARSE_FUNC_ARG_TYPE_S ↔
      ∃ t ∈ args, t.level > 0 ∨ t.major = .tup ∨ t.major = .ptr) := by
  refine ⟨?_, ?_, ?_⟩
  · intro hall
    have hc : vs.find? (fun v => !tupItemOk v) = none := by
      rw [List.find?_eq_none]; intro v hv; simp [hall v hv]
    refine ⟨by rw [biTup_vals vs hne, hc], ?_⟩
    intro hsc hP
    refine tup_intro P (by simpa using hne) (List.all_eq_true.2 fun t ht => ?_) hP rfl hsc
    obtain ⟨v, hv, rfl⟩ := List.mem_map.1 ht
    have := hsc v hv
    cases v <;> first | exact this | cases this
  · intro ⟨v, hv, hn⟩
    cases hf : vs.find? (fun v => !tupItemOk v) with
    | none =>
      rw [List.find?_eq_none] at hf
      have := hf v hv; simp [hn] at this
    | some w =>
      rw [biTup_vals vs hne, hf]
      dsimp only
      split
      · exact .inl rfl
      · exact .inr rfl
  · intro args
    have ite : ∀ b : Bool, (if b = true then some Gen.EXC_PARSE_FUNC_ARG_TYPE_S else none) =
        some Gen.EXC_PARSE_FUNC_ARG_TYPE_S ↔ b = true := by decide
    unfold acceptTup
    rw [ite, List.any_eq_true]
    simp only [Bool.or_eq_true, decide_eq_true_eq, beq_iff_eq, or_assoc]

example : biTup (m := Res) [.ok (.int 1), .ok (.str [97])] = .ok (tIS 1) := by rfl
/-- tuple-in-tuple and table-in-tuple are refused at compile time AND at run time; an untyped null at run time -/
example : acceptTup [Ty.int, makeTupleTy declIS 0] = some Gen.EXC_PARSE_FUNC_ARG_TYPE_S ∧
    acceptTup [{ major := .int, level := 1 }] = some Gen.EXC_PARSE_FUNC_ARG_TYPE_S ∧ acceptTup [Ty.int, Ty.str] = none ∧
    (match biTup (m := Res) [.ok (.int 1), .ok (.null Ty.none)] with
      | .err c _ => c == Gen.EXC_RT_COMPOUND_OPAQUE | _ => false) = true ∧
    (match biTup (m := Res) [.ok (.int 1), .ok (tIS 2)] with
      | .err c _ => c == Gen.EXC_RT_FUNC_ARG_TYPE_S | _ => false) = true := by decide +kernel

/-- (positive statement after the repair 4db32b5 of the former finding C09.tup.nested). Whatever the argument values are — static types known or opaque —, a value returned by `tup(…)` is the
null tuple (no argument) or a tuple with exactly the given items, none of which is a table, a tuple (null tuples included)
or untyped: a tuple never holds a tuple or a table. -/
theorem tup_never_nested (vs : List Val) (r : Val) (h : biTup (m := Res) (vs.map fun v => Res.ok v) = .ok r) :
    (vs = [] ∧ r = .null { major := .tup }) ∨
    (r = .tup (vs.map Val.type) vs ∧
      ∀ v ∈ vs, v.type.level = 0 ∧ v.type.major ≠ .tup ∧ v.type.major ≠ .none ∧
        (∀ d i, v ≠ .tup d i)) := by
  by_cases hne : vs = []
  · subst hne
    left
    simp [biTup, pure] at h
    exact ⟨rfl, h.symm⟩
  · right
    rw [biTup_vals vs hne] at h
    cases hf : vs.find? (fun v => !tupItemOk v) with
    | some w => rw [hf] at h; dsimp only at h; split at h <;> cases h
    | none =>
      rw [hf] at h
      cases h
      refine ⟨rfl, ?_⟩
      rw [List.find?_eq_none] at hf
      intro v hv
      have := hf v hv
      simp only [Bool.not_eq_true', Bool.not_eq_false] at this
      simp only [tupItemOk, Bool.and_eq_true, bne_iff_ne, ne_eq, Bool.not_eq_true', Bool.or_eq_false_iff,
        decide_eq_false_iff_not, beq_eq_false_iff_ne] at this
      refine ⟨by omega, this.2.2, this.1, ?_⟩
      intro d i e
      subst e
      exact this.2.2 (makeTupleTy_major d 0)

example : ∀ r, biTup (m := Res) [.ok (.int 1), .ok (.str [97])] = .ok r → r = tIS 1 := by
  intro r h
  rcases tup_never_nested [.int 1, .str [97]] r h with ⟨h0, _⟩ | ⟨h1, _⟩
  · simp at h0
  · exact h1

/-- a member call with the right number of arguments and uniform arguments -/
def OpGoodS (P : List Ty → Bool) : Op → Prop
  | .mem m args => arityOk m args = true ∧ (∀ a ∈ args, uniformP P a = true)
  | .set _ _ => False

/-- a call that hands new bytes to `seqStore` leaves a string a string, bytes bytes -/
theorem applyOp_seqStore {mk : Bytes → Val} {s : Bytes} {op : Op} {q : Res Bytes}
    (h : stepRes (mk s) op = seqStore mk false s q) : ∃ s1, applyOp (mk s) op = mk s1 := by
  unfold applyOp
  rw [h]
  cases q with
  | ok b => exact ⟨b, rfl⟩
  | _ => exact ⟨s, rfl⟩

theorem seq_step_refines (P) {mk : Bytes → Val} (hk : mk = Val.str ∨ mk = Val.raw) (s : Bytes) (op : Op) (hg : OpGoodS P op) :
    ∃ o, specOp (mk s) op = some o ∧ Sat (stepRes (mk s) op) o ∧ ∃ s1, applyOp (mk s) op = mk s1 := by
  cases op with
  | set r a => exact absurd hg id
  | mem m args =>
    obtain ⟨har, hargs⟩ := hg
    -- by the cases of `arityOk` (at, delete, concat, put, insert, count), as in `step_refines`
    revert har
    fun_cases arityOk m args
    all_goals intro har
    next p =>
      have h := seq_at_refines P hk s p (hargs p (by simp))
      have keeps : ∃ s1, applyOp (mk s) (.mem .at [p]) = mk s1 := by
        unfold applyOp
        split
        · exact ⟨s, Lemmas.mAt_keeps _ _ _ _ ‹_›⟩
        · exact ⟨s, rfl⟩
      rcases hk with rfl | rfl <;> exact ⟨_, rfl, h, keeps⟩
    next p =>
      have h := seq_delete_refines P s p false (hargs p (by simp))
      rcases hk with rfl | rfl
      · exact ⟨_, rfl, h.1, applyOp_seqStore (mDelete_str ..)⟩
      · exact ⟨_, rfl, h.2, applyOp_seqStore (mDelete_raw s p false)⟩
    next x =>
      have h := seq_concat_refines P s x false (hargs x (by simp))
      rcases hk with rfl | rfl
      · exact ⟨_, rfl, h.1, applyOp_seqStore (mConcat_str ..)⟩
      · exact ⟨_, rfl, h.2, applyOp_seqStore (mConcat_raw s x false)⟩
    next p x =>
      have h := seq_put_refines P s p x false (hargs p (by simp)) (hargs x (by simp))
      rcases hk with rfl | rfl
      · exact ⟨_, rfl, h.1, applyOp_seqStore (mPut_str ..)⟩
      · exact ⟨_, rfl, h.2, applyOp_seqStore (mPut_raw s p x false)⟩
    next p x =>
      have h := seq_insert_refines P s p x false (hargs p (by simp)) (hargs x (by simp))
      rcases hk with rfl | rfl
      · exact ⟨_, rfl, h.1, applyOp_seqStore (mInsert_str ..)⟩
      · exact ⟨_, rfl, h.2, applyOp_seqStore (mInsert_raw s p x false)⟩
    next => rcases hk with rfl | rfl <;> exact ⟨_, rfl, rfl, s, rfl⟩
    next => cases har

theorem seq_ops_refine (P : List Ty → Bool) {mk : Bytes → Val} (hk : mk = Val.str ∨ mk = Val.raw) :
    ∀ (ops : List Op) (s : Bytes), (∀ op ∈ ops, OpGoodS P op) →
      SpecRun (mk s) ops (run (mk s) ops) ∧ (∃ s', run (mk s) ops = mk s') ∧
      (∀ (pre : List Op) (op : Op) (post : List Op), ops = pre ++ op :: post →
        ∃ s' o, run (mk s) pre = mk s' ∧ specOp (mk s') op = some o ∧ Sat (stepRes (mk s') op) o) := by
  intro ops s hg
  have along := run_refines (fun x => ∃ s, x = mk s) (OpGoodS P)
    (fun x op ⟨s, he⟩ hg => he ▸ seq_step_refines P hk s op hg)
  obtain ⟨h1, h2⟩ := along ops _ ⟨s, rfl⟩ hg
  refine ⟨h1, h2, fun pre op post hsplit => ?_⟩
  subst hsplit
  obtain ⟨_, s', he⟩ := along pre _ ⟨s, rfl⟩ fun op' h => hg op' (by simp [h])
  obtain ⟨o, hspec, hsat, _⟩ := seq_step_refines P hk s' op (hg op (by simp))
  exact ⟨s', o, he, hspec, hsat⟩

/-- the op-sequence theorem for a string variable receiver: for every list of member calls (any position
values, any uniform arguments) the run is one the specification allows (`SpecRun`), the variable stays a string variable after every
step, and before every step the model's outcome is the Spec's (`Sat`). Induction over the operation list. -/
theorem str_ops_refine_spec (P : List Ty → Bool) :
    ∀ (ops : List Op) (s : Bytes), (∀ op ∈ ops, OpGoodS P op) →
      SpecRun (Val.str s) ops (run (Val.str s) ops) ∧ (∃ s', run (Val.str s) ops = Val.str s') ∧
      (∀ (pre : List Op) (op : Op) (post : List Op), ops = pre ++ op :: post →
        ∃ s' o, run (Val.str s) pre = Val.str s' ∧ specOp (Val.str s') op = some o ∧ Sat (stepRes (Val.str s') op) o) :=
  seq_ops_refine P (.inl rfl)

/-- the op-sequence theorem for a bytes value receiver: for every list of member calls (any position
values, any uniform arguments) the run is one the specification allows (`SpecRun`), the variable stays a bytes value after every
step, and before every step the model's outcome is the Spec's (`Sat`). Induction over the operation list. -/
theorem raw_ops_refine_spec (P : List Ty → Bool) :
    ∀ (ops : List Op) (s : Bytes), (∀ op ∈ ops, OpGoodS P op) →
      SpecRun (Val.raw s) ops (run (Val.raw s) ops) ∧ (∃ s', run (Val.raw s) ops = Val.raw s') ∧
      (∀ (pre : List Op) (op : Op) (post : List Op), ops = pre ++ op :: post →
        ∃ s' o, run (Val.raw s) pre = Val.raw s' ∧ specOp (Val.raw s') op = some o ∧ Sat (stepRes (Val.raw s') op) o) :=
  seq_ops_refine P (.inr rfl)

example : (run (.str [97, 98]) [.mem .concat [.str [120]], .mem .put [.int 0, .int 65], .mem .delete [.int 9], .mem .insert [.int 1, .int 66]]
      == .str [65, 66, 98, 120]) = true ∧
    SpecRun (.str [97, 98]) [.mem .concat [.str [120]], .mem .put [.int 0, .int 65], .mem .delete [.int 9], .mem .insert [.int 1, .int 66]]
      (run (.str [97, 98]) [.mem .concat [.str [120]], .mem .put [.int 0, .int 65], .mem .delete [.int 9], .mem .insert [.int 1, .int 66]]) := by
  refine ⟨by decide +kernel, (str_ops_refine_spec onlyIS _ _ ?_).1⟩
  intro op h
  simp at h
  rcases h with rfl | rfl | rfl | rfl <;> exact ⟨rfl, fun a ha => by simp at ha; first | (rcases ha with rfl | rfl <;> rfl) | (subst ha; rfl)⟩

/-- (`MemberExpression::receiver()`, 876bec0). A member call whose receiver expression
merely hands an lvalue through (`(s + null).concat(x)`, …) or yields a temporary works on a copy: for EVERY member, receiver
value and argument list, the operand keeps its value, the result is the one the in-place call on a variable computes, and
the error (if any) is the same. -/
theorem handed_through_receiver_unchanged (m : Member) (recv : Val) (args : List Val) :
    (∀ r x', memberCallK .handedThrough m recv args = .ok (r, x') →
      x' = recv ∧ ∃ y, memberCallK .storage m recv args = .ok (r, y)) ∧
    (∀ c a, memberCallK .handedThrough m recv args = .err c a ↔ memberCallK .storage m recv args = .err c a) ∧
    memberCallK .temporary m recv args = memberCallK .handedThrough m recv args := by
  unfold memberCallK
  simp only
  cases memberCall m recv args false with
  | ok p => obtain ⟨r0, y0⟩ := p; simp
  | _ => simp

theorem const_as_handed_str (m : Member) (s : Bytes) (args : List Val) :
    memberCallK .constant m (.str s) args = memberCallK .handedThrough m (.str s) args := by
  unfold memberCallK memberCall
  simp only
  split
  · rw [mAt_seq (.inl rfl)]
    cases memPos _ s.length <;> try rfl
    rename_i i
    simp only [Lemmas.Res.ok_bind]
    cases s[i]? <;> rfl
  · simp only [mPut_str]; exact seqStore_const ..
  · simp only [mInsert_str]; exact seqStore_const ..
  · simp only [mDelete_str]; exact seqStore_const ..
  · simp only [mConcat_str]; exact seqStore_const ..
  · rfl
  · rfl

theorem const_as_handed_null (m : Member) (args : List Val) :
    memberCallK .constant m (.null Ty.none) args = memberCallK .handedThrough m (.null Ty.none) args := by
  unfold memberCallK memberCall
  simp only
  split <;> try rfl
  rename_i a0
  have ht : ∀ t, (Val.null t).type = t := fun _ => rfl
  unfold mConcat
  cases a0.isNull <;> try rfl
  simp only [ht, Ty.none, Nat.lt_irrefl, gt_iff_lt, Bool.false_eq_true, ↓reduceIte]
  cases a0.type.major <;> try rfl
  cases a0.asInt <;> try rfl
  simp only
  split <;> try rfl
  split <;> rfl

/-- The only constants that reach the built-in members are string literals and the literal
`null`; a member call on one never writes to the constant (the `isConst()` paths of member_{put,insert,delete,concat}.cpp;
`null.concat`: a40085e) and returns exactly what the call on a variable holding that value returns — so the refinement
theorems for string variables (`seq_*_refines`) carry over to constant string receivers, result for result. -/
theorem constant_receiver_unchanged (m : Member) (recv : Val) (args : List Val)
    (hc : (∃ s, recv = .str s) ∨ recv = .null Ty.none) :
    (∀ r x', memberCallK .constant m recv args = .ok (r, x') →
      x' = recv ∧ ∃ y, memberCallK .storage m recv args = .ok (r, y)) ∧
    (∀ c a, memberCallK .constant m recv args = .err c a ↔ memberCallK .storage m recv args = .err c a) := by
  have e : memberCallK .constant m recv args = memberCallK .handedThrough m recv args := by
    rcases hc with ⟨s, rfl⟩ | rfl
    · exact const_as_handed_str m s args
    · exact const_as_handed_null m args
  rw [e]
  have h := handed_through_receiver_unchanged m recv args
  exact ⟨h.1, h.2.1⟩

/-- constant string receivers refine the Spec's result: `"abc".put(p, c)` returns what `seqPut` says, the constant is untouched -/
theorem const_str_put_refines (P) (s : Bytes) (p x : Val) (hp : UniformIn P p) (hx : UniformIn P x) :
    match Spec.seqPut Val.str s p x with
    | .ok r _ => memberCallK .constant .put (.str s) [p, x] = .ok (r, .str s)
    | .reject .index => memberCallK .constant .put (.str s) [p, x] = .err Gen.EXC_RT_INDEX_RANGE_S
    | .reject .range => memberCallK .constant .put (.str s) [p, x] = .err Gen.EXC_RT_OUT_OF_RANGE
    | .reject _ => ∃ c a, memberCallK .constant .put (.str s) [p, x] = .err c a
    | .either _ _ => True := by
  have hk : memberCallK .constant .put (.str s) [p, x] = seqStore .str true s (putBytes s p x) := mPut_str ..
  have h := putBytes_sat P (mk := Val.str) (s := s) hp hx
  rw [hk, seqStore_const]
  cases ho : Spec.seqPut Val.str s p x with
  | ok r y => rw [ho] at h; rw [show _ = _ from h]
  | reject e =>
    rw [ho] at h
    cases e with
    | index | range => rw [show _ = _ from h]
    | type | any => obtain ⟨c, a, h⟩ := h; rw [h]; exact ⟨c, a, rfl⟩
  | either r y => trivial

example : memberCallK .handedThrough .concat (.str [97, 98]) [.str [120]] = .ok (.str [97, 98, 120], .str [97, 98]) ∧
    memberCallK .storage .concat (.str [97, 98]) [.str [120]] = .ok (.str [97, 98, 120], .str [97, 98, 120]) ∧
    memberCallK .constant .concat (.null Ty.none) [.int 65] = .ok (.str [65], .null Ty.none) ∧
    memberCallK .handedThrough .delete (ti1 [.int 1, .int 2]) [.int 0] = .ok (ti1 [.int 2], ti1 [.int 1, .int 2]) := by
  refine ⟨by rfl, by rfl, by rfl, by rfl⟩

/-- a successful `u.set@rank(x)` returns the tuple itself with the declaration
it was created with, the same number of items, every item of its declared type; a rejected call
changes nothing (`applyOp`). -/
theorem tuple_structure_fixed (P) (decl : List Ty) (items : List Val) (rank : Nat) (x r u' : Val)
    (hu : UniformIn P (.tup decl items)) (hx : UniformIn P x)
    (h : stepRes (.tup decl items) (.set rank x) = .ok (r, u')) :
    r = u' ∧ UniformIn P u' ∧ ∃ items', u' = .tup decl items' ∧ items'.length = items.length ∧
      items'.map Val.type = decl := by
  obtain ⟨h1, h2, d, it, it', he, he', hl, hm⟩ := setItemV_preserves hu hx (stepRes_set h)
  cases he
  exact ⟨h1, h2, it', he', hl, hm⟩

example : (match stepRes (tIS 1) (.set 1 (.int 9)) with | .ok (r, u) => r == tIS 9 && u == tIS 9 | _ => false) = true := by decide +kernel
example : (match stepRes (tIS 1) (.set 2 (.int 9)) with | .err c _ => c == Gen.EXC_RT_TYPE_MISMATCH_S | _ => false) = true := by decide +kernel
example : (match stepRes (tIS 1) (.set 3 (.int 9)) with | .err c _ => c == Gen.EXC_RT_INDEX_RANGE_S | _ => false) = true := by decide +kernel

/-- sequences of `set@` on a uniform tuple (ranks below 2^32, uniform canonical arguments): the run
is one the Spec allows (`SpecRun`: every step is in the Spec's domain and leaves the receiver the Spec names), and at its end —
so, for the prefixes, after every step — the variable is a uniform tuple with the SAME declaration and number of items. The
full outcome of one step against the Spec is `set_refines`. -/
theorem tup_ops_refine_spec (P : List Ty → Bool) (hinj : Inj P) (decl : List Ty) :
    ∀ (ops : List Op) (items : List Val), UniformIn P (.tup decl items) → items.length < 4294967295 →
      (∀ op ∈ ops, ∃ rank a, op = .set rank a ∧ rank < 4294967296 ∧ UniformIn P a ∧ canonTy a.type = true) →
      SpecRun (.tup decl items) ops (run (.tup decl items) ops) ∧
      ∃ items', run (.tup decl items) ops = .tup decl items' ∧ items'.length = items.length ∧ UniformIn P (.tup decl items') := by
  intro ops items hu hlen hg
  obtain ⟨h1, items', he, hl, hu'⟩ := run_refines
    (fun x => ∃ items', x = .tup decl items' ∧ items'.length = items.length ∧ UniformIn P x)
    _ (fun x op ⟨items1, he, hl, hu⟩ ⟨rank, a, hop, hr, ha, hca⟩ => by
      subst he hop
      obtain ⟨o, hspec, hsat⟩ := set_refines P hinj decl items1 rank a hu ha hca hr (by omega)
      refine ⟨o, hspec, hsat, ?_⟩
      unfold applyOp
      split
      · rename_i r x' he
        obtain ⟨_, h2, items', h3, h4, _⟩ := tuple_structure_fixed P decl items1 rank a r x' hu ha he
        exact ⟨items', h3, by omega, h2⟩
      · exact ⟨items1, rfl, hl, hu⟩)
    ops _ ⟨items, rfl, rfl, hu⟩ hg
  exact ⟨h1, items', he, hl, he ▸ hu'⟩

example : SpecRun (tIS 1) [.set 1 (.num 0x4004000000000000), .set 3 (.int 1), .set 2 (.str [98])]
    (run (tIS 1) [.set 1 (.num 0x4004000000000000), .set 3 (.int 1), .set 2 (.str [98])]) := by
  refine (tup_ops_refine_spec onlyIS inj_onlyIS declIS _ _ (by decide +kernel) (by decide +kernel) ?_).1
  intro op h
  simp at h
  rcases h with rfl | rfl | rfl
  · exact ⟨1, _, rfl, by decide +kernel, by decide +kernel, by decide +kernel⟩
  · exact ⟨3, _, rfl, by decide +kernel, by decide +kernel, by decide +kernel⟩
  · exact ⟨2, _, rfl, by decide +kernel, by decide +kernel, by decide +kernel⟩

/-- running the loop header of FORALLStatement (`first`, then
`index += step` until the index leaves 0..n-1) over a table whose length stays n visits
0,1,…,n-1 (asc/auto) resp. n-1,…,0 (desc): every element once, in order. -/
theorem forall_visits_once_in_order (desc : Bool) (n : Nat) :
    forallTrace desc n (n + 1) (forallFirst desc n) = forallOrder desc n ∧
    (forallOrder desc n).Nodup ∧ (∀ i, i ∈ forallOrder desc n ↔ i < n) := by
  refine ⟨forallTrace_order_of_lt desc (Nat.lt_succ_self n), ?_, ?_⟩
  · cases desc with
    | false => simp [forallOrder, List.nodup_range]
    | true =>
      show List.Pairwise (· ≠ ·) (if true = true then (List.range n).reverse else List.range n)
      simp only [if_true]
      rw [List.pairwise_reverse]
      exact (List.nodup_range (n := n)).imp (fun h => Ne.symm h)
  · intro i; cases desc <;> simp [forallOrder]

/-- Model level: the only write the body can make to the traversed table — assignment through the iterator —
replaces one element by a value of the same implementation type and keeps the length. (Every other statement that
would change the locked table is refused at compile time: `locked_body_refused`.) -/
theorem forall_length_fixed (t : Ty) (d : List Ty) (es : List Val) (i : Nat) (v tbl' : Val)
    (h : forallStep (.tab t d es) i v = .ok tbl') :
    ∃ es', tbl' = .tab t d es' ∧ es'.length = es.length ∧ ∃ old, es[i]? = some old ∧ v.type = old.type := by
  obtain ⟨_, _, _, old, e, hold, hty, rfl⟩ := forallStep_ok h
  cases e
  exact ⟨_, rfl, length_listPut es i v (List.getElem?_eq_some_iff.1 hold).1, old, hold, hty⟩

example : forallTrace true 3 4 (forallFirst true 3) = [2, 1, 0] := by decide +kernel

end BlocV.C09
