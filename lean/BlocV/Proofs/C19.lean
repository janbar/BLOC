/-
  C19 — the `bloc` command reports outcome, output and arguments faithfully.
  Model: Model/Cli.lean (apps/main.cpp, main_options.cpp, cli_parser.cpp,
  read_file.cpp); Spec: Spec/Cli.lean. The parser and the message texts are fields of `Env`: every
  theorem holds for every `Env`.
-/
import BlocV.Model.Cli
import BlocV.Spec.Cli
import BlocV.Proofs.Lemmas.CliInterp
import BlocV.Proofs.Lemmas.Cli
import BlocV.Proofs.Lemmas.InterpEqns
import BlocV.Proofs.Lemmas.World
import BlocV.Proofs.C13

namespace BlocV.C19
open BlocV.Cli BlocV.Lemmas

example : modeOf [str "--out=o", str "p.bloc", str "-x", str "", str "a b"] =
    .program { fileSout := str "o" } (str "p.bloc") [str "-x", str "", str "a b"] := by decide +kernel

/-- In interactive mode EVERY word after the options is an argument, the "program" word included. -/
example : modeOf [str "-i", str "p.bloc", str "a"] = .interactive { docli := true } [str "p.bloc", str "a"] := by decide +kernel

/-- Options are recognised by prefix: `-info` is `-i`, `--output=x` is `--out` without a value. -/
example : getCmd {} [str "-info", str "--output=x", str "-"] = .ok { docli := true } [str "-"] := by decide +kernel
example : getCmd {} [str "--out=a", str "--out=b", str "-q", str "f"] = .bad (str "-q") := by decide +kernel

/-- The if-chain of `getCmd` folded over a list of option words; `.error a` = the first word no test accepts. -/
def applyOptions : Options → List Bytes → Except Bytes Options
  | o, [] => .ok o
  | o, a :: rest =>
    match applyOption o a with
    | some o' => applyOptions o' rest
    | none => .error a

/-- The C test `**it != '-' || strlen(*it) == 1` (negated) is the Spec's notion of an option word. -/
theorem optionShaped_eq_spec (w : Bytes) : optionShaped w = Spec.Cli.isOptionWord w := by
  rcases w with _ | ⟨c, _ | ⟨d, t⟩⟩
  · rfl
  all_goals by_cases hc : c = 45 <;> simp [optionShaped, Spec.Cli.isOptionWord, hc]

/-- For EVERY argv and starting options: the options are the if-chain folded over
the longest prefix of option words and nothing else; the program vector is the rest of argv, untouched
(the `cmd` latch: once the program word — a file name, the empty word, or `-` — has been seen, no later
word is looked at, whatever it looks like); an unknown option among the option words is the only failure. -/
theorem getCmd_eq (argv : List Bytes) : ∀ o : Options,
    getCmd o argv = match applyOptions o (Spec.Cli.optionWords argv) with
      | .error a => .bad a
      | .ok o' => .ok o' (Spec.Cli.programWords argv) := by
  induction argv with
  | nil => intro o; rfl
  | cons a rest ih =>
    intro o
    unfold getCmd Spec.Cli.optionWords Spec.Cli.programWords
    rw [optionShaped_eq_spec]
    by_cases ha : Spec.Cli.isOptionWord a = true
    · simp only [ha, if_true, List.takeWhile_cons, List.dropWhile_cons]
      simp only [applyOptions]
      cases hap : applyOption o a with
      | none => rfl
      | some o1 => exact ih o1
    · have ha' : Spec.Cli.isOptionWord a = false := by simpa using ha
      simp [ha', applyOptions]

/-- In program mode the command line is `options ++ file :: args` with
`file` the first non-option word, and the program runs in a context whose only variable is `$ARG` =
the table of strings `args`, in order (the Spec's table), for EVERY argv. -/
theorem arg_table_faithful (env : Env) (argv : List Bytes) (o : Options) (file : Bytes) (args : List Bytes)
    (h : modeOf argv = .program o file args) :
    (∃ pre, argv = pre ++ file :: args ∧ pre.all optionShaped = true ∧ optionShaped file = false) ∧
    (initState args).vars = [("$ARG", Spec.Cli.argTable args)] ∧
    (∀ text, library env text args = match env.compile text with
        | .perr pos w => .compileError pos w
        | .ok prog => .ran (runProgram env.fuel prog (initState args))) := by
  have hp : Spec.Cli.programWords argv = file :: args := by
    rw [modeOf, getCmd_eq] at h
    cases ho : applyOptions {} (Spec.Cli.optionWords argv) with
    | error a => rw [ho] at h; cases h
    | ok o' =>
      cases hpw : Spec.Cli.programWords argv with
      | nil => rw [ho, hpw] at h; cases h
      | cons f r =>
        rw [ho, hpw] at h
        dsimp only at h
        split at h
        · cases h
        · split at h <;> cases h
          rfl
  refine ⟨⟨Spec.Cli.optionWords argv, hp ▸ List.takeWhile_append_dropWhile.symm, ?_, ?_⟩, rfl, fun _ => rfl⟩
  · rw [funext optionShaped_eq_spec]
    exact List.all_takeWhile
  · have := List.head?_dropWhile_not Spec.Cli.isOptionWord argv
    rw [show List.dropWhile _ argv = _ from hp] at this
    rw [optionShaped_eq_spec]
    exact this

theorem optionWords_append (pre : List Bytes) (p : Bytes) (tail : List Bytes)
    (hpre : pre.all Spec.Cli.isOptionWord = true) (hp : Spec.Cli.isOptionWord p = false) :
    Spec.Cli.optionWords (pre ++ p :: tail) = pre ∧ Spec.Cli.programWords (pre ++ p :: tail) = p :: tail := by
  have hn : ¬ Spec.Cli.isOptionWord p = true := by rw [hp]; decide
  rw [Spec.Cli.optionWords, Spec.Cli.programWords, List.takeWhile_append_of_pos (List.all_eq_true.1 hpre),
    List.dropWhile_append_of_pos (List.all_eq_true.1 hpre), List.takeWhile_cons_of_neg hn, List.dropWhile_cons_of_neg hn,
    List.append_nil]
  exact ⟨rfl, rfl⟩

/-- Write the command line as `pre ++ p :: tail` with `pre` option words
and `p` not one (a file name, `""`, or `-`). Then, for every `tail` — words starting with a dash, `--out=…`,
`-i`, `-e`, `-h`, `--`, numbers like `-1` `-2.5`, empty words — :
(1) `getCmd` returns the options computed from `pre` ALONE and the program vector `p :: tail` verbatim;
(2) in program mode (`-i`, `-e` not among `pre`) the process is `runProgramMode` with those options, the
    program `p`, and `$ARG` = the Spec's table of `tail`, in order;
(3) with `-i` among `pre` every word `p :: tail` is an argument; with `-e` (no `-i`) they are the expression;
(4) an unknown option is reported only when it stands in `pre`. -/
theorem args_after_program_are_ARG (env : Env) (pre : List Bytes) (p : Bytes) (tail : List Bytes) (stdin : Bytes)
    (hpre : pre.all Spec.Cli.isOptionWord = true) (hp : Spec.Cli.isOptionWord p = false) :
    (∀ o, getCmd o (pre ++ p :: tail) = match applyOptions o pre with
      | .error a => .bad a
      | .ok o' => .ok o' (p :: tail)) ∧
    (∀ o, applyOptions {} pre = .ok o → o.docli = false → o.doexp = false →
      modeOf (pre ++ p :: tail) = .program o p tail ∧
      run env (pre ++ p :: tail) stdin = runProgramMode env o p tail stdin ∧
      (initState tail).vars = [("$ARG", Spec.Cli.argTable tail)]) ∧
    (∀ o, applyOptions {} pre = .ok o → o.docli = true → modeOf (pre ++ p :: tail) = .interactive o (p :: tail)) ∧
    (∀ o, applyOptions {} pre = .ok o → o.docli = false → o.doexp = true → modeOf (pre ++ p :: tail) = .expr o (p :: tail)) ∧
    (∀ a, applyOptions {} pre = .error a → modeOf (pre ++ p :: tail) = .badOption a) := by
  have hw := optionWords_append pre p tail hpre hp
  have hg : ∀ o, getCmd o (pre ++ p :: tail) = match applyOptions o pre with
      | .error a => .bad a
      | .ok o' => .ok o' (p :: tail) := by
    intro o; rw [getCmd_eq, hw.1, hw.2]
  refine ⟨hg, fun o ho hi he => ?_, fun o ho hi => ?_, fun o ho hi he => ?_, fun a ha => ?_⟩
  · have hm : modeOf (pre ++ p :: tail) = .program o p tail := by rw [modeOf, hg, ho]; simp [hi, he]
    exact ⟨hm, by rw [run, hm], rfl⟩
  all_goals rw [modeOf, hg]; simp [*]

/-- `bloc - -v tail`, `bloc file --out=x`, `bloc - -1 -2.5`, `bloc --out=o - -n 3`, an empty program word. -/
example : modeOf [str "-", str "-v", str "tail"] = .program {} (str "-") [str "-v", str "tail"] := by decide +kernel
example : modeOf [str "file", str "--out=x"] = .program {} (str "file") [str "--out=x"] := by decide +kernel
example : modeOf [str "-", str "-1", str "-2.5"] = .program {} (str "-") [str "-1", str "-2.5"] := by decide +kernel
example : modeOf [str "--out=o", str "-", str "-n", str "3"] = .program { fileSout := str "o" } (str "-") [str "-n", str "3"] := by decide +kernel
example : modeOf [str "", str "-i", str "--"] = .program {} [] [str "-i", str "--"] := by decide +kernel
/-- `--`, `-v`, `-d` are unknown options (there is no end-of-options word); `--out o` takes `o` as the program. -/
example : modeOf [str "--", str "f"] = .badOption (str "--") ∧ modeOf [str "-v", str "f"] = .badOption (str "-v") ∧
    modeOf [str "--out", str "o", str "f"] = .program {} (str "o") [str "f"] := by decide +kernel
example : [str "--color", str "--out=o"].all Spec.Cli.isOptionWord = true ∧ Spec.Cli.isOptionWord (str "-") = false ∧
    applyOptions {} [str "--color", str "--out=o"] = .ok { color := true, fileSout := str "o" } := ⟨by decide +kernel, by decide +kernel, by rfl⟩

/-- After all option words: `file_sout` is the value of the LAST `--out=V` word, or what it was before. -/
theorem applyOptions_fileSout : ∀ (pre : List Bytes) (o o' : Options), applyOptions o pre = .ok o' →
    o'.fileSout = (pre.filterMap Spec.Cli.outValue).getLast?.getD o.fileSout
  | [], o, o', h => by cases h; rfl
  | a :: rest, o, o', h => by
    rw [applyOptions] at h
    cases hap : applyOption o a with
    | none => rw [hap] at h; cases h
    | some o1 =>
      rw [hap] at h
      rw [applyOptions_fileSout rest o1 o' h, applyOption_fileSout o o1 a hap, List.filterMap_cons]
      cases Spec.Cli.outValue a with
      | none => rfl
      | some v => rw [List.getLast?_cons]; rfl

/-- For every command line `pre ++ p :: tail` in program mode: the output is selected by the
option words `pre` ALONE — the standard output when no `--out=V` with a non-empty `V` is the last one, else the
file `V` of the last `--out=` (a `--out=…` AFTER the program word selects nothing: it is an argument). When the
program text is available and the file opens, whatever the library run `r` printed, followed by the rendering of
the returned value, is on the selected output and nowhere else: with a file selected the standard output is empty
and the file holds it; with the standard output selected no file is made. -/
theorem out_routing (env : Env) (pre : List Bytes) (p : Bytes) (tail : List Bytes) (stdin : Bytes) (o : Options)
    (hpre : pre.all Spec.Cli.isOptionWord = true) (hp : Spec.Cli.isOptionWord p = false)
    (ho : applyOptions {} pre = .ok o) (hi : o.docli = false) (he : o.doexp = false) :
    selOf o = (if (Spec.Cli.outPath pre).isEmpty then .stdout else .file (Spec.Cli.outPath pre)) ∧
    (∀ text r, (if p == [45] then some stdin else env.readFile p) = some text →
      ((Spec.Cli.outPath pre).isEmpty = true ∨ env.canWrite (Spec.Cli.outPath pre) = true) →
      library env (readText text) tail = .ran r →
      let P := run env (pre ++ p :: tail) stdin
      let printed := match r.outcome with
        | .ok (some v) => r.st.output ++ outputVal v
        | _ => r.st.output
      ((Spec.Cli.outPath pre).isEmpty = true → P.stdout = printed ∧ P.outFile = none) ∧
      ((Spec.Cli.outPath pre).isEmpty = false → P.stdout = [] ∧ P.outFile = some (Spec.Cli.outPath pre, printed))) := by
  have hfs : o.fileSout = Spec.Cli.outPath pre := by
    rw [applyOptions_fileSout pre {} o ho, Spec.Cli.outPath]
    cases (pre.filterMap Spec.Cli.outValue).getLast? <;> rfl
  have hsel : selOf o = (if (Spec.Cli.outPath pre).isEmpty then .stdout else .file (Spec.Cli.outPath pre)) := by
    unfold selOf; rw [hfs]
  refine ⟨hsel, ?_⟩
  intro text r hsrc hw hlib
  have hrun := ((args_after_program_are_ARG env pre p tail stdin hpre hp).2.1 o ho hi he).2.1
  simp only [hrun]
  unfold runProgramMode
  rw [hsel, hfs, hsrc]
  simp only [hlib]
  rw [finish_ran]
  cases hE : (Spec.Cli.outPath pre).isEmpty
  · simp only [hE, Bool.false_eq_true, false_or] at hw
    simp only [Bool.false_eq_true, if_false, hw, Bool.not_true]
    exact ⟨False.elim, fun _ => ⟨rfl, rfl⟩⟩
  · simp only [if_true, Bool.false_eq_true, if_false]
    exact ⟨fun _ => ⟨rfl, rfl⟩, nofun⟩

/-- `bloc --out=a --out=b p x`: the file is `b`; `bloc --out=a --out= p`: the standard output again;
`bloc p --out=x`: the standard output, `--out=x` is `$ARG[0]`. -/
example : Spec.Cli.outPath [str "--out=a", str "--color", str "--out=b"] = str "b" ∧ Spec.Cli.outPath [str "--out=a", str "--out="] = [] ∧
    Spec.Cli.outPath [str "--output=x", str "--out"] = [] ∧
    modeOf [str "p", str "--out=x"] = .program {} (str "p") [str "--out=x"] := by decide +kernel

/-- For every file content and every buffer size `max ≥ 1`, the concatenation
of the chunks the reader returns (call after call, until it returns 0) is the file minus its CR bytes: no
byte is dropped or duplicated at a buffer-full boundary, at a newline, at a CR, or at the end of the file;
every chunk is non-empty and fits the buffer. -/
theorem reader_delivers_every_byte (max : Nat) (hmax : 1 ≤ max) (file : Bytes) :
    (readChunks max file).flatten = Spec.Cli.withoutCr file ∧
    (∀ c ∈ readChunks max file, c ≠ [] ∧ c.length ≤ max) := by
  rw [readChunks_eq_fileReader]
  -- `Lex.Delivers` unfolds to this conjunction; `Spec.Cli.withoutCr`, `Lex.stripCr` and `dropCr` below are one filter
  exact C13.fileReader_delivers_every_byte max hmax file

/-- What `main` hands to the parser (1023 bytes asked per call) is the file minus CRs. -/
theorem readText_eq_dropCr (file : Bytes) : readText file = dropCr file :=
  (reader_delivers_every_byte Lex.chunkMax Lex.chunkMax_pos file).1

/-- Boundary cases at a small buffer: a line of exactly `max`, `max+1`, `2·max` bytes, CRs at the boundary, no final newline. -/
example : readChunks 4 (str "abcd\nefghi\r\njklmnopq\rr") = [str "abcd", str "\n", str "efgh", str "i\n", str "jklm", str "nopq", str "r"] := by decide +kernel
example : (readChunks 4 (str "abcd\nefghi\r\njklmnopq\rr")).flatten = str "abcd\nefghi\njklmnopqr" := by decide +kernel
example : readChunks 3 (str "\r\r") = [] ∧ readChunks 1 (str "a\rb") = [str "a", str "b"] := by decide +kernel

/-- The reader that fetches the byte BEFORE testing the capacity (seeded mutation C19-m3: `while (fread(&c…) == 1
&& read < max_size)`) — the property above is false for it: the byte at each buffer-full boundary is lost. -/
def readCallEager (max : Nat) : Bytes → Bytes → Bytes × Bytes
  | acc, [] => (acc.reverse, [])
  | acc, c :: t =>
    if acc.length < max then
      if c == 13 then readCallEager max acc t
      else if c != 10 then readCallEager max (c :: acc) t
      else ((c :: acc).reverse, t)
    else (acc.reverse, t)                                      -- the byte `c` has been consumed and is dropped

theorem eager_reader_drops_a_byte :
    let r1 := readCallEager 4 [] (str "abcdefg")
    let r2 := readCallEager 4 [] r1.2
    r1.1 ++ r2.1 = str "abcdfg" ∧ dropCr (str "abcdefg") = str "abcdefg" := by decide +kernel

def succeeded : LibOutcome → Bool
  | .ran r => match r.outcome with
    | .ok _ => true
    | _ => false
  | _ => false

/-- For every outcome of the library and every output selection: exit
status 0 ⇔ the program compiled and ran without an unhandled error. (Nothing else enters: a
returned value that `output()` cannot print still gives 0.) -/
theorem exit_zero_iff_success (env : Env) (sel : Sel) (lo : LibOutcome) :
    (finish env sel lo).exit = .code 0 ↔ succeeded lo = true := by
  cases lo with
  | compileError pos w => rw [finish_compileError, deliver_exit]; simp [succeeded]
  | ran r =>
    rw [finish_ran, deliver_exit]
    obtain ⟨oc, st⟩ := r
    unfold runExit succeeded
    cases oc with
    | err c a => dsimp only; split <;> simp
    | _ => simp

/-- The exit status is the Spec's, whenever the process ends by itself (no hazard, not cut off). -/
theorem exit_status_spec (env : Env) (sel : Sel) (lo : LibOutcome) (n : Nat)
    (h : (finish env sel lo).exit = .code n) :
    n = Spec.Cli.exitStatus (match lo with | .ran _ => true | _ => false) (succeeded lo) := by
  cases lo with
  | compileError pos w => rw [finish_compileError, deliver_exit] at h; cases h; rfl
  | ran r =>
    rw [finish_ran, deliver_exit] at h
    obtain ⟨oc, st⟩ := r
    unfold runExit at h
    unfold succeeded Spec.Cli.exitStatus
    cases oc with
    | ok v => cases h; rfl
    | err c a => dsimp only at h ⊢; split at h <;> cases h; rfl
    | _ => cases h

/-- The same at the level of `main`, for every argv in program mode: status 0 ⇔ the output file (if
any) opens, the program text is available, it compiles, and the run ends without error. -/
theorem exit_zero_iff_success_main (env : Env) (argv : List Bytes) (stdin : Bytes) (o : Options) (file : Bytes) (args : List Bytes)
    (h : modeOf argv = .program o file args) :
    (run env argv stdin).exit = .code 0 ↔
      ((o.fileSout.isEmpty = true ∨ env.canWrite o.fileSout = true) ∧
       ∃ text, (if file == [45] then some stdin else env.readFile file) = some text ∧
         succeeded (library env (dropCr text) args) = true) := by
  unfold run
  simp only [h]
  unfold runProgramMode selOf
  simp only [readText_eq_dropCr]
  cases hE : o.fileSout.isEmpty <;> cases hw : env.canWrite o.fileSout <;>
    cases hs : (if file == [45] then some stdin else env.readFile file) <;> simp [hw, exit_zero_iff_success]

def demoEnv : Env :=
  { compile := (fun _ => .ok []), parseExpr := (fun _ => .perr []), parseInteractive := (fun _ => []), readFile := (fun _ => none),
    canWrite := (fun _ => true), what := (fun _ _ => []) }

example : (finish demoEnv .stdout (.ran (runProgram 10 [.returnS (some (.lit (.int 5)))] {}))).exit = .code 0 ∧
    (finish demoEnv .stdout (.ran (runProgram 10 [.printS [.lit (.int 4)], .returnS (some (.lit (.int 5)))] {}))).stdout = [52, 10, 53] := by
  decide +kernel

/-- What ended up on the selected output: stdout, or the content of the `--out` file. -/
def selected (sel : Sel) (p : Proc) : Option Bytes :=
  match sel with
  | .stdout => some p.stdout
  | .file path => match p.outFile with
    | some (q, c) => if q == path then some c else none
    | none => none

theorem selected_deliver (sel : Sel) (out err : Bytes) (ex : Exit) : selected sel (deliver sel out err ex) = some out := by
  cases sel <;> simp [selected, deliver]

/-- For every library run and every selection, the selected output
is EXACTLY the library's printed output, followed — when the run returned a value — by `outputVal`
of it; after a runtime error, the output printed before the error, nothing more. With `--out` nothing
of it goes to stdout. -/
theorem stdout_eq_library_output (env : Env) (sel : Sel) (r : RunResult) :
    selected sel (finish env sel (.ran r)) = some (match r.outcome with
      | .ok (some v) => r.st.output ++ outputVal v
      | _ => r.st.output) ∧
    (∀ path, sel = .file path → (finish env sel (.ran r)).stdout = []) := by
  rw [finish_ran]
  exact ⟨selected_deliver _ _ _ _, fun path hp => hp ▸ rfl⟩

/-- A compile error leaves the selected output empty (the `--out` file exists, empty). -/
theorem compile_error_output_empty (env : Env) (sel : Sel) (pos : Option (Nat × Nat)) (w : Bytes) :
    selected sel (finish env sel (.compileError pos w)) = some [] := by
  rw [finish_compileError]
  exact selected_deliver _ _ _ _

/-- `output()` and the library's `print` render null, boolean, integer, decimal and string values
identically (so `printVal`/`Fmt.fmt16g` are reused soundly). -/
theorem outputVal_eq_print (v : Val) (h : match v with | .null t => t.level = 0 | .bool _ | .int _ | .num _ | .str _ => True | _ => False) :
    printVal v = .ok (outputVal v) := by
  cases v with
  | null t => simp only at h; simp only [printVal, Val.type, h, outputVal]; simp; decide +kernel
  | bool b => cases b <;> decide +kernel
  | int i => simp [printVal, outputVal, Val.type, Ty.int]
  | num d => simp [printVal, outputVal, Val.type, Ty.num]
  | str s => simp [printVal, outputVal, Val.type, Ty.str]
  | _ => simp at h

/-- Values on which the command's rendering is the Spec's ("as `print` would"). -/
def printable : Val → Bool
  | .null t => t.level == 0
  | .bool _ | .int _ | .num _ | .str _ => true
  | _ => false

/-- For a run that succeeded and returned nothing or a printable
value, the selected output is the one the Spec prescribes. -/
theorem stdout_meets_spec_partial (env : Env) (sel : Sel) (r : RunResult) (ret : Option Val)
    (hr : r.outcome = .ok ret) (hp : ∀ v, ret = some v → printable v = true) :
    selected sel (finish env sel (.ran r)) = Spec.Cli.selectedOutput Fmt.fmt16g r.st.output ret := by
  rw [(stdout_eq_library_output env sel r).1, hr]
  cases ret with
  | none => rfl
  | some v =>
    have := hp v rfl
    cases v with
    | null t =>
      rw [printable] at this
      simp only [Spec.Cli.selectedOutput, Spec.Cli.returnedText, this, if_true]
      rfl
    | bool b | int i | num d | str s => rfl
    | _ => cases this

/-- The full statement is FALSE on the code as it is (known finding
`C19.returned_table_bytes_not_printed`): a returned bytes value, and a returned table, print nothing. -/
theorem returned_bytes_not_printed :
    outputVal (.raw [97, 98, 99]) = [] ∧ Spec.Cli.returnedText Fmt.fmt16g (.raw [97, 98, 99]) ≠ some [] ∧
    outputVal (.tab Ty.str.levelUp [] [.str [97]]) = [] ∧ Spec.Cli.returnedText Fmt.fmt16g (.tab Ty.str.levelUp [] [.str [97]]) ≠ some [] := by
  decide +kernel

example : printable (.str [104, 105]) = true ∧ outputVal (.str [104, 105]) = [104, 105] := by decide +kernel

/-- Success: nothing on stderr. Compile error with a token: one line naming
`line:column` (the Spec's `hasPosition`). Runtime error: one `Error: …` line. -/
theorem stderr_class (env : Env) (sel : Sel) :
    (∀ lo, (finish env sel lo).exit = .code 0 → (finish env sel lo).stderr = []) ∧
    (∀ l c w, (finish env sel (.compileError (some (l, c)) w)).stderr = errLinePos l c w ∧
        Spec.Cli.hasPosition (errLinePos l c w) l c) ∧
    (∀ r c a, r.outcome = .err c a → (c == oofCode) = false →
        (finish env sel (.ran r)).stderr = errLine (env.what c a) ∧ (finish env sel (.ran r)).exit = .code 1) := by
  refine ⟨fun lo h => ?_, fun l c w => ⟨?_, str "Error (", str "): " ++ w ++ [10], by simp [errLinePos, natStr]⟩,
    fun r c a hr hc => ?_⟩
  · have hs := (exit_zero_iff_success env sel lo).mp h
    cases lo with
    | compileError pos w => cases hs
    | ran r =>
      rw [finish_ran, deliver_stderr]
      obtain ⟨oc, st⟩ := r
      cases oc with
      | ok v => rfl
      | _ => cases hs
  · rw [finish_compileError, deliver_stderr]
  · rw [finish_ran, deliver_stderr, deliver_exit]
    simp only [runErr, runExit, hr, hc, Bool.false_eq_true, if_false, and_self]

/-- `bloc -e w1 … wn` (no `-i`): the text parsed is the words, each
followed by a blank, then `;`; the value of that expression is written on STDOUT as `output()`
renders it (`--out` is not consulted, there is no `$ARG`); status 0 ⇔ it parsed and evaluated
without error; otherwise one `Error: …` line (no position) on stderr and nothing on stdout. -/
theorem expr_mode_contract (env : Env) (argv : List Bytes) (stdin : Bytes) (o : Options) (words : List Bytes)
    (h : modeOf argv = .expr o words) :
    run env argv stdin = runExprMode env words ∧
    (∀ e, env.parseExpr (exprText words) = .ok e → ∀ v s, eval [] 0 env.fuel e {} = (.ok v, s) →
        (run env argv stdin).exit = .code 0 ∧ (run env argv stdin).stdout = outputVal v ∧
        (run env argv stdin).stderr = [] ∧ (run env argv stdin).outFile = none) ∧
    (∀ w, env.parseExpr (exprText words) = .perr w →
        (run env argv stdin).exit = .code 1 ∧ (run env argv stdin).stdout = [] ∧ (run env argv stdin).stderr = errLine w) ∧
    (∀ e, env.parseExpr (exprText words) = .ok e → ∀ c a s, eval [] 0 env.fuel e {} = (.err c a, s) → (c == oofCode) = false →
        (run env argv stdin).exit = .code 1 ∧ (run env argv stdin).stdout = [] ∧ (run env argv stdin).stderr = errLine (env.what c a)) := by
  have hrun : run env argv stdin = runExprMode env words := by unfold run; simp [h]
  refine ⟨hrun, fun e he v s hv => ?_, fun w hw => ?_, fun e he c a s hv hc => ?_⟩ <;> rw [hrun, runExprMode] <;> simp [*]

example : exprText [str "1", str "+", str "2"] = str "1 + 2 ;" := by decide +kernel
example : modeOf [str "-e", str "1", str "+", str "2"] = .expr { doexp := true } [str "1", str "+", str "2"] := by decide +kernel
/-- `-e` without a word is interactive mode. -/
example : modeOf [str "-e"] = .interactive { doexp := true } [] := by decide +kernel

def isFunc : Stmt → Bool
  | .funcS .. => true
  | _ => false

/-- All function declarations come first (what the generator produces, and what a program must
look like for the two modes to see the same function table at every call). -/
def declsFirst : List Stmt → Bool
  | [] => true
  | st :: rest => if isFunc st then declsFirst rest else rest.all (fun s => !isFunc s)

def items (prog : List (Stmt × Nat)) : List IItem := prog.map fun p => IItem.stmt p.1 p.2

def allNorm (rs : List StepRes) : Bool := rs.all fun r => match r.res with
  | some (.ok .norm) => true
  | _ => false

/-- All turns but the last end normally; the last ends normally or with a top-level `return`. -/
def flowsOk : List StepRes → Bool
  | [] => true
  | r :: rest =>
    match rest with
    | [] => (match r.res with | some (.ok .norm) => true | some (.ok .ret) => true | _ => false)
    | _ :: _ => (match r.res with | some (.ok .norm) => true | _ => false) && flowsOk rest

theorem flowsOk_cons (r : StepRes) (rs : List StepRes) (h : flowsOk (r :: rs) = true) :
    (r.res = some (.ok .norm) ∧ flowsOk rs = true) ∨ (r.res = some (.ok .ret) ∧ rs = []) := by
  cases rs with
  | nil =>
    simp only [flowsOk] at h
    split at h
    · exact .inl ⟨‹_›, rfl⟩
    · exact .inr ⟨‹_›, rfl⟩
    · cases h
  | cons a b =>
    simp only [flowsOk, Bool.and_eq_true] at h
    obtain ⟨h1, h2⟩ := h
    split at h1
    · exact .inl ⟨‹_›, h2⟩
    · cases h1

theorem flowsOk_of_allNorm : ∀ rs : List StepRes, allNorm rs = true → flowsOk rs = true
  | [], _ => rfl
  | r :: rs, h => by
    rw [allNorm, List.all_cons, Bool.and_eq_true] at h
    have ih := flowsOk_of_allNorm rs h.2
    have h1 := h.1
    split at h1
    · rename_i e
      cases rs with
      | nil => rw [flowsOk, e]
      | cons a b => rw [flowsOk, e, ih]; rfl
    · cases h1

theorem collectFuncs_eq_foldl (prog : List Stmt) : collectFuncs prog = prog.foldl declStep [] := rfl

theorem declStep_nonfunc (fs : List Func) (st : Stmt) (h : isFunc st = false) : declStep fs st = fs := by
  cases st <;> simp_all [declStep, isFunc]

theorem foldl_declStep_nonfunc (rest : List Stmt) (fs : List Func) (h : rest.all (fun s => !isFunc s) = true) :
    rest.foldl declStep fs = fs :=
  List.foldlRecOn (motive := (· = fs)) rest declStep rfl fun _ hb a ha =>
    hb ▸ declStep_nonfunc fs a (by simpa using List.all_eq_true.1 h a ha)

theorem exec_func_table_irrelevant (f1 f2 : List Func) (depth fuel : Nat) (st : Stmt) (s : St) (h : isFunc st = true) :
    exec f1 depth fuel st s = exec f2 depth fuel st s := by
  cases st <;> simp [isFunc] at h
  cases fuel <;> simp [exec]

theorem execList_nil (fs : List Func) (d fuel : Nat) (s : St) (h : fuel ≠ 0) : execList fs d fuel [] s = (.ok .norm, s) := by
  obtain ⟨k, rfl⟩ := Nat.exists_eq_succ_of_ne_zero h
  exact Lemmas.execList_nil fs d k s

/-- `Q fs rest` guarantees that each statement of `rest` sees in the table grown so far (interactive) what it
sees in the table of the whole text (batch), and is kept from statement to statement. -/
def SeesFinalTable (Q : List Func → List Stmt → Prop) : Prop :=
  ∀ fs st rest, Q fs (st :: rest) → Q (declStep fs st) rest ∧
    ∀ k s, exec (rest.foldl declStep (declStep fs st)) 0 k st s = exec (declStep fs st) 0 k st s

/-- Core of the comparison. Under such a guarantee the loop whose turns all end normally — the LAST may be a top-level `return`: batch stops with
the value saved, the loop echoes the same value and clears it — computes what `execList` computes. -/
theorem interLoop_eq_execList (Q : List Func → List Stmt → Prop) (hQ : SeesFinalTable Q) :
    ∀ (prog : List (Stmt × Nat)) (fuel : Nat) (fs : List Func) (s : St), Q fs (prog.map (·.1)) →
    flowsOk (interLoop fuel (items prog) fs s).1 = true → fuel ≠ 0 →
    ∃ fl s', execList ((prog.map (·.1)).foldl declStep fs) 0 fuel (prog.map (·.1)) s = (.ok fl, s') ∧
      ((fl = .norm ∧ (interLoop fuel (items prog) fs s).2.2 = s') ∨
       (fl = .ret ∧ (interLoop fuel (items prog) fs s).2.2 = { s' with returned := none } ∧
        (interLoop fuel (items prog) fs s).1.getLast?.bind (·.echo) = s'.returned ∧
        allNorm (interLoop fuel (items prog) fs s).1 = false)) := by
  intro prog
  induction prog with
  | nil => exact fun fuel fs s _ _ hf => ⟨.norm, s, execList_nil _ 0 fuel s hf, .inl ⟨rfl, by rw [items, List.map_nil, interLoop_nil]⟩⟩
  | cons p rest ih =>
    obtain ⟨st, n⟩ := p
    intro fuel fs s hq hn hf
    obtain ⟨k, rfl⟩ := Nat.exists_eq_succ_of_ne_zero hf
    obtain ⟨hq', htab⟩ := hQ fs st _ hq
    obtain ⟨sr, tl, e, hres⟩ := interLoop_head k st n (items rest) fs s
    rw [List.map_cons, List.foldl_cons]
    rw [show items ((st, n) :: rest) = .stmt st n :: items rest from rfl] at hn ⊢
    rw [e] at hn
    rcases hr : exec (declStep fs st) 0 k st s with ⟨res, s1⟩
    rw [hr] at hres
    rcases flowsOk_cons _ _ hn with ⟨h1, h2⟩ | ⟨h1, h2⟩ <;> rw [hres] at h1 <;> cases h1
    · -- a normal end: both go on with the rest
      rw [interLoop_norm n _ hr] at e ⊢
      rw [execList_cons_norm _ ((htab k s).trans hr)]
      have hk : k ≠ 0 := fun h0 => by subst h0; rw [exec] at hr; cases hr
      obtain ⟨fl, s', h, hcase⟩ := ih k _ s1 hq' ((List.cons.inj e).2 ▸ h2) hk
      refine ⟨fl, s', h, hcase.imp id fun ⟨e1, e2, e3, e4⟩ => ⟨e1, e2, ?_, ?_⟩⟩
      · rw [List.getLast?_cons_of_ne_nil fun hnil => by rw [hnil] at e4; cases e4]
        exact e3
      · simp only [allNorm, List.all_cons, Bool.true_and] at e4 ⊢
        exact e4
    · -- a top-level `return`: it was the last statement
      rw [interLoop_ret n _ hr] at e ⊢
      cases rest with
      | cons q qs => exact absurd ((List.cons.inj e).2.trans h2) (interLoop_nonempty k q.1 q.2 _ _ _)
      | nil =>
        rw [show items [] = [] from rfl, interLoop_nil]
        refine ⟨.ret, s1, ?_, .inr ⟨rfl, rfl, rfl, rfl⟩⟩
        rw [execList_cons_stop _ fun s' h => by rw [htab, hr] at h; cases h]
        exact (htab k s).trans hr

/-- … and so do the two runners: same printed output, same variables; either nothing is returned in both (same
state altogether), or batch returns exactly the value the loop echoes after its last statement. -/
theorem interactive_eq_batch (Q : List Func → List Stmt → Prop) (hQ : SeesFinalTable Q)
    (fuel : Nat) (prog : List (Stmt × Nat)) (args : List Bytes) (hq : Q [] (prog.map (·.1))) (hf : fuel ≠ 0)
    (hn : flowsOk (interLoop fuel (items prog) [] (interInit (prog.map (·.1)) args)).1 = true) :
    let batch := runProgram fuel (prog.map (·.1)) (initState args)
    let inter := interLoop fuel (items prog) [] (interInit (prog.map (·.1)) args)
    batch.st.output = inter.2.2.output ∧ batch.st.vars = inter.2.2.vars ∧
    ((batch.st = inter.2.2 ∧ batch.outcome = .ok inter.2.2.returned) ∨
     (batch.outcome = .ok (inter.1.getLast?.bind (·.echo)) ∧ inter.2.2.returned = none ∧ allNorm inter.1 = false)) := by
  obtain ⟨fl, s', h, hcase⟩ := interLoop_eq_execList Q hQ prog fuel [] _ hq hn hf
  have hb := runProgram_eq_execList fuel (prog.map (·.1)) (initState args)
  -- `collectFuncs prog` is `prog.foldl declStep []` and `interInit prog args` is `progInit prog (initState args)`, by `rfl`
  rw [show execList (collectFuncs _) 0 fuel _ (progInit _ (initState args)) = _ from h] at hb
  simp only [hb.1, hb.2, outcomeOf]
  rcases hcase with ⟨_, e2⟩ | ⟨_, e2, e3, e4⟩
  · rw [e2]; exact ⟨rfl, rfl, .inl ⟨rfl, rfl⟩⟩
  · rw [e2, e3]; exact ⟨rfl, rfl, .inr ⟨rfl, rfl, e4⟩⟩

/-- "declarations first" is such a guarantee: a declaration does not look at the table, and after the last
declaration the table is the final one. -/
theorem declsFirst_seesFinalTable : SeesFinalTable fun _ l => declsFirst l = true := by
  intro fs st rest h
  rw [declsFirst] at h
  by_cases hf : isFunc st = true
  · rw [if_pos hf] at h
    exact ⟨h, fun k s => exec_func_table_irrelevant _ _ 0 k st s hf⟩
  · rw [if_neg hf] at h
    refine ⟨?_, fun k s => by rw [foldl_declStep_nonfunc _ _ h]⟩
    cases rest with
    | nil => rfl
    | cons a r =>
      rw [List.all_cons, Bool.and_eq_true, Bool.not_eq_true'] at h
      rw [declsFirst, if_neg (by rw [h.1]; decide)]
      exact h.2

/-- Feed a program whose function declarations come first to the
interactive loop, statement by statement. If every statement ends normally (no unhandled error, no
top-level `return`), then the batch run of the same program (`Parser::parse` + `Executable::run`)
succeeds without returning a value, and ends in the SAME state: same printed output, same variables. -/
theorem interactive_eq_batch_partial (fuel : Nat) (prog : List (Stmt × Nat)) (args : List Bytes)
    (hd : declsFirst (prog.map (·.1)) = true) (hf : fuel ≠ 0)
    (hn : allNorm (interLoop fuel (items prog) [] (interInit (prog.map (·.1)) args)).1 = true) :
    let batch := runProgram fuel (prog.map (·.1)) (initState args)
    let inter := interLoop fuel (items prog) [] (interInit (prog.map (·.1)) args)
    batch.st = inter.2.2 ∧ batch.st.output = inter.2.2.output ∧ batch.st.vars = inter.2.2.vars ∧
      (∃ v, batch.outcome = .ok v ∧ v = inter.2.2.returned) := by
  obtain ⟨h1, h2, ⟨h3, h4⟩ | ⟨_, _, h5⟩⟩ := interactive_eq_batch _ declsFirst_seesFinalTable fuel prog args hd hf
    (flowsOk_of_allNorm _ hn)
  · exact ⟨h3, h1, h2, _, h4, rfl⟩
  · rw [hn] at h5; cases h5

/-- The hypotheses are satisfiable: a declaration, a loop, prints. -/
def demo : List (Stmt × Nat) :=
  [(.funcS "F" [] Ty.int [.returnS (some (.lit (.int 7)))] [], 1),
   (.letS "X" (.fcall "F" []), 1),
   (.forS "K" (.lit (.int 1)) (.lit (.int 2)) none .auto [.printS [.var "K", .var "X"]], 3)]

example : declsFirst (demo.map (·.1)) = true ∧
    allNorm (interLoop 50 (items demo) [] (interInit (demo.map (·.1)) [[97]])).1 = true ∧
    (interLoop 50 (items demo) [] (interInit (demo.map (·.1)) [[97]])).2.2.output = [49, 55, 10, 50, 55, 10] := by
  decide +kernel

/-! ### interactive = batch WITHOUT "declarations first": no redefinition, calls resolve where they stand -/

section ScopedSec
open BlocV.Lemmas.CliInterp

/-- Every function of the table has a body whose calls resolve in the table. -/
def closedTab (fs : List Func) : Bool := fs.all fun f => okL (resolves fs) f.body && okC (resolves fs) f.catches

/-- What the parser guarantees of a text it accepts, statement by statement (`fs` = the functions declared so
far): a declaration does not REdefine a signature; the calls of a statement, and of every function callable at
that point, name functions declared up to that point (a function may call itself). Declarations may be
interleaved with other statements in any order. -/
def scopedFrom : List Func → List Stmt → Bool
  | _, [] => true
  | fs, st :: rest =>
    (match st with
     | .funcS n ps _ _ _ => !(resolves fs n ps.length)
     | _ => true) &&
    okS (resolves (declStep fs st)) st && closedTab (declStep fs st) && scopedFrom (declStep fs st) rest

/-- Declarations that redefine nothing only APPEND to the table. -/
theorem scoped_prefix : ∀ (rest : List Stmt) (fs : List Func), scopedFrom fs rest = true → fs <+: rest.foldl declStep fs
  | [], _, _ => List.prefix_refl _
  | st :: rest, fs, h => by
    simp only [scopedFrom, Bool.and_eq_true] at h
    refine List.IsPrefix.trans ?_ (scoped_prefix rest _ h.2)
    cases st with
    | funcS fn ps rt b c =>
      have hnew : (fn, ps.length) ∉ World.sigs fs := by simpa [← World.resolves_iff] using h.1.1.1
      -- `declStep fs st` is `World.declare fs [st]`: both are one step of `collectFuncs`
      show fs <+: World.declare fs [.funcS fn ps rt b c]
      rw [World.declare_new_func fs fn ps rt b c hnew]
      exact List.prefix_append _ _
    | _ => exact List.prefix_refl _

/-- A table whose bodies call only what it holds is extended, not changed, by whatever is appended to it. -/
theorem ext_append (fs extra : List Func) (hc : closedTab fs = true) : Ext (resolves fs) fs (fs ++ extra) :=
  ⟨fun _ _ hr => List.find?_append.trans (Option.or_of_isSome hr),
    fun _ _ f _ hf => by simpa using List.all_eq_true.1 hc f (List.mem_of_find?_eq_some hf)⟩

/-- `scopedFrom` is such a guarantee: the declarations still to come only append to the table (`scoped_prefix`), and a
bigger table does not change a run whose calls resolve in the smaller one (`ext_all`). -/
theorem scopedFrom_seesFinalTable : SeesFinalTable fun fs l => scopedFrom fs l = true := by
  intro fs st rest h
  simp only [scopedFrom, Bool.and_eq_true] at h
  obtain ⟨extra, he⟩ := scoped_prefix rest _ h.2
  exact ⟨h.2, fun k s => congrFun ((ext_all (he ▸ ext_append _ extra h.1.2) k).exec 0 st h.1.1.2) s⟩

/-- Feed a program to the interactive loop statement by statement —
function declarations ANYWHERE among the other statements. If no signature is redefined and every call names a
function declared before it (`scopedFrom`: what the parser enforces on an accepted text), every statement but
the last ends normally, and the last ends normally or is a top-level `return`, then the batch run of the same
program (`Parser::parse` + `Executable::run`) succeeds with the same printed output and the same variables;
and either nothing is returned in both (same state altogether), or batch returns exactly the value the
interactive loop echoes after its last statement (batch renders it with `output()`, the loop with `output_cli()`).
(Still `_partial` w.r.t. the property text: a `return` before the end, a redefinition, an unhandled error are
the recorded witnesses where the two modes differ.) -/
theorem interactive_eq_batch_scoped_partial (fuel : Nat) (prog : List (Stmt × Nat)) (args : List Bytes)
    (hs : scopedFrom [] (prog.map (·.1)) = true) (hf : fuel ≠ 0)
    (hn : flowsOk (interLoop fuel (items prog) [] (interInit (prog.map (·.1)) args)).1 = true) :
    let batch := runProgram fuel (prog.map (·.1)) (initState args)
    let inter := interLoop fuel (items prog) [] (interInit (prog.map (·.1)) args)
    batch.st.output = inter.2.2.output ∧ batch.st.vars = inter.2.2.vars ∧
    ((batch.st = inter.2.2 ∧ batch.outcome = .ok inter.2.2.returned) ∨
     (batch.outcome = .ok (inter.1.getLast?.bind (·.echo)) ∧ inter.2.2.returned = none)) := by
  have h := interactive_eq_batch _ scopedFrom_seesFinalTable fuel prog args hs hf hn
  exact ⟨h.1, h.2.1, h.2.2.imp id fun h => ⟨h.1, h.2.1⟩⟩

/-- Declarations interleaved with statements, a function calling an earlier one, a top-level `return` at the end:
outside `declsFirst`, inside `scopedFrom`; the loop echoes the value batch returns. -/
def demo2 : List (Stmt × Nat) :=
  [(.printS [.lit (.int 1)], 1),
   (.funcS "F" [] Ty.int [.returnS (some (.lit (.int 7)))] [], 1),
   (.printS [.fcall "F" []], 1),
   (.funcS "G" [("N", Ty.int)] Ty.int [.returnS (some (.bin .add (.var "N") (.fcall "F" [])))] [], 1),
   (.letS "X" (.fcall "G" [.lit (.int 1)]), 1),
   (.returnS (some (.var "X")), 1)]

example : declsFirst (demo2.map (·.1)) = false ∧ scopedFrom [] (demo2.map (·.1)) = true ∧
    flowsOk (interLoop 50 (items demo2) [] (interInit (demo2.map (·.1)) [])).1 = true ∧
    (interLoop 50 (items demo2) [] (interInit (demo2.map (·.1)) [])).2.2.output = [49, 10, 55, 10] ∧
    (((interLoop 50 (items demo2) [] (interInit (demo2.map (·.1)) [])).1.getLast?.bind (·.echo)).map outputCli) = some [56, 10] := by
  decide +kernel

/-- The redefinition witness is exactly what `scopedFrom` excludes. -/
example :
    let f (n : Int64) : Stmt := .funcS "F" [] Ty.int [.returnS (some (.lit (.int n)))] []
    scopedFrom [] [f 1, .printS [.fcall "F" []], f 2, .printS [.fcall "F" []]] = false ∧
    scopedFrom [] [f 1, .printS [.fcall "F" []]] = true ∧ scopedFrom [] [.printS [.fcall "F" []], f 1] = false := by
  decide +kernel

end ScopedSec

/-- The full statement is FALSE on the code as it is — three witnesses.
(1) known finding `C19.interactive_continues_after_return`: `return 1; print 2;` — batch prints
nothing and returns 1, the interactive loop echoes 1 and goes on to print 2. -/
theorem interactive_continues_after_return :
    let prog : List (Stmt × Nat) := [(.returnS (some (.lit (.int 1))), 1), (.printS [.lit (.int 2)], 1)]
    (runProgram 50 (prog.map (·.1)) (initState [])).st.output = [] ∧
    (interLoop 50 (items prog) [] (interInit (prog.map (·.1)) [])).2.2.output = [50, 10] := by
  decide +kernel

/-- (2) known finding `C19.interactive_function_redefinition`: a function declared twice — batch
calls the last definition everywhere (prints 2 2), interactive mode the one current at each call (1 2). -/
theorem interactive_function_redefinition :
    let f (n : Int64) : Stmt := .funcS "F" [] Ty.int [.returnS (some (.lit (.int n)))] []
    let prog : List (Stmt × Nat) := [(f 1, 1), (.printS [.fcall "F" []], 1), (f 2, 1), (.printS [.fcall "F" []], 1)]
    declsFirst (prog.map (·.1)) = false ∧
    (runProgram 50 (prog.map (·.1)) (initState [])).st.output = [50, 10, 50, 10] ∧
    (interLoop 50 (items prog) [] (interInit (prog.map (·.1)) [])).2.2.output = [49, 10, 50, 10] := by
  decide +kernel

/-- (3) by design of the loop (not a finding): after an unhandled error the batch run stops with
status 1, the interactive loop reports it and executes the next statement. -/
theorem interactive_continues_after_error :
    let prog : List (Stmt × Nat) := [(.raiseS "E1", 1), (.printS [.lit (.int 2)], 1)]
    (runProgram 50 (prog.map (·.1)) (initState [])).st.output = [] ∧
    (interLoop 50 (items prog) [] (interInit (prog.map (·.1)) [])).2.2.output = [50, 10] ∧
    (lastExit (interLoop 50 (items prog) [] (interInit (prog.map (·.1)) [])).1) = .code 0 := by
  decide +kernel

/-- Interactive mode: a returned value is echoed by `output_cli`, which is NOT `output()`: newline added,
strings cut to 79 bytes, tables and bytes shown. (The exit status is 0 unless the process itself dies, also after
an unhandled error: `interactive_continues_after_error`.) -/
theorem interactive_echo_differs :
    outputCli (.int 5) = outputVal (.int 5) ++ [10] ∧
    (outputCli (.str (List.replicate 100 120))).length = 80 ∧ (outputVal (.str (List.replicate 100 120))).length = 100 ∧
    outputCli (.tab Ty.str.levelUp [] [.str [97], .str [98]]) = str "[string][2]\n" := by
  decide +kernel

/-! ### the abstract `Env.compile` instantiated with the model's real front end (Model/Lex + Parse + Elab) -/

/-- The front end sees through the reader: it makes of the reader's output (`readText`, CRs dropped by
`ReadFile::read`) exactly what it makes of the raw file (its own `lineReader` drops CRs again — idempotent). -/
theorem fe_reader_transparent (file : Bytes) : Elab.frontEnd (readText file) = Elab.frontEnd file := by
  have h : Parse.tokensOf (readText file) = Parse.tokensOf file := by
    unfold Parse.tokensOf Lex.lineReader Lex.stripCr
    rw [readText_eq_dropCr]; unfold dropCr
    rw [List.filter_filter]; simp
  unfold Elab.frontEnd Parse.parseText
  rw [h]

/-- The front-end instance: `bloc FILE args` where the
front end turns the file's text into the program `prog`: the process exits 0 iff `runProgram prog` (started with
`$ARG = args`) ends without error, and the selected output is what that run printed, followed by the rendering of
the returned value. No parser parameter is left: text in, bytes and status out. -/
theorem fe_program_contract (base : Env) (sel : Sel) (file : Bytes) (args : List Bytes) (prog : List Stmt)
    (h : Elab.frontEnd file = .ok (.ok prog)) :
    let r := runProgram base.fuel prog (initState args)
    let P := finish (feEnv base) sel (library (feEnv base) (readText file) args)
    library (feEnv base) (readText file) args = .ran r ∧
    (P.exit = .code 0 ↔ ∃ v, r.outcome = .ok v) ∧
    selected sel P = some (match r.outcome with
      | .ok (some v) => r.st.output ++ outputVal v
      | _ => r.st.output) ∧
    (∀ path, sel = .file path → P.stdout = []) := by
  have hl : library (feEnv base) (readText file) args = .ran (runProgram base.fuel prog (initState args)) := by
    unfold library feEnv
    simp only [fe_reader_transparent, h]
  simp only [hl]
  refine ⟨trivial, ?_, stdout_eq_library_output (feEnv base) sel _⟩
  rw [exit_zero_iff_success, succeeded]
  cases (runProgram base.fuel prog (initState args)).outcome <;> simp

/-- A text the parser model rejects (code `c`): exit status 1, nothing on the selected output, one `Error:` line. -/
theorem fe_compile_error (base : Env) (sel : Sel) (file : Bytes) (args : List Bytes) (c : Nat)
    (h : Elab.frontEnd file = .error c) :
    let P := finish (feEnv base) sel (library (feEnv base) (readText file) args)
    P.exit = .code 1 ∧ selected sel P = some [] ∧ P.stderr = errLine (base.what c []) := by
  have hl : library (feEnv base) (readText file) args = .compileError none (base.what c []) := by
    unfold library feEnv
    simp only [fe_reader_transparent, h]
  simp only [hl, finish_compileError]
  exact ⟨deliver_exit _ _ _ _, selected_deliver _ _ _ _, deliver_stderr _ _ _ _⟩

/-- The hypothesis is satisfiable: the TEXT `print 1+2;\r\nreturn "x";` through reader, scanner, parser, elaboration. -/
example : (match Elab.frontEnd (str "print 1+2;\r\nreturn \"x\";\n") with | .ok (.ok _) => true | _ => false) = true ∧
    (finish (feEnv demoEnv) .stdout (library (feEnv demoEnv) (readText (str "print 1+2;\r\nreturn \"x\";\n")) [])).stdout = str "3\nx" := by
  decide +kernel

end BlocV.C19
