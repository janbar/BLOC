/-
  C16 — an untrusted context can never obtain an object of a module it was not granted.
  Property theorems about Model/Plugin.lean, part Perm. Spec: Spec/Plugin.lean (`mayConstruct`; `mayImportPath` and
  `mayInclude` are `trusted = true`: those theorems take the flag's value). The invariant over host histories and its
  preservation: Proofs/Lemmas/Perm.lean.
-/
import BlocV.Spec.Plugin
import BlocV.Proofs.Lemmas.Perm

namespace BlocV.Proofs.C16
open BlocV.Plugin BlocV.Plugin.Perm BlocV.Spec.Plugin BlocV.Proofs.Perm

-- for the `decide` of the examples that compare a compilation result
deriving instance DecidableEq for Except

/-- After ANY history of host operations (unban, clear, new context trusted or not, set
trusted, clone, free, purge, compile any program in any context, run any executable in any context, free executables)
and whatever the loader finds, every module object present in any context was created by a constructor call whose
compilation saw `mayConstruct`: if the compiling context was untrusted at that moment, the module's name was in the
granted list at that moment. Whether the module was loaded before, by whom, and where the call stands (top level,
function body, included file, clone) does not appear in the statement because it does not matter. (`o.t` is the ghost
tag of the constructor node; that it records what the test saw is `ctor_compiles_iff`.) -/
theorem object_implies_granted (ext : Ext) (ops : List HostOp) (k : Nat) (c : Ctx) (o : Obj)
    (hc : getCtx (hostRun ext World.init ops) k = some c) (ho : o ∈ c.objs) :
    o.t.ctxTrusted = false → o.t.granted = true :=
  fun hf => (((hostRun_ok ext ops init_ok).ctx hc).objs o ho).1.resolve_left (ne_true_of_eq_false hf)

/-- the tag is what the test saw: a constructor node is produced exactly when `mayConstruct` holds, and records it -/
theorem ctor_compiles_iff (ext : Ext) (tr : Bool) (funs : Funs) (p : Proc) (m : Name) (hl : p.isLoaded m = true) :
    ((compileSimple ext tr funs p (.ctor m)).2 = .ok (.ctor m ⟨tr, p.isGranted m⟩) ↔ mayConstruct tr p.granted m) ∧
    (¬ mayConstruct tr p.granted m → (compileSimple ext tr funs p (.ctor m)).2 = .error .restrictedCtor) := by
  simp only [compileSimple, hl, ↓reduceIte, mayConstruct]
  cases tr <;> cases hg : p.isGranted m <;> simp [Proc.isGranted] at hg ⊢ <;> simp [hg]

/-- **Corollary for embedded use (the C API can create only untrusted contexts and cannot set the flag).** If no
context was ever trusted in the history, every module object in every context belongs to a module whose name was
passed to `unban` at some earlier point of the history. In particular a module that was never granted never yields an
object, whoever loaded it. -/
theorem untrusted_history_objects_granted (ext : Ext) (ops : List HostOp) (k : Nat) (c : Ctx) (o : Obj)
    (hts : (hostRun ext World.init ops).trustedSeen = false)
    (hc : getCtx (hostRun ext World.init ops) k = some c) (ho : o ∈ c.objs) :
    o.m ∈ (hostRun ext World.init ops).proc.everGranted := by
  obtain ⟨h1, h2, h3⟩ := ((hostRun_ok ext ops init_ok).ctx hc).objs o ho
  exact h2 (h1.resolve_left fun h => Bool.false_ne_true (hts ▸ h3 h))

/-! Non-vacuity: a history in which an untrusted context holds an object (granted, compiled, then the grant is
cleared before the run: the property speaks about the moment of compilation). -/
def extDemo : Ext :=
  { byName := fun n => if n = "vmod" then some ⟨"libbloc_vmod.so", "vmod"⟩ else none
    byPath := fun p => if p = "/x/libbloc_vmod.so" then some ⟨"libbloc_vmod.so", "vmod"⟩ else none
    source := fun f => if f = "inc.bloc" then some [.simple (.ctor "vmod")] else none }

def demoOps : List HostOp :=
  [.newCtx false, .unban "vmod", .compile 0 [.simple (.importName "vmod"), .func "F" [.ctor "vmod"], .simple (.call "F")],
   .clearPerms, .run 0 0]

example : ((getCtx (hostRun extDemo World.init demoOps) 0).map fun c => c.objs) = some [⟨"vmod", ⟨false, true⟩⟩] := by decide +kernel
example : (hostRun extDemo World.init demoOps).trustedSeen = false := by decide +kernel

/-- **Scope of `object_implies_granted`, made explicit.** The guarantee is about the context a
constructor call is COMPILED in. `Executable::run(Context&, statements)` is a public static of the C++ class (it is how clones run a
shared program), so a HOST can run statements compiled in a trusted context inside an untrusted one: the history below — a trusted
context compiles `import vmod; vmod();`, an untrusted context is created, the executable is run in it — leaves an object of the
never-granted module in the untrusted context 1, and `object_implies_granted` still holds (the object's tag says: compiled trusted).
That is a host action with the host's own trust, outside the property ("a SCRIPT can create an object … only if … granted … before
compilation"); for everything the C API can do no context is ever trusted and `untrusted_history_objects_granted` is unconditional. -/
theorem trusted_compiled_code_run_in_untrusted_context_witness :
    let ops : List HostOp := [.newCtx true, .compile 0 [.simple (.importName "vmod"), .simple (.ctor "vmod")], .newCtx false, .run 0 1]
    ((getCtx (hostRun extDemo World.init ops) 1).map fun c => (c.trusted, c.objs)) = some (false, [⟨"vmod", ⟨true, false⟩⟩]) ∧
    (hostRun extDemo World.init ops).proc.everGranted = [] ∧
    (hostRun extDemo World.init ops).trustedSeen = true := by decide +kernel

/-- In an untrusted context `import "<path>";` is refused wherever it stands, and the process
is unchanged (nothing is loaded). -/
theorem path_import_refused (ext : Ext) (funs : Funs) (p : Proc) (path : String) :
    compileSimple ext false funs p (.importPath path) = (p, .error .restrictedPath) := by
  simp [compileSimple]

/-- … also as a whole program: the compilation of a text that starts with the path import is rejected with that
error, and the process is unchanged. -/
theorem path_import_refused_top (ext : Ext) (fuel depth : Nat) (p : Proc) (funs : Funs) (path : String) (rest : List Top) :
    (compileTops ext false (fuel + 1) depth p funs (.simple (.importPath path) :: rest)).res = .error .restrictedPath ∧
    (compileTops ext false (fuel + 1) depth p funs (.simple (.importPath path) :: rest)).proc = p := by
  simp [compileTops, compileList, compileSimple]

/-- In an untrusted context `include "<file>";` is refused; the file is not even looked up
(`ext.source` does not appear in the result) and the process is unchanged. -/
theorem include_refused (ext : Ext) (fuel depth : Nat) (p : Proc) (funs : Funs) (file : String) (rest : List Top) :
    (compileTops ext false (fuel + 1) depth p funs (.incl file :: rest)).res = .error .restrictedInclude ∧
    (compileTops ext false (fuel + 1) depth p funs (.incl file :: rest)).proc = p ∧
    (compileTops ext false (fuel + 1) depth p funs (.incl file :: rest)).funs = funs := by
  simp [compileTops, compileList]

example : (compileTops extDemo false compFuel 0 Proc.init [] [.incl "inc.bloc"]).res = .error .restrictedInclude := by decide +kernel
example : (compileTops extDemo false compFuel 0 Proc.init [] [.simple (.importPath "/x/libbloc_vmod.so")]).res = .error .restrictedPath := by decide +kernel

/-- In a trusted context the constructor of any loaded module compiles whatever the granted list holds
(`trusted_import_path`: and an import by path reaches the loader). -/
theorem trusted_unrestricted (ext : Ext) (funs : Funs) (p : Proc) (m : Name) (hl : p.isLoaded m = true) :
    (compileSimple ext true funs p (.ctor m)).2 = .ok (.ctor m ⟨true, p.isGranted m⟩) := by
  simp [compileSimple, hl]

theorem trusted_import_path (ext : Ext) (funs : Funs) (p : Proc) (path : String) (l : Lib) (h : ext.byPath path = some l)
    (hr : (p.register l).2 = true) :
    compileSimple ext true funs p (.importPath path) = ((p.register l).1, .ok .nop) := by
  simp only [compileSimple, Bool.not_true, Bool.false_eq_true, ↓reduceIte, h]
  cases hreg : p.register l with
  | mk p' ok =>
    rw [hreg] at hr
    simp only at hr
    simp [hr]

example : (compileTops extDemo true compFuel 0 Proc.init []
    [.simple (.importPath "/x/libbloc_vmod.so"), .incl "inc.bloc", .simple (.ctor "vmod")]).res
    = .ok [.nop, .ctor "vmod" ⟨true, false⟩, .ctor "vmod" ⟨true, false⟩] := by decide +kernel

/-- The permission test is reached at top level and inside a function body (compiled in a child shell carrying a copy
of the flag): in an untrusted context a text that starts with a constructor call of a loaded but not granted module, or
with a function whose body starts with one, is rejected with the `restricted` error. (An included file cannot be
reached from an untrusted context: `include_refused`. Clones: `hostStep (.clone k)` copies the context record, flag
included, so a clone compiles exactly like its origin — `clone_same_flag`.) -/
theorem ctor_everywhere_top (ext : Ext) (fuel depth : Nat) (p : Proc) (funs : Funs) (m : Name) (rest : List Top)
    (hl : p.isLoaded m = true) (hg : p.isGranted m = false) :
    (compileTops ext false (fuel + 1) depth p funs (.simple (.ctor m) :: rest)).res = .error .restrictedCtor := by
  simp [compileTops, compileList, compileSimple, hl, hg]

theorem ctor_everywhere_func (ext : Ext) (fuel depth : Nat) (p : Proc) (funs : Funs) (m f : Name) (body : List Simple)
    (rest : List Top) (hl : p.isLoaded m = true) (hg : p.isGranted m = false) :
    (compileTops ext false (fuel + 1) depth p funs (.func f (.ctor m :: body) :: rest)).res = .error .restrictedCtor := by
  simp [compileTops, compileList, compileSimples, compileSimple, hl, hg]

theorem clone_same_flag (ext : Ext) (w : World) (k : Nat) (c : Ctx) (h : getCtx w k = some c) :
    getCtx (hostStep ext w (.clone k)) w.ctxs.length = some { c with trace := false } := by
  simp [hostStep, h, getCtx_eq]

example : (compileTops extDemo false compFuel 0 ⟨[⟨"libbloc_vmod.so", "vmod"⟩], [], []⟩ []
    [.func "F" [.typedDecl "vmod", .ctor "vmod"]]).res = .error .restrictedCtor := by decide +kernel

/-! ### the host surface that can touch the trusted bit

Every member of `Context` that writes `_flags` or builds a context from another one (context.h / context.cpp):
the two public constructors (`_flags = 0`: `newCtx false`; the CLI then calls `trusted(true)`: `newCtx true` /
`setTrusted`), `clone()` / `clone(fd, fd)` (`other->_flags = _flags`), `purge()` (does not mention `_flags`; resets
`_trace`, `_parsing`), `trusted(bool)` (the ONLY writer; C++ only — `bloc_capi.h` has no function for it: a context
becomes trusted only in `apps/main.cpp:174` / `apps/cli_parser.cpp:143`, the command-line interpreter), the private copy
constructor used by `createChildShell` / `createChildRuntime` (`_flags(ctx._flags)`: the child of a function body or of
a call carries a COPY — `compileList` passes the same `tr` to the body), `trace(bool)` (another member), `parsingBegin` /
`parsingEnd` (`_parsing`, `_backed_symbols` only). The C API adds `bloc_create_context` (= `newCtx false`),
`bloc_clone_context[2]`, `bloc_ctx_purge`, `bloc_free_context`, `bloc_ctx_enable_trace`, `bloc_unban_plugin`,
`bloc_clear_plugin_permissions`, parse / execute. All of them are `HostOp`s. -/

/-- No host operation other than the explicit trust setter on that very context changes the
trusted bit of a context that exists before and after it: not a grant or a revocation, not the creation, cloning,
purging or freeing of this or any other context, not the trace switch, not the compilation of any text (accepted or
rejected, with imports, includes, function definitions), not the run of any executable (with `trace` statements,
calls, run-time errors). -/
theorem trusted_bit_invariant (ext : Ext) (w : World) (op : HostOp) (k : Nat) (c c' : Ctx)
    (h : getCtx w k = some c) (h' : getCtx (hostStep ext w op) k = some c') (hop : ∀ b, op ≠ .setTrusted k b) :
    c'.trusted = c.trusted := by
  rw [getCtx_eq_some] at h h'
  -- position `k` of the list of contexts is untouched, or holds a context with the same bit
  have same : ∀ {l : List (Option Ctx)}, l[k]? = w.ctxs[k]? → l[k]? = some (some c') → c'.trusted = c.trusted :=
    fun e h' => by rw [e, h] at h'; cases h'; rfl
  have app : ∀ x, (w.ctxs ++ [x])[k]? = some (some c') → c'.trusted = c.trusted :=
    fun x => same (List.getElem?_append_left (List.getElem?_eq_some_iff.mp h).1)
  have set : ∀ (j : Nat) (x cj : Ctx), getCtx w j = some cj → (w.ctxs.set j (some x))[k]? = some (some c') →
      x.trusted = cj.trusted → c'.trusted = c.trusted := by
    intro j x cj hj hs hx
    rw [List.getElem?_set] at hs
    split at hs
    next e =>
      subst e
      rw [getCtx_eq_some, h] at hj
      split at hs <;> cases hs
      cases hj; exact hx
    · exact same rfl hs
  cases op with
  | unban n | clearPerms | freeExe x => exact same rfl h'
  | newCtx tr => exact app _ h'
  | setTrusted j b =>
    simp only [hostStep] at h'
    split at h'
    next cj hj =>
      refine same (List.getElem?_set_ne fun e => ?_) h'
      exact hop b (e ▸ rfl)
    · exact same rfl h'
  | setTrace j b | purge j =>
    simp only [hostStep] at h'
    split at h'
    next cj hj => exact set j _ cj hj h' rfl
    · exact same rfl h'
  | clone j =>
    simp only [hostStep] at h'
    split at h'
    · exact app _ h'
    · exact same rfl h'
  | free j =>
    simp only [hostStep, List.getElem?_set] at h'
    split at h'
    · split at h' <;> cases h'
    · exact same rfl h'
  | compile j prog =>
    simp only [hostStep] at h'
    split at h'
    next cj hj => split at h' <;> exact set j _ cj hj h' rfl
    · exact same rfl h'
  | run x j =>
    simp only [hostStep] at h'
    split at h'
    next cj _ hj => exact set j _ cj hj h' rfl
    · exact same rfl h'

example : ∃ c c', getCtx (hostRun extDemo World.init demoOps) 0 = some c ∧
    getCtx (hostStep extDemo (hostRun extDemo World.init demoOps) (.purge 0)) 0 = some c' ∧ c'.trusted = c.trusted :=
  ⟨_, _, rfl, rfl, rfl⟩

/-- `Context::purge` / `bloc_ctx_purge` empties the context — objects,
functions, trace mode — and leaves the trusted bit exactly as it was. -/
theorem purge_keeps_untrusted (ext : Ext) (w : World) (k : Nat) (c : Ctx) (h : getCtx w k = some c) :
    getCtx (hostStep ext w (.purge k)) k = some { trusted := c.trusted, objs := [], funs := [], trace := false } := by
  simp [hostStep, h, getCtx_eq, getCtx_lt h]

example : ((getCtx (hostRun extDemo World.init (demoOps ++ [.purge 0])) 0).map fun c => (c.trusted, c.objs, c.funs.length, c.trace))
    = some (false, [], 0, false) := by decide +kernel

/-- The clone gets the trusted bit of its origin at the moment of cloning (trusted
origin → trusted clone, untrusted → untrusted), together with its objects and functions; afterwards the two bits are
independent: setting the flag of the origin does not reach the clone, and setting the flag of the clone does not reach
the origin. -/
theorem clone_inherits_trust_exactly (ext : Ext) (w : World) (k : Nat) (c : Ctx) (h : getCtx w k = some c) (b : Bool) :
    (∃ c', getCtx (hostStep ext w (.clone k)) w.ctxs.length = some c' ∧ c'.trusted = c.trusted ∧ c'.objs = c.objs ∧ c'.funs = c.funs) ∧
    (∃ c', getCtx (hostStep ext (hostStep ext w (.clone k)) (.setTrusted k b)) w.ctxs.length = some c' ∧ c'.trusted = c.trusted) ∧
    (∃ c', getCtx (hostStep ext (hostStep ext w (.clone k)) (.setTrusted w.ctxs.length b)) k = some c' ∧ c'.trusted = c.trusted) := by
  have hk := getCtx_lt h
  have h0 := getCtx_eq_some.mp h
  have h1 : hostStep ext w (.clone k) = { w with ctxs := w.ctxs ++ [some { c with trace := false }] } := by
    simp only [hostStep, h]
  rw [h1]
  refine ⟨⟨{ c with trace := false }, by simp [getCtx_eq], rfl, rfl, rfl⟩, ⟨{ c with trace := false }, ?_, rfl⟩, ⟨c, ?_, rfl⟩⟩
  · simp [hostStep, getCtx_eq, List.getElem?_append_left hk, h0, Nat.ne_of_lt hk]
  · simp [hostStep, getCtx_eq, List.getElem?_append_left hk, h0]

example : (getCtx (hostRun extDemo World.init [.newCtx true, .clone 0, .setTrusted 0 false]) 1).map (·.trusted) = some true := by decide +kernel
example : (getCtx (hostRun extDemo World.init [.newCtx false, .clone 0, .setTrusted 0 true]) 1).map (·.trusted) = some false := by decide +kernel

/-- a history "of the C API": no context is created trusted and the C++-only setter is never called with `true` -/
def capiOp : HostOp → Bool
  | .newCtx true => false
  | .setTrusted _ true => false
  | _ => true

/-- **Corollary (embedded use): untrusted for ever.** Along a history that never uses the two C++-only ways of making
a context trusted, no context is ever trusted — whatever is purged, cloned, freed, compiled, run, traced, granted or
revoked in between; hence (`untrusted_history_objects_granted`) every object in every context belongs to a module the
host granted by name. -/
theorem capi_history_never_trusted (ext : Ext) (ops : List HostOp) (hall : ops.all capiOp = true) :
    (hostRun ext World.init ops).trustedSeen = false ∧
    ∀ k c, getCtx (hostRun ext World.init ops) k = some c → c.trusted = false := by
  have hts : (hostRun ext World.init ops).trustedSeen = false := by
    refine List.foldlRecOn (motive := fun (w : World) => w.trustedSeen = false) ops _ rfl fun w hts op hop => ?_
    have hc := List.all_eq_true.mp hall op hop
    cases op with
    | newCtx tr => cases tr with
      | true => cases hc
      | false => exact (Bool.or_false _).trans hts
    | setTrusted k b => cases b with
      | true => cases hc
      | false => simp only [hostStep]; split; exact (Bool.or_false _).trans hts; exact hts
    | unban n | clearPerms | free k | freeExe x => exact hts
    | setTrace k b | clone k | purge k | run x k => simp only [hostStep]; split <;> exact hts
    | compile k prog => simp only [hostStep]; split; (split <;> exact hts); exact hts
  exact ⟨hts, fun k c hc => eq_false_of_ne_true fun ht =>
    Bool.false_ne_true (hts ▸ ((hostRun_ok ext ops init_ok).ctx hc).flag ht)⟩

/-- the whole alphabet at work: grant, compile a function and a call, revoke, purge, clone, trace, a run-time error,
a rejected text, then run the executable compiled BEFORE the revocation in the clone: the object appears (the property
speaks about the moment of compilation), nobody became trusted, and a fresh compile of the constructor is refused. -/
def longOps : List HostOp :=
  [.newCtx false, .unban "vmod",
   .compile 0 [.simple (.importName "vmod"), .func "F" [.ctor "vmod"], .simple (.trace true), .simple (.call "F")],
   .clearPerms, .clone 0, .purge 0, .setTrace 0 true, .compile 0 [.simple .raise], .run 1 0, .compile 1 [.simple .bad],
   .run 0 1, .compile 1 [.simple (.ctor "vmod")], .free 0]

example : longOps.all capiOp = true := by decide +kernel
example : ((getCtx (hostRun extDemo World.init longOps) 1).map fun c => (c.trusted, c.objs, c.trace))
    = some (false, [⟨"vmod", ⟨false, true⟩⟩], true) := by decide +kernel
example : (hostRun extDemo World.init longOps).lastErr = some .restrictedCtor := by decide +kernel

/-- **No script can flip a flag of its context except the trace mode**: a run leaves the trusted bit, and the function
table, untouched — also when it ends in a run-time error. (The `RunSt` a run works on has no trusted field at all:
`statement_trace.cpp` is the only statement that calls a flag setter of `Context`, and it calls `trace`.) -/
theorem run_keeps_trust (ext : Ext) (w : World) (x k : Nat) (c : Ctx) (h : getCtx w k = some c) :
    ∃ c', getCtx (hostStep ext w (.run x k)) k = some c' ∧ c'.trusted = c.trusted ∧ c'.funs = c.funs := by
  simp only [hostStep, h]
  split
  next ns c0 hx hc =>
    cases hc
    rw [getCtx_eq, List.getElem?_set_self (getCtx_lt h)]
    exact ⟨_, rfl, rfl, rfl⟩
  · exact ⟨c, h, rfl, rfl⟩

example : ∃ c', getCtx (hostStep extDemo (hostRun extDemo World.init (demoOps.take 3)) (.run 0 0)) 0 = some c' ∧ c'.trusted = false :=
  ⟨_, rfl, rfl⟩

/-- **Revocation after compilation does not matter (and a later grant does not help).** The run of an executable —
compiled at top level or reaching function bodies compiled earlier — never consults the grant list, the loaded modules
or anybody's trusted bit: replace the process state by ANY other one and the run leaves exactly the same contexts. The
permission is decided once, at compilation (`ctor_compiles_iff`), as the property says: "not revoked before compilation". -/
theorem run_ignores_permissions (ext : Ext) (w : World) (p' : Proc) (x k : Nat) :
    (hostStep ext { w with proc := p' } (.run x k)).ctxs = (hostStep ext w (.run x k)).ctxs ∧
    (hostStep ext w (.run x k)).proc = w.proc := by
  constructor
  · simp only [hostStep, getExe, getCtx]
    split <;> rfl
  · simp only [hostStep]
    split <;> rfl

example : ((getCtx (hostRun extDemo World.init (demoOps.take 3 ++ [.clearPerms, .run 0 0])) 0).map fun c => c.objs)
    = ((getCtx (hostRun extDemo World.init (demoOps.take 3 ++ [.run 0 0])) 0).map fun c => c.objs) := by decide +kernel

end BlocV.Proofs.C16
