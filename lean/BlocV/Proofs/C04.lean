/-
  C04 — null obeys three-valued logic regardless of how the null was produced. Model: `opBand/opBior/opBxor/evalUn .bnot` and the six
  relational operators of Model/Ops.lean (op_band/bior/bxor/bnot/eq/ne/lt/le/gt/ge.cpp); Spec: Kleene's tables (Spec/Kleene.lean).
  "How the null was produced" is, at the level of values, the type carried by the null: the constant `null` is untyped (NO_TYPE); `bool()`,
  a null boolean variable, a null returned by a boolean function and a null table element are nulls of type boolean. The theorems quantify
  over both. That the storage cell holding the operand does not matter either is C05's frame theorem.
-/
import BlocV.Spec.Kleene
import BlocV.Proofs.Lemmas.InterpEqns

namespace BlocV.C04
open BlocV.Spec

/-- Abstraction of a model value to a truth value: defined on booleans and on nulls of any type. -/
def absK : Val → Option K
  | .bool true => some .t
  | .bool false => some .f
  | .null _ => some .n
  | _ => none

/-- The operand classes the parser lets through to a logical operator (`assertType(…, BOOLEAN)`):
level 0, boolean or untyped, null or not. -/
def LogicOperand (v : Val) : Prop :=
  v.type.level = 0 ∧ (v.type.major = .bool ∨ v.type.major = .none) ∧ (absK v).isSome

def resK : Res Val → Option K
  | .ok v => absK v
  | _ => none

theorem logicOperand_cases (v : Val) (h : LogicOperand v) :
    (∃ mi, v = .null { major := .none, minor := mi, level := 0 }) ∨
    (∃ mi, v = .null { major := .bool, minor := mi, level := 0 }) ∨ v = .bool true ∨ v = .bool false := by
  obtain ⟨h1, h2, h3⟩ := h
  cases v with
  | null t =>
    obtain ⟨m, mi, lv⟩ := t
    simp [Val.type] at h1 h2
    subst h1
    rcases h2 with rfl | rfl
    · right; left; exact ⟨mi, rfl⟩
    · left; exact ⟨mi, rfl⟩
  | bool b => cases b <;> simp
  | _ => simp [absK] at h3

/-! ### AND, OR, XOR, NOT follow Kleene's tables for every operand, typed or untyped null alike -/

theorem and_kleene (a b : Val) (ha : LogicOperand a) (hb : LogicOperand b) :
    resK (evalBin .band a b) = (do let x ← absK a; let y ← absK b; pure (K.and x y)) := by
  rcases logicOperand_cases a ha with ⟨m, rfl⟩ | ⟨m, rfl⟩ | rfl | rfl <;>
  rcases logicOperand_cases b hb with ⟨n, rfl⟩ | ⟨n, rfl⟩ | rfl | rfl <;> rfl

theorem or_kleene (a b : Val) (ha : LogicOperand a) (hb : LogicOperand b) :
    resK (evalBin .bior a b) = (do let x ← absK a; let y ← absK b; pure (K.or x y)) := by
  rcases logicOperand_cases a ha with ⟨m, rfl⟩ | ⟨m, rfl⟩ | rfl | rfl <;>
  rcases logicOperand_cases b hb with ⟨n, rfl⟩ | ⟨n, rfl⟩ | rfl | rfl <;> rfl

theorem xor_kleene (a b : Val) (ha : LogicOperand a) (hb : LogicOperand b) :
    resK (evalBin .bxor a b) = (do let x ← absK a; let y ← absK b; pure (K.xor x y)) := by
  rcases logicOperand_cases a ha with ⟨m, rfl⟩ | ⟨m, rfl⟩ | rfl | rfl <;>
  rcases logicOperand_cases b hb with ⟨n, rfl⟩ | ⟨n, rfl⟩ | rfl | rfl <;> rfl

theorem not_kleene (a : Val) (ha : LogicOperand a) :
    resK (evalUn .bnot a) = (absK a).map K.not := by
  rcases logicOperand_cases a ha with ⟨m, rfl⟩ | ⟨m, rfl⟩ | rfl | rfl <;> rfl

theorem logic_symmetric (a b : Val) (ha : LogicOperand a) (hb : LogicOperand b) :
    resK (evalBin .band a b) = resK (evalBin .band b a) ∧
    resK (evalBin .bior a b) = resK (evalBin .bior b a) ∧
    resK (evalBin .bxor a b) = resK (evalBin .bxor b a) := by
  rcases logicOperand_cases a ha with ⟨m, rfl⟩ | ⟨m, rfl⟩ | rfl | rfl <;>
  rcases logicOperand_cases b hb with ⟨n, rfl⟩ | ⟨n, rfl⟩ | rfl | rfl <;> exact ⟨rfl, rfl, rfl⟩

/-- Provenance independence: the truth value of the result depends only on the truth values of the
operands, not on the type carried by a null. -/
theorem logic_provenance_independent (op : BinOp) (hop : op = .band ∨ op = .bior ∨ op = .bxor)
    (a a' b b' : Val) (ha : LogicOperand a) (ha' : LogicOperand a') (hb : LogicOperand b) (hb' : LogicOperand b')
    (ea : absK a = absK a') (eb : absK b = absK b') :
    resK (evalBin op a b) = resK (evalBin op a' b') := by
  rcases hop with rfl | rfl | rfl
  · rw [and_kleene a b ha hb, and_kleene a' b' ha' hb', ea, eb]
  · rw [or_kleene a b ha hb, or_kleene a' b' ha' hb', ea, eb]
  · rw [xor_kleene a b ha hb, xor_kleene a' b' ha' hb', ea, eb]

example : LogicOperand (.null Ty.bool) ∧ LogicOperand (.null Ty.none) ∧ LogicOperand (.bool false) := by
  refine ⟨⟨rfl, Or.inl rfl, rfl⟩, ⟨rfl, Or.inr rfl, rfl⟩, ⟨rfl, Or.inl rfl, rfl⟩⟩
example : resK (evalBin .bior (.null Ty.bool) (.bool false)) = some .n := rfl
example : resK (evalBin .bior (.null Ty.none) (.bool true)) = some .t := rfl

/-- Short circuit: `false and X`, `true or X` do not evaluate `X` (whatever it would do). -/
theorem short_circuit (x : Unit → Res Val) :
    opBand (.bool false) x = .ok (.bool false) ∧ opBior (.bool true) x = .ok (.bool true) := ⟨rfl, rfl⟩

/-! ### every relational operator returns null when either operand is null — for ALL values -/

theorem rel_null_strict (op : BinOp) (hop : op = .eq ∨ op = .ne ∨ op = .lt ∨ op = .le ∨ op = .gt ∨ op = .ge)
    (a b : Val) (same : Bool) (hn : a.isNull = true ∨ b.isNull = true) :
    evalBin op a b same = .ok (.null Ty.bool) :=
  evalBin_rel_null op hop a b same hn

example : evalBin .lt (.null Ty.none) (.int 3) = .ok (.null Ty.bool) := rfl
example : evalBin .eq (.str [0x61]) (.null Ty.str) = .ok (.null Ty.bool) := rfl

/-! ### a null or false condition takes the false branch of if / while -/

theorem cond_null_false (v : Val) (h : LogicOperand v) :
    condTaken v = .ok ((absK v).elim false K.cond) := by
  rcases logicOperand_cases v h with ⟨m, rfl⟩ | ⟨m, rfl⟩ | rfl | rfl <;> rfl

/-! ### statement level (Model/Interp.lean: `execIf`, `whileLoop`, `eval` of a literal) -/

/-- **A null condition takes the false branch of `if` / `elsif`** — for EVERY null value, whatever its type (untyped constant, `bool()`,
`num()`, a null table, …) and wherever the condition expression got it from: the guarded statements do not run and the next rule is
tried, from the state the evaluation of the condition left (IFStatement::doit). -/
theorem if_null_condition_takes_false_branch (funcs : List Func) (depth fuel : Nat) (c : Expr) (body : List Stmt)
    (rest : List (Option Expr × List Stmt)) (s s1 : St) (v : Val)
    (hc : eval funcs depth fuel c s = (.ok v, s1)) (hn : v.isNull = true) :
    execIf funcs depth (fuel + 1) ((some c, body) :: rest) s = execIf funcs depth fuel rest s1 := by
  have ht : condTaken v = .ok false := by unfold condTaken; simp [hn]
  simp only [execIf, Lemmas.bind_app, hc, Lemmas.liftM_app, ht, Bool.false_eq_true, if_false, Lemmas.evalM_ite_app]

/-- A `false` condition likewise; a `true` one runs the guarded statements and no later rule. -/
theorem if_bool_condition (funcs : List Func) (depth fuel : Nat) (c : Expr) (body : List Stmt)
    (rest : List (Option Expr × List Stmt)) (s s1 : St) (b : Bool)
    (hc : eval funcs depth fuel c s = (.ok (.bool b), s1)) :
    execIf funcs depth (fuel + 1) ((some c, body) :: rest) s =
      if b then execList funcs depth fuel body s1 else execIf funcs depth fuel rest s1 := by
  simp only [execIf, Lemmas.bind_app, hc, Lemmas.liftM_app, Lemmas.condTaken_bool, Lemmas.evalM_ite_app]

/-- **A null condition ends a `while` loop** (the body does not run), for every null value of any type (WHILEStatement::doit). -/
theorem while_null_condition_ends (cond : EvalM Val) (body : EvalM Flow) (k : Nat) (s s1 : St) (v : Val)
    (hc : cond s = (.ok v, s1)) (hn : v.isNull = true) :
    whileLoop cond body (k + 1) s = (.ok .norm, s1) :=
  Lemmas.whileLoop_cond_false cond body k s s1 v hc (by rw [hn]; rfl)

/-- **Evaluating an expression never changes what the literal `null` means** (model level): a literal evaluates to its own value in
every state — in particular `null` is the untyped null before and after any other evaluation `e` — and leaves the state alone. (That the
C++ constant cell is not overwritten is the flag discipline of C05; the pinned build's witness `x = null or (i==1)` in a loop is recorded there.) -/
theorem null_literal_stable (funcs : List Func) (depth fuel : Nat) (e : Expr) (s : St) :
    eval funcs depth (fuel + 1) (.lit (.null Ty.none)) s = (.ok (.null Ty.none), s) ∧
    eval funcs depth (fuel + 1) (.lit (.null Ty.none)) (eval funcs depth fuel e s).2 =
      (.ok (.null Ty.none), (eval funcs depth fuel e s).2) :=
  ⟨Lemmas.eval_lit .., Lemmas.eval_lit ..⟩

/-- `if num() then print "T"; elsif null then print "N"; else print "E"; end if;` prints E; `while int() loop … end loop` runs zero times -/
example : (execList [] 0 10 [.ifS [(some (.lit (.null Ty.num)), [.printS [.lit (.str [84])]]), (some (.lit (.null Ty.none)), [.printS [.lit (.str [78])]]),
      (none, [.printS [.lit (.str [69])]])], .whileS (.lit (.null Ty.int)) [.printS [.lit (.str [87])]]] {}).2.out = [[10], [69]] := by decide +kernel

end BlocV.C04
