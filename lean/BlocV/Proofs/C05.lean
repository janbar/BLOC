/-
  C05 — evaluating an expression changes nothing but its target (value semantics).

  First the operators-only storage model (Model/Store.lean: LVAL1 / LVAL2, temporary pool, `storeVariable`): frame, refinement to
  the value level, pool discipline, assignment copies — for ALL expressions over constants, variables and the operators and ALL
  stores with the flag invariant. Then (section `Extended`) the model with elements, in-place members, constructors, calls and
  built-ins (Model/StoreX.lean): every run of `evalX` writes in place only inside a footprint computed from the program text.
-/
import BlocV.Proofs.Lemmas.Res
import BlocV.Proofs.Lemmas.Store
import BlocV.Proofs.Lemmas.StoreX

namespace BlocV.C05
open BlocV.Lemmas

/-- Frame: what evaluation must leave alone. -/
def SameVarsCsts (σ σ' : Store) : Prop := σ'.vars = σ.vars ∧ σ'.csts = σ.csts

theorem flagInv_of_same {σ σ' : Store} (h : FlagInv σ) (e : SameVarsCsts σ σ') : FlagInv σ' := by
  unfold FlagInv at *; rw [e.1, e.2]; exact h

/-- The guarded write of LVAL1 / LVAL2 touches no variable and no constant: under the invariant a location whose LVALUE flag is
clear is a temporary or does not exist. -/
theorem guard_frame {σ : Store} {a : Loc} {c : Cell} {r : Loc × Store} (h : FlagInv σ) (hr : SameVarsCsts σ r.2) :
    SameVarsCsts σ (if !(σ.get a).lv then (a, σ.set a c) else r).2 := by
  split
  · rename_i hl
    exact set_clear h (by simpa using hl) rfl rfl c
  · exact hr

theorem lval1_frame (σ : Store) (v : Val) (a : Loc) (h : FlagInv σ) : SameVarsCsts σ (lval1 σ v a).2 :=
  guard_frame h ⟨rfl, rfl⟩

theorem lval2_frame (σ : Store) (v : Val) (a b : Loc) (h : FlagInv σ) : SameVarsCsts σ (lval2 σ v a b).2 :=
  guard_frame h (lval1_frame σ v b h)

theorem place_frame (σ : Store) (p : Place) (v : Val) (a b : Loc) (h : FlagInv σ) :
    SameVarsCsts σ (place σ p v a b).2 := by
  cases p
  · exact ⟨rfl, rfl⟩
  · exact ⟨rfl, rfl⟩
  · exact lval1_frame σ v a h
  · exact lval2_frame σ v a b h

theorem same_trans {a b c : Store} (h1 : SameVarsCsts a b) (h2 : SameVarsCsts b c) : SameVarsCsts a c :=
  ⟨h2.1.trans h1.1, h2.2.trans h1.2⟩

/-- **Frame theorem.** Under the flag invariant, evaluating ANY expression (to a value) leaves every
variable slot and every constant cell exactly as it was — value, type and flag — and re-establishes
the invariant; only temporaries are written. -/
theorem eval_frame (e : LExpr) : ∀ (σ σ' : Store) (ℓ : Loc), FlagInv σ → evalL e σ = .ok (ℓ, σ') →
    SameVarsCsts σ σ' ∧ FlagInv σ' := by
  suffices h : ∀ σ, FlagInv σ → Res.okP (fun r => SameVarsCsts σ r.2 ∧ FlagInv r.2) (evalL e σ) from
    fun σ σ' ℓ hi he => h σ hi _ he
  -- one more write (`place`, `lval1`) after a run that kept the frame
  have step : ∀ {σ σ1 : Store} {r : Loc × Store}, SameVarsCsts σ σ1 → FlagInv σ1 → SameVarsCsts σ1 r.2 →
      Res.okP (fun r => SameVarsCsts σ r.2 ∧ FlagInv r.2) (.ok r) :=
    fun f1 i1 f2 => okP_ok ⟨same_trans f1 f2, flagInv_of_same i1 f2⟩
  induction e with
  | cst i | var i => exact fun σ h => okP_ok ⟨⟨rfl, rfl⟩, h⟩
  | un op e ih =>
    intro σ h
    unfold evalL
    cases h1 : evalL e σ with
    | ok p =>
      obtain ⟨f1, i1⟩ := ih σ h p h1
      obtain ⟨ℓ1, σ1⟩ := p
      dsimp only
      cases evalUn op (σ1.get ℓ1).val with
      | ok v => exact step f1 i1 (place_frame σ1 _ v ℓ1 ℓ1 i1)
      | _ => exact fun _ h => nomatch h
    | _ => exact fun _ h => nomatch h
  | bin op a b iha ihb =>
    intro σ h
    unfold evalL
    cases h1 : evalL a σ with
    | ok p =>
      obtain ⟨f1, i1⟩ := iha σ h p h1
      obtain ⟨ℓ1, σ1⟩ := p
      dsimp only
      split
      · cases evalBin op (σ1.get ℓ1).val (Val.null Ty.none) with
        | ok v => exact step f1 i1 (lval1_frame σ1 v ℓ1 i1)
        | _ => exact fun _ h => nomatch h
      · cases h2 : evalL b σ1 with
        | ok q =>
          obtain ⟨f2, i2⟩ := ihb σ1 i1 q h2
          obtain ⟨ℓ2, σ2⟩ := q
          dsimp only
          cases evalBin op (σ2.get ℓ1).val (σ2.get ℓ2).val (ℓ1 == ℓ2) with
          | ok v => exact step (same_trans f1 f2) i2 (place_frame σ2 _ v ℓ1 ℓ2 i2)
          | _ => exact fun _ h => nomatch h
        | _ => exact fun _ h => nomatch h
    | _ => exact fun _ h => nomatch h

/-- A constant cell (the literal `null`, `true`, `3` …) means the same before and after any successful evaluation; a failing
one returns no store at all. -/
theorem constant_stable (e : LExpr) (σ σ' : Store) (ℓ : Loc) (i : Nat) (h : FlagInv σ)
    (he : evalL e σ = .ok (ℓ, σ')) : σ'.get (.cst i) = σ.get (.cst i) :=
  congrArg (·.getD i default) (eval_frame e σ σ' ℓ h he).1.2

theorem variable_stable (e : LExpr) (σ σ' : Store) (ℓ : Loc) (i : Nat) (h : FlagInv σ)
    (he : evalL e σ = .ok (ℓ, σ')) : σ'.get (.var i) = σ.get (.var i) :=
  congrArg (·.getD i default) (eval_frame e σ σ' ℓ h he).1.1

/-- `Context::storeVariable` under the invariant, in one equation: slot `i` receives the value of the result cell with the
flag set, and that is all that changes among variables and constants (a temporary is swapped in and the old slot value
lands in a pool slot, an lvalue is cloned, the slot stored into itself stays as it is); the invariant holds again. -/
theorem store_preserves (σ : Store) (i : Nat) (ℓ : Loc) (h : FlagInv σ) :
    (storeVar σ i ℓ).vars = σ.vars.set i { val := (σ.get ℓ).val, lv := true } ∧
    (storeVar σ i ℓ).csts = σ.csts ∧ FlagInv (storeVar σ i ℓ) := by
  have key : (storeVar σ i ℓ).vars = σ.vars.set i { val := (σ.get ℓ).val, lv := true } ∧ (storeVar σ i ℓ).csts = σ.csts := by
    unfold storeVar
    split
    · -- the result cell carries no flag: the second write, into the store with the slot already set, changes no variable
      rename_i hl
      exact set_clear (τ := σ.set (.var i) _) h hl (List.length_set ..) rfl _
    · split
      · rename_i e
        subst e
        refine ⟨?_, rfl⟩
        by_cases hi : i < σ.vars.length
        · have e : σ.get (.var i) = σ.vars[i] := by simp [Store.get, List.getD, hi]
          rw [← flag_var h hi, e, List.set_getElem_self]
        · exact (List.set_eq_of_length_le (Nat.le_of_not_lt hi)).symm
      · exact ⟨rfl, rfl⟩
  refine ⟨key.1, key.2, fun c hc => ?_, by rw [key.2]; exact h.2⟩
  rw [key.1] at hc
  rcases List.mem_or_eq_of_mem_set hc with hc | hc
  · exact h.1 c hc
  · rw [hc]

/-- Non-vacuity: a store with two variables and the constants `null` and `1` satisfies the invariant,
and `null + x0` evaluates in it. -/
example :
    let σ : Store := { vars := [⟨.int 5, true⟩, ⟨.str [97], true⟩], csts := [⟨.null Ty.none, true⟩, ⟨.int 1, true⟩], pool := [], wm := 0 }
    FlagInv σ ∧ ∃ ℓ σ', evalL (.bin .add (.cst 0) (.var 0)) σ = .ok (ℓ, σ') := by
  refine ⟨⟨by simp, by simp⟩, ?_⟩
  exact ⟨_, _, rfl⟩

/-- `FlagInv` is needed: without the flag on the cell of the literal `null` (the defect of the pinned C++ tree) the frame
fails — `null or true` overwrites the constant cell. -/
example :
    let σ : Store := { vars := [], csts := [⟨.null Ty.none, false⟩, ⟨.bool true, true⟩], pool := [], wm := 0 }
    ∃ ℓ σ', evalL (.bin .bior (.cst 0) (.cst 1)) σ = .ok (ℓ, σ') ∧ (σ'.get (.cst 0)).val == .bool true := by
  exact ⟨_, _, rfl, rfl⟩

/-- The value-level semantics, tracking in addition *which named cell* a result is (`some (.var i)`,
`some (.cst i)`) or that it is a fresh value (`none`). This is `LExpr.pure` (Model/Store.lean) plus the one
thing a BLOC program can observe of storage: `==`/`!=` on tables and tuples compare *addresses*
(op_eq.cpp `a1.collection() == a2.collection()`), so `t == t` is true while two equal-looking tables differ.
Identity propagates through the operators that return an operand reference (`+x`, `-null`, `null + s`, …:
`Lemmas.placeId`). Nothing here mentions the pool, the watermark or the LVALUE flag. -/
def pureI (vars csts : List Val) : LExpr → Res (Val × Option Loc)
  | .cst i => .ok (csts.getD i (.null Ty.none), some (.cst i))
  | .var i => .ok (vars.getD i (.null Ty.none), some (.var i))
  | .un op e =>
    match pureI vars csts e with
    | .ok (v, i) =>
      (match evalUn op v with
       | .ok r => .ok (r, placeId (unPlace op v) i i)
       | .err c a => .err c a
       | .haz h => .haz h
       | .unmodelled => .unmodelled)
    | .err c a => .err c a
    | .haz h => .haz h
    | .unmodelled => .unmodelled
  | .bin op a b =>
    match pureI vars csts a with
    | .ok (v1, i1) =>
      if !rightForced op v1 then
        (match evalBin op v1 (.null Ty.none) with
         | .ok r => .ok (r, none)
         | .err c x => .err c x
         | .haz h => .haz h
         | .unmodelled => .unmodelled)
      else
        (match pureI vars csts b with
         | .ok (v2, i2) =>
           (match evalBin op v1 v2 (sameCell i1 i2) with
            | .ok r => .ok (r, placeId (binPlace op v1 v2) i1 i2)
            | .err c x => .err c x
            | .haz h => .haz h
            | .unmodelled => .unmodelled)
         | .err c x => .err c x
         | .haz h => .haz h
         | .unmodelled => .unmodelled)
    | .err c a => .err c a
    | .haz h => .haz h
    | .unmodelled => .unmodelled

/-- Every variable / constant index of the expression exists. -/
def WfIdx (nv nc : Nat) : LExpr → Prop
  | .cst i => i < nc
  | .var i => i < nv
  | .un _ e => WfIdx nv nc e
  | .bin _ a b => WfIdx nv nc a ∧ WfIdx nv nc b

instance WfIdx.dec (nv nc : Nat) : (e : LExpr) → Decidable (WfIdx nv nc e)
  | .cst i => inferInstanceAs (Decidable (i < nc))
  | .var i => inferInstanceAs (Decidable (i < nv))
  | .un _ e => WfIdx.dec nv nc e
  | .bin _ a b => @instDecidableAnd _ _ (WfIdx.dec nv nc a) (WfIdx.dec nv nc b)

/-- What is observable of a storage-level outcome: the value in the result cell and which named cell it is. -/
def absRes : Res (Loc × Store) → Res (Val × Option Loc)
  | .ok (ℓ, σ') => .ok ((σ'.get ℓ).val, cellId ℓ)
  | .err c a => .err c a
  | .haz h => .haz h
  | .unmodelled => .unmodelled

def vals (l : List Cell) : List Val := l.map (·.val)

/-- One induction for `eval_refines` and `eval_pool_discipline`: the refinement of a node needs the pool discipline of its
operands (good locations, for `place_ok` and `sameCell_eq`). -/
theorem eval_refines_aux (e : LExpr) : ∀ (σ : Store), FlagInv σ → WfIdx σ.vars.length σ.csts.length e →
    absRes (evalL e σ) = pureI (vals σ.vars) (vals σ.csts) e ∧
    Res.okP (fun r => Ext σ.wm σ r.2 ∧ LocOK σ.wm r.2 r.1) (evalL e σ) := by
  -- a successful outcome `r`: the result cell is `q` as far as it is observable, the store extends `σ`
  have refines_ok : ∀ {w : Nat} {σ : Store} {r : Loc × Store} {q : Val × Option Loc}, Ext w σ r.2 → LocOK w r.2 r.1 →
      ((r.2.get r.1).val, cellId r.1) = q →
      absRes (.ok r) = .ok q ∧ Res.okP (fun r => Ext w σ r.2 ∧ LocOK w r.2 r.1) (.ok r) :=
    fun hx hk ha => ⟨congrArg Res.ok ha, okP_ok ⟨hx, hk⟩⟩
  induction e with
  | cst i =>
    intro σ hinv hwf
    exact refines_ok (Ext.refl _ _) hwf (Prod.ext (val_getD σ.csts i) rfl)
  | var i =>
    intro σ hinv hwf
    exact refines_ok (Ext.refl _ _) hwf (Prod.ext (val_getD σ.vars i) rfl)
  | un op e ih =>
    intro σ hinv hwf
    obtain ⟨ihr, ihx⟩ := ih σ hinv hwf
    unfold evalL pureI
    rw [← ihr]
    cases h1 : evalL e σ with
    | ok p =>
      obtain ⟨ℓ1, σ1⟩ := p
      obtain ⟨x1, k1⟩ := ihx _ h1
      have inv1 := x1.flagInv hinv
      simp only [absRes]
      cases hv : evalUn op (σ1.get ℓ1).val with
      | ok v =>
        obtain ⟨px, pk, pa⟩ := place_ok (unPlace op (σ1.get ℓ1).val) v inv1 x1.wm k1 k1
          (fun hp => unPlace_ret (.inl hp) hv) (fun hp => unPlace_ret (.inr hp) hv)
        exact refines_ok (x1.trans px) pk pa
      | _ => exact ⟨rfl, fun _ he => nomatch he⟩
    | _ => exact ⟨rfl, fun _ he => nomatch he⟩
  | bin op a b iha ihb =>
    intro σ hinv hwf
    obtain ⟨ihr, ihx⟩ := iha σ hinv hwf.1
    unfold evalL pureI
    rw [← ihr]
    cases h1 : evalL a σ with
    | ok p =>
      obtain ⟨ℓ1, σ1⟩ := p
      obtain ⟨x1, k1⟩ := ihx _ h1
      have inv1 := x1.flagInv hinv
      simp only [absRes]
      by_cases hf : (!rightForced op (σ1.get ℓ1).val) = true
      · rw [if_pos hf, if_pos hf]
        cases hv : evalBin op (σ1.get ℓ1).val (Val.null Ty.none) with
        | ok v =>
          obtain ⟨px, pk, pa⟩ := place_ok .l1 v inv1 x1.wm k1 k1 nofun nofun
          exact refines_ok (x1.trans px) pk pa
        | _ => exact ⟨rfl, fun _ he => nomatch he⟩
      · rw [if_neg hf, if_neg hf]
        have hwf2 : WfIdx σ1.vars.length σ1.csts.length b := by rw [x1.vars, x1.csts]; exact hwf.2
        obtain ⟨ihr2, ihx2⟩ := ihb σ1 inv1 hwf2
        rw [x1.vars, x1.csts] at ihr2
        rw [← ihr2]
        cases h2 : evalL b σ1 with
        | ok q =>
          obtain ⟨ℓ2, σ2⟩ := q
          obtain ⟨x2, k2⟩ := ihx2 _ h2
          have inv2 := x2.flagInv inv1
          obtain ⟨k1', g1⟩ := k1.ext x2
          have k2' : LocOK σ.wm σ2 ℓ2 := k2.mono x1.wm
          have x12 : Ext σ.wm σ σ2 := x1.trans (x2.mono x1.wm)
          simp only [absRes]
          rw [sameCell_eq k1 k2, g1]
          cases hv : evalBin op (σ1.get ℓ1).val (σ2.get ℓ2).val (ℓ1 == ℓ2) with
          | ok v =>
            obtain ⟨px, pk, pa⟩ := place_ok (binPlace op (σ1.get ℓ1).val (σ2.get ℓ2).val) v inv2 x12.wm k1' k2'
              (fun hp => by rw [g1]; exact Res.ok.inj (hv.symm.trans (binPlace_ret.1 hp)))
              fun hp => Res.ok.inj (hv.symm.trans (binPlace_ret.2 hp))
            exact refines_ok (x12.trans px) pk pa
          | _ => exact ⟨rfl, fun _ he => nomatch he⟩
        | _ => exact ⟨rfl, fun _ he => nomatch he⟩
    | _ => exact ⟨rfl, fun _ he => nomatch he⟩

/-- **Refinement.** Under the flag invariant, for every expression whose variable and constant indices
exist, storage-level evaluation (`evalL`: operand reuse through LVAL1/LVAL2, pool slots, watermark —
Expression::value(ctx) of the operator nodes) and the value-level semantics `pureI` agree: the same runtime
error, the same hazard, the same "unmodelled", and on success the cell returned holds exactly the
value-level result and is the same named cell (or a temporary where `pureI` says "fresh value"). -/
theorem eval_refines (e : LExpr) (σ : Store) (hinv : FlagInv σ) (hwf : WfIdx σ.vars.length σ.csts.length e) :
    absRes (evalL e σ) = pureI (vals σ.vars) (vals σ.csts) e :=
  (eval_refines_aux e σ hinv hwf).1

/-- **Pool discipline.** A successful evaluation changes no variable, no constant, and no temporary
below the watermark it started from (`Lemmas.Ext`); the watermark and the pool only grow; the result is an
existing variable slot, an existing constant cell, or a live temporary allocated by this very evaluation
(`Lemmas.LocOK`: index in `[σ.wm, σ'.wm)`, LVALUE flag clear). -/
theorem eval_pool_discipline (e : LExpr) (σ σ' : Store) (ℓ : Loc) (hinv : FlagInv σ)
    (hwf : WfIdx σ.vars.length σ.csts.length e) (he : evalL e σ = .ok (ℓ, σ')) :
    Ext σ.wm σ σ' ∧ LocOK σ.wm σ' ℓ :=
  (eval_refines_aux e σ hinv hwf).2 _ he

/-- The value component of an identity-tracking outcome. -/
def valOf : Res (Val × Option Loc) → Res Val
  | .ok (v, _) => .ok v
  | .err c a => .err c a
  | .haz h => .haz h
  | .unmodelled => .unmodelled

/-- No `==` / `!=` node (the only operators that observe cell identity). -/
def EqFree : LExpr → Prop
  | .cst _ => True
  | .var _ => True
  | .un _ e => EqFree e
  | .bin op a b => op ≠ .eq ∧ op ≠ .ne ∧ EqFree a ∧ EqFree b

instance EqFree.dec : (e : LExpr) → Decidable (EqFree e)
  | .cst _ => isTrue trivial
  | .var _ => isTrue trivial
  | .un _ e => EqFree.dec e
  | .bin op a b =>
    @instDecidableAnd (op ≠ .eq) _ inferInstance (@instDecidableAnd (op ≠ .ne) _ inferInstance
      (@instDecidableAnd _ _ (EqFree.dec a) (EqFree.dec b)))

/-- For expressions without `==`/`!=`, identity tracking is irrelevant: `pureI` is `LExpr.pure`. -/
theorem pureI_eq_pure (vars csts : List Val) (e : LExpr) (h : EqFree e) :
    valOf (pureI vars csts e) = LExpr.pure vars csts e := by
  induction e with
  | cst i => rfl
  | var i => rfl
  | un op e ih =>
    unfold pureI LExpr.pure
    rw [← ih h]
    cases pureI vars csts e with
    | ok p => obtain ⟨v, i⟩ := p; simp only [valOf]; cases evalUn op v <;> rfl
    | _ => rfl
  | bin op a b iha ihb =>
    obtain ⟨h1, h2, ha, hb⟩ := h
    have hs : ∀ x y s, evalBin op x y s = evalBin op x y false := by
      intro x y s
      cases op with
      | eq => exact absurd rfl h1
      | ne => exact absurd rfl h2
      | _ => rfl
    unfold pureI LExpr.pure
    rw [← iha ha]
    cases pureI vars csts a with
    | ok p =>
      obtain ⟨v1, i1⟩ := p
      simp only [valOf]
      by_cases hf : (!rightForced op v1) = true
      · rw [if_pos hf, if_pos hf]; cases evalBin op v1 (Val.null Ty.none) <;> rfl
      · rw [if_neg hf, if_neg hf, ← ihb hb]
        cases pureI vars csts b with
        | ok q =>
          obtain ⟨v2, i2⟩ := q
          simp only [valOf]
          rw [hs]
          cases evalBin op v1 v2 false <;> rfl
        | _ => rfl
    | _ => rfl

/-- **Refinement against `LExpr.pure`** — what holds exactly: for every expression without `==`/`!=`,
storage-level evaluation yields the outcome of the pure value-level evaluator of Model/Store.lean. (With
`==`/`!=` the statement is false for `LExpr.pure`, which has no notion of cell identity: witness below;
`eval_refines` is the full statement.) -/
theorem eval_refines_pure_partial (e : LExpr) (σ : Store) (hinv : FlagInv σ)
    (hwf : WfIdx σ.vars.length σ.csts.length e) (hq : EqFree e) :
    valOf (absRes (evalL e σ)) = LExpr.pure (σ.vars.map (·.val)) (σ.csts.map (·.val)) e := by
  rw [eval_refines e σ hinv hwf, pureI_eq_pure _ _ e hq]; rfl

/-- Negation witness for the unrestricted statement against `LExpr.pure`: with `x0` a table, `x0 == x0`
evaluates to `true` at storage level (same collection address; the real interpreter prints `true` for
`t = tab(2,0); print t == t;`), while `LExpr.pure` — two values, no identity — says `false`. -/
example :
    let σ : Store := { vars := [⟨.tab (Ty.int.levelUp) [] [.int 0, .int 0], true⟩], csts := [], pool := [], wm := 0 }
    FlagInv σ ∧ WfIdx 1 0 (.bin .eq (.var 0) (.var 0)) ∧
    valOf (absRes (evalL (.bin .eq (.var 0) (.var 0)) σ)) = .ok (.bool true) ∧
    LExpr.pure (σ.vars.map (·.val)) (σ.csts.map (·.val)) (.bin .eq (.var 0) (.var 0)) = .ok (.bool false) := by
  refine ⟨⟨by simp, by simp⟩, ⟨by decide, by decide⟩, rfl, rfl⟩

/-- Non-vacuity of `eval_refines`: `-(x0 + c1) * x0` reuses the temporary of `x0 + c1` twice (LVAL1 of the
negation, LVAL2 of the product) and the result cell holds the value-level result −30. -/
example :
    let σ : Store := { vars := [⟨.int 5, true⟩], csts := [⟨.null Ty.none, true⟩, ⟨.int 1, true⟩], pool := [], wm := 0 }
    let e : LExpr := .bin .mul (.un .neg (.bin .add (.var 0) (.cst 1))) (.var 0)
    FlagInv σ ∧ WfIdx σ.vars.length σ.csts.length e ∧
    ∃ σ', evalL e σ = .ok (.tmp 0, σ') ∧ σ'.wm = 1 ∧ absRes (evalL e σ) = .ok (.int (-30), none) := by
  refine ⟨⟨by simp, by simp⟩, ⟨⟨by decide, by decide⟩, by decide⟩, _, rfl, rfl, rfl⟩

/-- The index hypothesis `WfIdx` is needed (model-only artefact: the parser never produces a symbol without a
slot): `~x7` in a store without variables "writes" its result through the non-existent slot and reads back the
default cell — an untyped null where the value-level result is the integer null. -/
example :
    let σ : Store := { vars := [], csts := [], pool := [], wm := 0 }
    FlagInv σ ∧ absRes (evalL (.un .not (.var 7)) σ) = .ok (.null Ty.none, some (.var 7)) ∧
    pureI (vals σ.vars) (vals σ.csts) (.un .not (.var 7)) = .ok (.null Ty.int, none) := by
  refine ⟨⟨by simp, by simp⟩, rfl, rfl⟩

/-- **Evaluating one expression after another**: after ANY successful evaluation of `e1`, evaluating `e2`
gives exactly the outcome it gives in the original store — same error or same value and identity: the
temporaries `e1` left behind do not leak into `e2` — and the result cell of `e1` is not clobbered by `e2`
(it keeps its content: temporaries handed out earlier in the statement stay valid). -/
theorem eval_after (e1 e2 : LExpr) (σ σ1 : Store) (ℓ1 : Loc) (hinv : FlagInv σ)
    (hwf1 : WfIdx σ.vars.length σ.csts.length e1) (hwf2 : WfIdx σ.vars.length σ.csts.length e2)
    (h1 : evalL e1 σ = .ok (ℓ1, σ1)) :
    absRes (evalL e2 σ1) = absRes (evalL e2 σ) ∧
    ∀ ℓ2 σ2, evalL e2 σ1 = .ok (ℓ2, σ2) → σ2.get ℓ1 = σ1.get ℓ1 := by
  obtain ⟨x1, k1⟩ := eval_pool_discipline e1 σ σ1 ℓ1 hinv hwf1 h1
  have inv1 := x1.flagInv hinv
  have hwf2' : WfIdx σ1.vars.length σ1.csts.length e2 := by rw [x1.vars, x1.csts]; exact hwf2
  refine ⟨?_, ?_⟩
  · rw [eval_refines e2 σ1 inv1 hwf2', eval_refines e2 σ hinv hwf2, x1.vars, x1.csts]
  · intro ℓ2 σ2 h2
    obtain ⟨x2, _⟩ := eval_pool_discipline e2 σ1 σ2 ℓ2 inv1 hwf2' h2
    exact (k1.ext x2).2

/-- **Evaluating the same expression twice in the same state gives equal results**: the second
evaluation (from the store the first one left, temporaries included) succeeds too, its result cell holds
the same value and is the same named cell (or again a temporary), and the first result is still intact. -/
theorem eval_twice_equal (e : LExpr) (σ σ' : Store) (ℓ : Loc) (hinv : FlagInv σ)
    (hwf : WfIdx σ.vars.length σ.csts.length e) (h1 : evalL e σ = .ok (ℓ, σ')) :
    ∃ ℓ2 σ'', evalL e σ' = .ok (ℓ2, σ'') ∧ (σ''.get ℓ2).val = (σ'.get ℓ).val ∧ cellId ℓ2 = cellId ℓ ∧
      σ''.get ℓ = σ'.get ℓ := by
  obtain ⟨ha, hb⟩ := eval_after e e σ σ' ℓ hinv hwf hwf h1
  rw [h1] at ha
  cases h2 : evalL e σ' with
  | ok p =>
    obtain ⟨ℓ2, σ''⟩ := p
    rw [h2] at ha
    simp only [absRes] at ha
    have := Res.ok.inj ha
    exact ⟨ℓ2, σ'', rfl, (Prod.mk.inj this).1, (Prod.mk.inj this).2, hb ℓ2 σ'' h2⟩
  | _ => rw [h2] at ha; cases ha

/-- A failing evaluation fails identically when repeated after any successful evaluation. -/
theorem eval_error_repeatable (e1 e2 : LExpr) (σ σ1 : Store) (ℓ1 : Loc) (c : Nat) (a : Bytes) (hinv : FlagInv σ)
    (hwf1 : WfIdx σ.vars.length σ.csts.length e1) (hwf2 : WfIdx σ.vars.length σ.csts.length e2)
    (h1 : evalL e1 σ = .ok (ℓ1, σ1)) (h2 : evalL e2 σ = .err c a) : evalL e2 σ1 = .err c a := by
  have := (eval_after e1 e2 σ σ1 ℓ1 hinv hwf1 hwf2 h1).1
  rw [h2] at this
  cases h : evalL e2 σ1 with
  | err c' a' => rw [h] at this; simp only [absRes] at this; injection this with e1 e2; rw [e1, e2]
  | _ => rw [h] at this; cases this

/-- **`x_i = <result at ℓ>` copies** (Context::storeVariable): afterwards slot `i` holds the value that
was at `ℓ`, with the LVALUE flag; the invariant holds; every constant and every other variable slot is
exactly as before. (A temporary is swapped in, an lvalue is cloned: either way a value copy.) -/
theorem assign_copies (σ : Store) (i : Nat) (ℓ : Loc) (hinv : FlagInv σ) (hi : i < σ.vars.length) :
    ((storeVar σ i ℓ).get (.var i)).val = (σ.get ℓ).val ∧ ((storeVar σ i ℓ).get (.var i)).lv = true ∧
    FlagInv (storeVar σ i ℓ) ∧ (storeVar σ i ℓ).csts = σ.csts ∧
    (storeVar σ i ℓ).vars.length = σ.vars.length ∧
    (∀ j, j ≠ i → (storeVar σ i ℓ).get (.var j) = σ.get (.var j)) := by
  obtain ⟨e, p2, p1⟩ := store_preserves σ i ℓ hinv
  have hg : (storeVar σ i ℓ).get (.var i) = { val := (σ.get ℓ).val, lv := true } := by
    simp [Store.get, e, List.getD, hi]
  exact ⟨by rw [hg], by rw [hg], p1, p2, by rw [e, List.length_set], fun j hj => get_var_of_set e hj⟩

/-- **After `b = a` the two variables are independent**: `b` holds `a`'s value, `a` is unchanged; any later
assignment into `a` (of any result cell `ℓ`) leaves `b` as it is, and any later assignment into `b` leaves
`a` as it is. -/
theorem assign_independent (σ : Store) (a b : Nat) (hinv : FlagInv σ) (hab : a ≠ b)
    (hb : b < σ.vars.length) :
    let σ1 := storeVar σ b (.var a)
    (σ1.get (.var b)).val = (σ.get (.var a)).val ∧ σ1.get (.var a) = σ.get (.var a) ∧
    (∀ ℓ, (storeVar σ1 a ℓ).get (.var b) = σ1.get (.var b)) ∧
    (∀ ℓ, (storeVar σ1 b ℓ).get (.var a) = σ1.get (.var a)) := by
  intro σ1
  obtain ⟨c1, _, c3, _, _, c6⟩ := assign_copies σ b (.var a) hinv hb
  refine ⟨c1, c6 a hab, ?_, ?_⟩
  · intro ℓ; exact get_var_of_set (store_preserves σ1 a ℓ c3).1 (Ne.symm hab)
  · intro ℓ; exact get_var_of_set (store_preserves σ1 b ℓ c3).1 hab

/-- One assignment statement `x_i = e;` at storage level: evaluate, store, end of statement. -/
def assign (σ : Store) (i : Nat) (e : LExpr) : Res Store :=
  match evalL e σ with
  | .ok (ℓ, σ') => .ok (endStatement (storeVar σ' i ℓ))
  | .err c a => .err c a
  | .haz h => .haz h
  | .unmodelled => .unmodelled

def runAssigns : List (Nat × LExpr) → Store → Res Store
  | [], σ => .ok σ
  | (i, e) :: rest, σ =>
    match assign σ i e with
    | .ok σ' => runAssigns rest σ'
    | .err c a => .err c a
    | .haz h => .haz h
    | .unmodelled => .unmodelled

theorem assign_ok {σ σ' : Store} {i : Nat} {e : LExpr} (h : assign σ i e = .ok σ') :
    ∃ ℓ σ1, evalL e σ = .ok (ℓ, σ1) ∧ σ' = endStatement (storeVar σ1 i ℓ) := by
  unfold assign at h
  split at h <;> cases h
  exact ⟨_, _, ‹_›, rfl⟩

/-- **An assignment statement, end to end**: `x_i = e;` puts into slot `i` exactly the value-level result
of `e` in the state before the statement, changes no other variable and no constant, keeps the invariant. -/
theorem assign_refines (σ σ' : Store) (i : Nat) (e : LExpr) (hinv : FlagInv σ) (hi : i < σ.vars.length)
    (hwf : WfIdx σ.vars.length σ.csts.length e) (h : assign σ i e = .ok σ') :
    valOf (pureI (vals σ.vars) (vals σ.csts) e) = .ok (σ'.get (.var i)).val ∧
    FlagInv σ' ∧ σ'.csts = σ.csts ∧ σ'.vars.length = σ.vars.length ∧
    (∀ j, j ≠ i → σ'.get (.var j) = σ.get (.var j)) := by
  obtain ⟨ℓ, σ1, he, rfl⟩ := assign_ok h
  obtain ⟨f1, inv1⟩ := eval_frame e σ σ1 ℓ hinv he
  obtain ⟨c1, _, c3, c4, c5, c6⟩ := assign_copies σ1 i ℓ inv1 (by rw [f1.1]; exact hi)
  have hr := eval_refines e σ hinv hwf
  rw [he] at hr
  refine ⟨?_, c3, c4.trans f1.2, c5.trans (by rw [f1.1]), fun j hj => (c6 j hj).trans (variable_stable e σ σ1 ℓ j hinv he)⟩
  rw [← hr]; simp only [absRes, valOf]
  congr 1; exact c1.symm

/-- **No later change is visible through a copy**: whatever sequence of assignment statements runs —
their right-hand sides may read any variable, `b` included — as long as none of them assigns to `b`, slot
`b` is exactly what it was (so after `b = a`, later changes of `a` never show through `b`); the constants
keep their meaning and the invariant holds at the end. -/
theorem assigns_leave_others (prog : List (Nat × LExpr)) : ∀ (σ σ' : Store) (b : Nat), FlagInv σ →
    (∀ p ∈ prog, p.1 ≠ b) → runAssigns prog σ = .ok σ' →
    σ'.get (.var b) = σ.get (.var b) ∧ σ'.csts = σ.csts ∧ FlagInv σ' := by
  induction prog with
  | nil =>
    intro σ σ' b hinv _ h
    cases h
    exact ⟨rfl, rfl, hinv⟩
  | cons st rest ih =>
    intro σ σ' b hinv hb h
    obtain ⟨i, e⟩ := st
    unfold runAssigns at h
    cases ha : assign σ i e with
    | ok σ1 =>
      rw [ha] at h
      dsimp only at h
      have hib : i ≠ b := hb (i, e) (List.mem_cons_self)
      have step : σ1.get (.var b) = σ.get (.var b) ∧ σ1.csts = σ.csts ∧ FlagInv σ1 := by
        obtain ⟨ℓ, σe, he, rfl⟩ := assign_ok ha
        obtain ⟨f1, inv1⟩ := eval_frame e σ σe ℓ hinv he
        obtain ⟨s1, s2, s3⟩ := store_preserves σe i ℓ inv1
        exact ⟨(get_var_of_set s1 (Ne.symm hib)).trans (variable_stable e σ σe ℓ b hinv he), s2.trans f1.2, s3⟩
      obtain ⟨r1, r2, r3⟩ := ih σ1 σ' b step.2.2 (fun p hp => hb p (List.mem_cons_of_mem _ hp)) h
      exact ⟨r1.trans step.1, r2.trans step.2.1, r3⟩
    | _ => rw [ha] at h; cases h

/-- Non-vacuity: `x1 = x0; x0 = x0 + c1; x0 = -x0;` runs, and `x1` still holds the old value 5 of `x0`
while `x0` is −6. -/
example :
    let σ : Store := { vars := [⟨.int 5, true⟩, ⟨.null Ty.none, true⟩], csts := [⟨.null Ty.none, true⟩, ⟨.int 1, true⟩], pool := [], wm := 0 }
    let prog : List (Nat × LExpr) := [(1, .var 0), (0, .bin .add (.var 0) (.cst 1)), (0, .un .neg (.var 0))]
    FlagInv σ ∧ ∃ σ', runAssigns prog σ = .ok σ' ∧ (σ'.get (.var 1)).val = .int 5 ∧ (σ'.get (.var 0)).val = .int (-6) := by
  refine ⟨⟨by simp, by simp⟩, _, rfl, rfl, rfl⟩

section Extended
open BlocV.LemmasX

/-- **Every run of the evaluator is a `LemmasX.Step`** with the static footprint `fpE F fuel e`: the frame part of
`LemmasX.evalX_run`. `evalX_frame`, `evalX_logs`, `evalX_ppool` and their corollaries are its projections. -/
theorem evalX_pres (F : List XFun) (fuel : Nat) (e : XExpr) : Pres (· ∈ fpE F fuel e) (evalX F fuel e) :=
  (evalX_run F fuel e).pres

/-- Statements likewise (assignment logs its target); no static footprint is kept for them. -/
theorem execX_pres (F : List XFun) (fuel : Nat) (st : XStmt) : Pres (fun _ => True) (execX F fuel st) := by
  have ih := fun e => (evalX_pres F fuel e).mono fun _ _ => trivial
  cases st with
  | assign i e => exact .seq (ih e) fun x => .seq (pres_xstoreVar trivial) fun _ => pres_xendStatement
  | doE e | ret e => exact .seq (ih e) fun _ => pres_xendStatement

theorem execXs_pres (F : List XFun) (fuel : Nat) : ∀ sts, Pres (fun _ => True) (execXs F fuel sts)
  | [] => .pure trivial
  | st :: rest => .seq (execX_pres F fuel st) fun _ => execXs_pres F fuel rest

/-- **Extended frame theorem.** For every function table, fuel, expression of the extended language (constants,
variables, operators, `at`, `count`, `put`, `insert`, `delete`, `concat`, `@N`, `set@N`, `tab`, `tup`, user-function
calls) and every state satisfying the flag invariant: if the evaluation succeeds then
* the log only grows — the new entries `fp` are the footprint of this evaluation: exactly the non-temporary roots an
  in-place member (of the expression or of a function it calls, there: constant nodes only) wrote through,
* every variable slot and every constant node that is NOT in the log afterwards is untouched — value, all of its
  elements and items at every depth, and flag (`root?` returns the whole cell),
* no slot appears or disappears and no flag of a variable / constant changes, wherever the footprint lies. -/
theorem evalX_frame (F : List XFun) (fuel : Nat) (e : XExpr) (s s' : XS) (x : XLoc) (hinv : FlagInvX s)
    (h : evalX F fuel e s = .ok (x, s')) :
    (∃ fp, s'.log = fp ++ s.log) ∧
    (∀ r, NonTmp r → r ∉ s'.log → s'.st.root? r = s.st.root? r) ∧
    (∀ r, NonTmp r → (s'.st.root? r).map (·.lv) = (s.st.root? r).map (·.lv)) :=
  ((evalX_pres F fuel e s x s' h).1.frame hinv).spec

/-- **The flag invariant is preserved by every construct**: expressions (all members, constructors, calls —
inside a call the callee context satisfies it too: that is how `pres_inCallee` is proved), assignment statements,
statement lists. -/
theorem flagInvX_preserved_expr (F : List XFun) (fuel : Nat) (e : XExpr) (s s' : XS) (x : XLoc) (hinv : FlagInvX s)
    (h : evalX F fuel e s = .ok (x, s')) : FlagInvX s' :=
  ((evalX_pres F fuel e s x s' h).1.frame hinv).flagInv hinv

theorem flagInvX_preserved (F : List XFun) (fuel : Nat) (sts : List XStmt) (s s' : XS) (hinv : FlagInvX s)
    (h : execXs F fuel sts s = .ok ((), s')) : FlagInvX s' :=
  ((execXs_pres F fuel sts s () s' h).1.frame hinv).flagInv hinv

/-- **Independence after a copy, for ALL subsequent statement sequences.** Whatever statements run later
(assignments, in-place members on any receiver, calls, constructors …): a variable slot or constant node that is not
in the log of that run still holds exactly what it held before it. In particular after `b = a`, `t = tab(n, a)`,
`u = tup(a, …)` or `f(a)`: a later in-place change whose receiver is rooted at `a` logs `a` only, so `b` / `t` / `u` /
the callee's parameter cannot change through it, and vice versa. -/
theorem later_ops_leave_others (F : List XFun) (fuel : Nat) (ops : List XStmt) (s s' : XS) (hinv : FlagInvX s)
    (h : execXs F fuel ops s = .ok ((), s')) (r : Loc) (hr : NonTmp r) (hn : r ∉ s'.log) :
    s'.st.root? r = s.st.root? r :=
  ((execXs_pres F fuel ops s () s' h).1.frame hinv).spec.2.1 r hr hn

/-- `b = a;` for variables `a ≠ b` of ANY type (tables of tables, tuples …): `b` receives `a`'s value (a clone: `a`
carries the flag), `a` and every other slot and constant are untouched, only `b` is logged. -/
theorem assign_var_copies (F : List XFun) (fuel : Nat) (s : XS) (a b : Nat) (ca : Cell) (hinv : FlagInvX s)
    (ha : s.st.vars[a]? = some ca) (hb : b < s.st.vars.length) (hab : a ≠ b) :
    ∃ s', execX F (fuel + 1) (.assign b (.var a)) s = .ok ((), s') ∧
      s'.st.root? (.var b) = some { val := ca.val, lv := true } ∧
      (∀ r, r ≠ .var b → NonTmp r → s'.st.root? r = s.st.root? r) ∧ s'.log = .var b :: s.log := by
  have hlt : a < s.st.vars.length := (List.getElem?_eq_some_iff.mp ha).1
  have hlv : ca.lv = true := hinv.1 ca (List.mem_of_getElem? ha)
  have hget : s.st.getX { root := .var a, path := [] } = some ca := by
    simp only [Store.getX, Store.root?, ha, Val.getP]
  have hne : ({ root := .var a, path := [] } : XLoc) ≠ { root := .var b, path := [] } :=
    fun e => hab (Loc.var.inj (congrArg XLoc.root e))
  refine ⟨{ st := endStatement (s.st.set (.var b) { val := ca.val, lv := true }), log := .var b :: s.log }, ?_, ?_, ?_, rfl⟩
  · simp only [execX, evalX, XM.bind, hlt, if_true, xstoreVar, if_neg hne, takeArg, hget, hlv, xsetVar, hb, xendStatement]
  · have hc0 : s.st.root? (.var b) = some s.st.vars[b] := by simp [Store.root?, hb]
    exact root_set_eq hc0
  · intro r hr _
    exact root_set_ne hr

/-- Non-vacuity of `evalX_frame`, `flagInvX_preserved`, `later_ops_leave_others` and the behaviour on elements: `x1 = x0;` for a table of tables `x0`, then
`x0.at(0).put(1, 5)` writes THROUGH the element reference into `x0` (footprint = {x0}) and `x1` keeps the old value. -/
example :
    let t : Val := .tab { major := .int, level := 1 } [] [.int 7, .int 7]
    let tt : Val := .tab { major := .int, level := 2 } [] [t, t]
    let s : XS := { st := { vars := [⟨tt, true⟩, ⟨.null Ty.none, true⟩], csts := [⟨.int 0, true⟩, ⟨.int 1, true⟩, ⟨.int 5, true⟩], pool := [], wm := 0 } }
    let prog : List XStmt := [.assign 1 (.var 0), .doE (.mem .put (.mem .at (.var 0) [.cst 0]) [.cst 1, .cst 2])]
    FlagInvX s ∧ ∃ s', execXs [] 6 prog s = .ok ((), s') ∧
      (s'.st.vars.map (·.val)) = [.tab { major := .int, level := 2 } [] [.tab { major := .int, level := 1 } [] [.int 7, .int 5], t], tt] ∧
      s'.log = [.var 0, .var 1] := by
  refine ⟨⟨by simp, by simp⟩, _, rfl, rfl, rfl⟩

/-- The repaired behaviour (876bec0; before it this very evaluation left "abcx" in the constant node — finding
C05.constant_modified_in_place, `("abc" + null).concat("x")` printed abcx, abcxx, abcxxx in a loop): `+` hands the cell
of the literal through, `receiver()` clones it, `concat` appends to the clone: the constant node is untouched, the
footprint is empty, the result is "abcx" in a temporary. -/
theorem const_receiver_cloned :
    let s : XS := { st := { vars := [], csts := [⟨.str [97, 98, 99], true⟩, ⟨.null Ty.none, true⟩, ⟨.str [120], true⟩], pool := [], wm := 0 } }
    let e : XExpr := .mem .concat (.bin .add (.cst 0) (.cst 1)) [.cst 2]
    FlagInvX s ∧ ∃ x s', evalX [] 4 e s = .ok (x, s') ∧ s'.st.csts = s.st.csts ∧ s'.log = [] ∧
      (s'.st.getX x).map (·.val) = some (.str [97, 98, 99, 120]) := by
  refine ⟨⟨by simp, by simp⟩, _, _, rfl, rfl, rfl, rfl⟩

/-- Likewise for a variable handed through (finding C05.inplace_member_on_passed_through_operand, repaired by 876bec0):
`(x0 + null).concat("x")` no longer appends to `x0`; `x0.concat("x")` of course still does (footprint {x0}). -/
theorem passthrough_cloned :
    let s : XS := { st := { vars := [⟨.str [97, 98], true⟩], csts := [⟨.null Ty.none, true⟩, ⟨.str [120], true⟩], pool := [], wm := 0 } }
    (∃ x s', evalX [] 4 (.mem .concat (.bin .add (.var 0) (.cst 0)) [.cst 1]) s = .ok (x, s') ∧ s'.st.vars = s.st.vars ∧ s'.log = []) ∧
    (∃ x s', evalX [] 4 (.mem .concat (.var 0) [.cst 1]) s = .ok (x, s') ∧ s'.st.root? (.var 0) = some ⟨.str [97, 98, 120], true⟩ ∧ s'.log = [.var 0]) := by
  exact ⟨⟨_, _, rfl, rfl, rfl⟩, ⟨_, _, rfl, rfl, rfl⟩⟩

/-- A function result is a temporary: `idf(x0).concat("x")` does NOT touch `x0` (empty footprint). -/
example :
    let s : XS := { st := { vars := [⟨.str [97, 98], true⟩], csts := [⟨.str [120], true⟩], pool := [], wm := 0 } }
    let idf : XFun := { nparams := 1, locals := [Ty.none], body := [.ret (.var 0)] }
    let e : XExpr := .mem .concat (.call 0 [.var 0]) [.cst 0]
    ∃ x s', evalX [idf] 5 e s = .ok (x, s') ∧ s'.st.vars = s.st.vars ∧ s'.log = [] ∧ (s'.st.getX x).map (·.val) = some (.str [97, 98, 120]) := by
  exact ⟨_, _, rfl, rfl, rfl, rfl⟩

/-- **Dangling element reference** (finding C05.dangling_element_reference): in `x0.at(0).put(0, x0.concat(x0).count())`
the reference `x0.at(0)` is held while the last operand grows `x0` in place; the model answers `hazard oob`
(AddressSanitizer: heap-use-after-free in member_put.cpp:42 on the real library). -/
theorem dangling_witness :
    let t : Val := .tab { major := .int, level := 1 } [] [.int 7, .int 7]
    let tt : Val := .tab { major := .int, level := 2 } [] [t, t]
    let s : XS := { st := { vars := [⟨tt, true⟩], csts := [⟨.int 0, true⟩], pool := [], wm := 0 } }
    let e : XExpr := .mem .put (.mem .at (.var 0) [.cst 0]) [.cst 0, .mem .count (.mem .concat (.var 0) [.var 0]) []]
    evalX [] 6 e s = .haz .oob := by
  rfl

/-- A storage expression (`XExpr.isStorage`: variable, element, item, chained type method) that evaluates to a cell
of (or inside) a variable slot is rooted at exactly that variable (`rootVarX`); it never returns a constant node
(`storage_not_cst`), so anything else it returns is a temporary. -/
theorem storage_root (F : List XFun) : ∀ fuel e (i : Nat), e.isStorage = true →
    RootFrom (fun ρ => ρ = .var i → rootVarX e = some i) (evalX F fuel e) :=
  fun fuel e i hst s x s' hx hρ => by
    obtain ⟨k, hk, ek⟩ := Option.map_eq_some_iff.mp (storage_rootVar F fuel e hst s x s' hx (hρ ▸ trivial))
    cases ek.trans hρ
    exact hk

/-- A storage expression never evaluates to (a cell of) a constant node. -/
theorem storage_not_cst (F : List XFun) : ∀ fuel e, e.isStorage = true →
    RootFrom (fun ρ => ∀ j, ρ ≠ .cst j) (evalX F fuel e) :=
  fun fuel e hst s x s' hx j hρ => by
    obtain ⟨k, _, ek⟩ := Option.map_eq_some_iff.mp (storage_rootVar F fuel e hst s x s' hx (hρ ▸ trivial))
    cases ek.trans hρ

/-- The cell an in-place member writes, if it is not a temporary, is the static receiver root of its receiver
expression (`recvRoot`): the variable a storage expression is rooted at, or the literal node itself. -/
theorem recv_root_in (F : List XFun) (fuel : Nat) (r : XExpr) (s s1 s2 : XS) (xr x : XLoc)
    (hinv : FlagInvX s) (hev : evalX F fuel r s = .ok (xr, s1)) (hrc : recvCell r xr s1 = .ok (x, s2))
    (hnt : NonTmp x.root) : x.root ∈ recvRoot r := by
  obtain ⟨rfl, hcs⟩ := recvCell_root hrc hnt
  exact (evalX_run F fuel r s x s1 hev).2 (hcs (flagInvX_preserved_expr F fuel r s s1 x hinv hev)) hnt

/-- **An in-place member changes a variable cell only through a storage receiver rooted at that variable.**
`xr` is the cell the receiver expression `r` evaluates to, `x` the cell `MemberExpression::receiver()` hands to
put / insert / delete / concat / set@ (`recvCell`), i.e. the ONLY cell those members write (`wrRecv x …`). If `x` is a
variable slot or lies inside one (`x.root = .var i`), then `r` is a storage expression (`isStorage`: a variable, or an
element / item / chained type method of one), it is rooted at that very variable (`rootVarX r = some i`), and no copy
was made (`x = xr`). Contrapositive: a receiver that merely hands an operand through (`(s + null)`, `substr("", 0)`,
`idf(s)` …) is cloned or is a temporary — the member cannot reach a variable. For ALL function tables, fuels,
expressions and states satisfying the flag invariant. -/
theorem inplace_only_through_storage (F : List XFun) (fuel : Nat) (r : XExpr) (s s1 s2 : XS) (xr x : XLoc) (i : Nat)
    (hinv : FlagInvX s) (hev : evalX F fuel r s = .ok (xr, s1)) (hrc : recvCell r xr s1 = .ok (x, s2))
    (hroot : x.root = .var i) : r.isStorage = true ∧ rootVarX r = some i ∧ x = xr := by
  have hn : NonTmp x.root := by rw [hroot]; trivial
  have := var_mem_recvRoot (hroot ▸ recv_root_in F fuel r s s1 s2 xr x hinv hev hrc hn)
  exact ⟨this.1, this.2, (recvCell_root hrc hn).1⟩

/-- Non-vacuity: `x0.at(0)` as the receiver of `put` — a storage expression rooted at `x0`, handed on uncloned. -/
example :
    let t : Val := .tab { major := .int, level := 1 } [] [.int 7, .int 7]
    let s : XS := { st := { vars := [⟨.tab { major := .int, level := 2 } [] [t, t], true⟩], csts := [⟨.int 0, true⟩], pool := [], wm := 0 } }
    let r : XExpr := .mem .at (.var 0) [.cst 0]
    FlagInvX s ∧ ∃ s1, evalX [] 3 r s = .ok (⟨.var 0, [0]⟩, s1) ∧ recvCell r ⟨.var 0, [0]⟩ s1 = .ok (⟨.var 0, [0]⟩, s1) ∧
      r.isStorage = true ∧ rootVarX r = some 0 := by
  refine ⟨⟨by simp, by simp⟩, _, rfl, rfl, rfl, rfl⟩

/-- **The dynamic log is inside the static footprint.** For every function table, fuel and expression:
whatever an evaluation from a state satisfying the flag invariant adds to the log lies in `fpE F fuel e`, a list computed
from the program text alone. With `evalX_frame`: every variable slot and constant node outside `fpE F fuel e` (and not
logged before) is untouched by evaluating `e`. -/
theorem evalX_logs (F : List XFun) : ∀ fuel e, Logs (fpE F fuel e) (evalX F fuel e) :=
  fun fuel e => (evalX_pres F fuel e).logs

/-- **The frame with the static footprint.** Evaluating `e` from a state with an empty log and the flag invariant: every
variable slot and every constant node that does not occur in `fpE F fuel e` — a list computed from the text of `e`
and of the functions it calls — is untouched (whole cell: value with all elements, and flag). -/
theorem evalX_frame_static (F : List XFun) (fuel : Nat) (e : XExpr) (s s' : XS) (x : XLoc) (hinv : FlagInvX s)
    (hlog : s.log = []) (h : evalX F fuel e s = .ok (x, s')) (r : Loc) (hr : NonTmp r) (hn : r ∉ fpE F fuel e) :
    s'.st.root? r = s.st.root? r := by
  obtain ⟨l, e1, hl⟩ := evalX_logs F fuel e s x s' hinv h
  refine (evalX_frame F fuel e s s' x hinv h).2.1 r hr ?_
  rw [e1, hlog, List.append_nil]
  exact fun hm => hn (hl r hm)

/-- The static footprint of `x1.put(0, x0.at(1)) + (x2 + null).concat("s").count()` is {x1}: `x0` is only read, the
receiver `(x2 + null)` is not a storage expression. -/
example :
    fpE [] 6 (.bin .add (.mem .put (.var 1) [.cst 0, .mem .at (.var 0) [.cst 1]])
                        (.mem .count (.mem .concat (.bin .add (.var 2) (.cst 2)) [.cst 3]) [])) = [.var 1] := by
  rfl

/-- **Every result-placement combinator a built-in uses writes pool slots only.** For every placement (`thru`, `fresh`,
LVAL1 on the first argument, LVAL2 on the first two), every result value, every list of argument cells — whatever mix of
variables, constants, table elements, tuple items and temporaries they are — and every state satisfying the flag
invariant: the lists of variable slots and of constant nodes afterwards are IDENTICAL to those before (whole cells: the
value with all its elements / items at every depth, and the flag) and nothing is logged. -/
theorem reuse_only_temporaries (p : BiPlace) (v : Val) (xs : List XLoc) (s s' : XS) (x : XLoc) (hinv : FlagInvX s)
    (h : xplaceBi p v xs s = .ok (x, s')) :
    s'.st.vars = s.st.vars ∧ s'.st.csts = s.st.csts ∧ s'.log = s.log :=
  ((pres_xplaceBi s x s' h).1.frame hinv).same

/-- non-vacuity: (stored, temporary) — the pattern of seeded change C05-m7 — with LVAL2: the temporary receives the
result, the variable cell is untouched; and the MERGED combinator of that change (`xlval2Merged`, not in the model)
overwrites the variable: the theorem above is false for it. -/
example :
    let s : XS := { st := { vars := [⟨.int 3, true⟩], csts := [], pool := [⟨.int 4, false⟩], wm := 1 } }
    FlagInvX s ∧
    (∃ s', xplaceBi .l2 (.int 9) [⟨.var 0, []⟩, ⟨.tmp 0, []⟩] s = .ok (⟨.tmp 0, []⟩, s') ∧
       s'.st.vars.map (·.val) = [.int 3] ∧ s'.st.pool.map (·.val) = [.int 9]) ∧
    (∃ s', xlval2Merged (.int 9) ⟨.var 0, []⟩ ⟨.tmp 0, []⟩ s = .ok (⟨.var 0, []⟩, s') ∧ s'.st.vars.map (·.val) = [.int 9]) := by
  refine ⟨⟨by simp, by simp⟩, ⟨_, rfl, rfl, rfl⟩, ⟨_, rfl, rfl⟩⟩

/-- **A built-in call changes nothing but pool slots**, for every built-in name, every argument list (any length, any
argument expressions of the extended language: variables, constants, `t.at(i)`, `u@n`, operator results, function
results, nested built-ins), every function table and fuel: from a state with the flag invariant and an empty log, a
variable slot / constant node outside the static footprint OF THE ARGUMENTS is untouched as a whole cell — the built-in
itself contributes nothing to the footprint (`fpE … (.bi name args)` = the arguments' footprints). -/
theorem builtin_call_frame (F : List XFun) (fuel : Nat) (name : String) (args : List XExpr) (s s' : XS) (x : XLoc)
    (hinv : FlagInvX s) (hlog : s.log = []) (h : evalX F (fuel + 1) (.bi name args) s = .ok (x, s'))
    (r : Loc) (hr : NonTmp r) (hn : ∀ a ∈ args, r ∉ fpE F fuel a) :
    s'.st.root? r = s.st.root? r ∧ FlagInvX s' := by
  refine ⟨evalX_frame_static F (fuel + 1) (.bi name args) s s' x hinv hlog h r hr ?_,
          flagInvX_preserved_expr F (fuel + 1) (.bi name args) s s' x hinv h⟩
  simp only [fpE]
  intro hm
  obtain ⟨l, hl, hrl⟩ := List.mem_flatten.mp hm
  obtain ⟨a, ha, rfl⟩ := List.mem_map.mp hl
  exact hn a ha hrl

/-- non-vacuity through the whole evaluator: `max(x0, c0 + c1)` with x0 = 3, the literals 4 and 1: the temporary of
`c0 + c1` receives 5, x0 and both constant nodes keep their cells; `max(c0 + c1, x0)` likewise. -/
example :
    let s : XS := { st := { vars := [⟨.int 3, true⟩], csts := [⟨.int 4, true⟩, ⟨.int 1, true⟩], pool := [], wm := 0 } }
    FlagInvX s ∧
    (∃ s', evalX [] 4 (.bi "max" [.var 0, .bin .add (.cst 0) (.cst 1)]) s = .ok (⟨.tmp 0, []⟩, s') ∧
       s'.st.vars.map (·.val) = [.int 3] ∧ s'.st.csts.map (·.val) = [.int 4, .int 1] ∧ s'.st.pool.map (·.val) = [.int 5]) ∧
    (∃ s', evalX [] 4 (.bi "max" [.bin .add (.cst 0) (.cst 1), .var 0]) s = .ok (⟨.tmp 0, []⟩, s') ∧
       s'.st.vars.map (·.val) = [.int 3] ∧ s'.st.pool.map (·.val) = [.int 5]) := by
  refine ⟨⟨by simp, by simp⟩, ⟨_, rfl, rfl, rfl, rfl⟩, ⟨_, rfl, rfl, rfl⟩⟩

/-- **Every result placement of an operator writes pool slots only**, at the level of the extended model (operand cells may be
variables, constant nodes, table elements, tuple items at any depth, temporaries): for EVERY placement `p` — in particular
`binPlace op a1 a2` of every binary operator and every pair of operand values, `unPlace op a` of every unary operator, and the
LVAL1 of the short-circuit branch of `and` / `or` —, every result value, every pair of operand cells `x1`, `x2` (both orders: they
are universally quantified) and every state with the flag invariant: `vars` and `csts` afterwards are IDENTICAL lists of whole
cells and nothing is logged. (Root-cell level, operators-only model: `place_frame`, `lval1_frame`, `lval2_frame` above; this is their
analogue for `xplace`, which `evalX` uses.) -/
theorem operator_reuse_only_temporaries (p : Place) (v : Val) (x1 x2 : XLoc) (s s' : XS) (x : XLoc) (hinv : FlagInvX s) :
    (xplace p v x1 x2 s = .ok (x, s') → s'.st.vars = s.st.vars ∧ s'.st.csts = s.st.csts ∧ s'.log = s.log) ∧
    (xlval1 v x1 s = .ok (x, s') → s'.st.vars = s.st.vars ∧ s'.st.csts = s.st.csts ∧ s'.log = s.log) :=
  ⟨fun h => ((pres_xplace s x s' h).1.frame hinv).same, fun h => ((pres_xlval1 s x s' h).1.frame hinv).same⟩

/-- non-vacuity, both operand orders, an element cell as the stored operand: `x0.at(1) - t` and `t - x0.at(1)` with LVAL2:
the temporary receives the result, the table in `x0` keeps its element. -/
example :
    let tb : Val := .tab { major := .int, level := 1 } [] [.int 7, .int 8]
    let s : XS := { st := { vars := [⟨tb, true⟩], csts := [], pool := [⟨.int 1, false⟩], wm := 1 } }
    FlagInvX s ∧
    (∃ s', xplace (binPlace .sub (.int 8) (.int 1)) (.int 7) ⟨.var 0, [1]⟩ ⟨.tmp 0, []⟩ s = .ok (⟨.tmp 0, []⟩, s') ∧
       s'.st.vars.map (·.val) = [tb] ∧ s'.st.pool.map (·.val) = [.int 7]) ∧
    (∃ s', xplace (binPlace .sub (.int 1) (.int 8)) (.int (-7)) ⟨.tmp 0, []⟩ ⟨.var 0, [1]⟩ s = .ok (⟨.tmp 0, []⟩, s') ∧
       s'.st.vars.map (·.val) = [tb] ∧ s'.st.pool.map (·.val) = [.int (-7)]) := by
  refine ⟨⟨by simp, by simp⟩, ⟨_, rfl, rfl, rfl⟩, ⟨_, rfl, rfl, rfl⟩⟩

/-- No pool slot ever carries LVALUE: the pool invariant is preserved by every expression of the extended language. -/
theorem evalX_ppool (F : List XFun) : ∀ fuel e, PPool (evalX F fuel e) :=
  fun fuel e => (evalX_pres F fuel e).ppool

/-- **The LVALUE flag of the result cell is set exactly when the result designates a storage.** For every node kind of the
extended language (constants, variables, unary / binary operators with every placement, `at`, `count`, the in-place members, `@N`,
`set@N`, `tab`, `tup`, user-function calls, the built-ins of two and more arguments with `thru` / `fresh` / `l1` / `l2`), every
function table and fuel, every state with the flag invariant and the pool invariant (no pool slot carries LVALUE: true of the
empty pool, preserved by everything — `evalX_ppool`): the cell `evalX` returns (`getX`: value under the path, flag of the root)
has its flag set IFF its root is a variable slot or a constant node — the variable / constant itself or an element / item below
it — and clear IFF it is a pool slot (a temporary, or an element of a temporary container). This is the flag the probe op
`exprf` prints, compared by the family `result_flag`. -/
theorem placement_flag_sound (F : List XFun) (fuel : Nat) (e : XExpr) (s s' : XS) (x : XLoc) (c : Cell)
    (hinv : FlagInvX s) (hpool : PoolInv s.st) (h : evalX F fuel e s = .ok (x, s')) (hc : s'.st.getX x = some c) :
    (c.lv = true ↔ NonTmp x.root) ∧ PoolInv s'.st ∧ FlagInvX s' := by
  have hf' : FlagInvX s' := flagInvX_preserved_expr F fuel e s s' x hinv h
  have hp' : PoolInv s'.st := evalX_ppool F fuel e s x s' hpool h
  refine ⟨?_, hp', hf'⟩
  obtain ⟨c0, hr, e⟩ := getX_some hc
  rw [e]
  refine ⟨fun hlv => ?_, fun hn => flagInv_root hf' hn hr⟩
  cases hx : x.root with
  | tmp i =>
    rw [hx] at hr
    rw [hp' c0 (List.mem_of_getElem? hr)] at hlv
    cases hlv
  | _ => trivial

/-- non-vacuity: `x0.at(1)` is an element of the variable (flag set, root `x0`); `max(x0.at(1), 3)` lands in a pool slot
(flag clear); a typed-null first argument of `round` is handed through (`thru`): flag set. -/
example :
    let tb : Val := .tab { major := .int, level := 1 } [] [.int 7, .int 8]
    let s : XS := { st := { vars := [⟨tb, true⟩, ⟨.null Ty.num, true⟩], csts := [⟨.int 1, true⟩, ⟨.int 3, true⟩], pool := [], wm := 0 } }
    FlagInvX s ∧ PoolInv s.st ∧
    (∃ s', evalX [] 4 (.mem .at (.var 0) [.cst 0]) s = .ok (⟨.var 0, [1]⟩, s') ∧ (s'.st.getX ⟨.var 0, [1]⟩).map (·.lv) = some true) ∧
    (∃ s', evalX [] 5 (.bi "max" [.mem .at (.var 0) [.cst 0], .cst 1]) s = .ok (⟨.tmp 0, []⟩, s') ∧
       (s'.st.getX ⟨.tmp 0, []⟩).map (fun c => (c.val, c.lv)) = some (.int 8, false)) ∧
    (∃ s', evalX [] 4 (.bi "round" [.var 1, .cst 0]) s = .ok (⟨.var 1, []⟩, s') ∧ (s'.st.getX ⟨.var 1, []⟩).map (·.lv) = some true) := by
  refine And.intro ⟨by simp, by simp⟩ (And.intro ?_ ⟨⟨_, rfl, rfl⟩, ⟨_, rfl, rfl⟩, ⟨_, rfl, rfl⟩⟩)
  intro c hc
  cases hc

/-- Search tactics for goals `Pres m`, `RootFrom P m`, `Logs A m`, `PPool m` where `m` is built from the primitives of
Model/StoreX.lean by `XM.bind`, `if` and `match`. -/
macro "pres_auto" ih:ident : tactic => `(tactic| repeat (first
  | exact Pres.pure _ | exact Pres.fail _ | exact Pres.lift _ | exact pres_xget _ | exact pres_logLen | exact pres_checkHeld _ _
  | exact pres_xalloc _ | exact pres_xlval1 _ _ | exact pres_xlval2 _ _ _ | exact pres_xplace _ _ _ _ | exact pres_takeArg _
  | exact pres_wrRecv _ _ | exact pres_recvCell _ _ | exact pres_finishInPlace _ _ _ _ _ | exact pres_atResult _ _ _ _
  | exact $ih _ | exact pres_tabStep ($ih _) _ _ _ | exact pres_tupStep $ih _ _ | exact pres_call $ih _ _
  | exact pres_biArgs $ih _ _ | exact pres_biHeld _ | exact pres_xgets _ | exact pres_xplaceBi _ _ _
  | apply Pres.bind | apply Pres.ite | split | intro _))

macro "root_leaf" hfin:ident : tactic => `(tactic| first
  | exact RootFrom.fail _
  | exact RootFrom.mono $hfin (rootFrom_finishInPlace _ _ _ _ _)
  | exact RootFrom.mono $hfin (rootFrom_atResult _ _ _ _)
  | exact RootFrom.mono $hfin (rootFrom_xlval1 _ _)
  | exact RootFrom.pure _ ($hfin _ (Or.inl rfl)))

macro "logs_prim" : tactic => `(tactic| first
  | exact Logs.silent (silent_pure _) | exact Logs.silent (silent_fail _) | exact Logs.silent (silent_lift _)
  | exact Logs.silent (silent_xalloc _) | exact Logs.silent (silent_xlval1 _ _) | exact Logs.silent (silent_xlval2 _ _ _)
  | exact Logs.silent (silent_xplace _ _ _ _) | exact Logs.silent (silent_atResult _ _ _ _)
  | refine Logs.bind_silent (silent_xget _) (pres_xget _) (fun _ => ?_)
  | refine Logs.bind_silent (silent_lift _) (Pres.lift _) (fun _ => ?_)
  | refine Logs.bind_silent silent_logLen pres_logLen (fun _ => ?_)
  | refine Logs.bind_silent (silent_checkHeld _ _) (pres_checkHeld _ _) (fun _ => ?_)
  | refine Logs.bind_silent (silent_takeArg _) (pres_takeArg _) (fun _ => ?_)
  | apply Logs.ite)

macro "logs_auto" ih:ident ihp:ident : tactic => `(tactic| repeat (first
  | logs_prim
  | refine Logs.bind' (Logs.mono (by intro ρ h; simp [h]) ($ih _)) ($ihp _) (fun _ => ?_)))

macro "logs_mem" ih:ident ihp:ident hx:ident : tactic => `(tactic| repeat (first
  | contradiction
  | exact logs_finishInPlace _ _ _ _ _ (fun hnt => by have hmem := $hx (by decide) hnt; simp [hmem])
  | exact Logs.bind' (logs_wrRecv _ _ (fun hnt => by have hmem := $hx (by decide) hnt; simp [hmem])) (pres_wrRecv _ _) (fun _ => Logs.silent (silent_pure _))
  | logs_prim
  | refine Logs.bind' (Logs.mono (by intro ρ h; simp [h]) ($ih _)) ($ihp _) (fun _ => ?_)))

macro "ppool_auto" ih:ident : tactic => `(tactic| repeat (first
  | exact PPool.pure _ | exact PPool.fail _ | exact PPool.lift _ | exact ppool_xget _ | exact ppool_logLen | exact ppool_checkHeld _ _
  | exact ppool_xalloc _ | exact ppool_xlval1 _ _ | exact ppool_xlval2 _ _ _ | exact ppool_xplace _ _ _ _ | exact ppool_takeArg _
  | exact ppool_wrRecv _ _ | exact ppool_recvCell _ _ | exact ppool_finishInPlace _ _ _ _ _ | exact ppool_atResult _ _ _ _
  | exact $ih _ | exact ppool_tabStep ($ih _) _ _ _ | exact ppool_tupStep $ih _ _ | exact ppool_bindArgs $ih _ _ _
  | exact ppool_inCallee _ _
  | exact ppool_biArgs $ih _ _ | exact ppool_biHeld _ | exact ppool_xgets _ | exact ppool_xplaceBi _ _ _
  | apply PPool.bind | apply PPool.ite | split | intro _))

end Extended

end BlocV.C05
