/-
  C08 — a function call depends only on its arguments, never on earlier calls. Model (Model/Interp.lean): `callFunc` / `evalArgs` /
  `calleeInit` / `finishCall` / `addFunc`, transcription of FunctorExpression::value + FunctorManager::createEnv / createOrReplace after the
  repair that resets recycled contexts. Clause table: notes/NOTES-p0608.md.
-/
import BlocV.Proofs.Lemmas.Vars
import BlocV.Proofs.Lemmas.CountDown
import BlocV.Proofs.C07

namespace BlocV.C08
open BlocV.Lemmas

/-- The 256th nested call (the caller already runs at recursion depth 255) raises the recursion-limit
error: no argument is evaluated, no body runs, the caller's state is untouched. -/
theorem recursion_limit (funcs : List Func) (fuel : Nat) (name : String) (args : List Expr) (s : St) (f : Func)
    (hf : funcs.find? (fun f => f.name == name && f.params.length == args.length) = some f) :
    callFunc funcs Gen.RECURSION_LIMIT (fuel + 1) name args s = (.err Gen.EXC_RT_RECURSION_LIMIT, s) :=
  callFunc_limit hf

example : Gen.RECURSION_LIMIT = 255 := rfl

/-- Callee isolation and history independence, in one statement: once the arguments are evaluated
(to `vals`, leaving the caller in state `s1`), the call is `finishCall s1 (body run from calleeInit f vals s1)`:
the callee starts from `calleeInit` — typed nulls for its own symbols plus the bound parameters, a
function of the function and the argument values alone, with no variable of the caller and nothing
left by an earlier call — and only the output stream and the work budget flow through the call. -/
theorem call_depends_on_arguments_only (funcs : List Func) (depth fuel : Nat) (name : String) (args : List Expr)
    (s s1 : St) (f : Func) (vals : List Val)
    (hf : funcs.find? (fun f => f.name == name && f.params.length == args.length) = some f)
    (hd : (depth == Gen.RECURSION_LIMIT) = false)
    (ha : evalArgs funcs depth fuel args s = (.ok vals, s1)) :
    callFunc funcs depth (fuel + 1) name args s =
      finishCall s1 (execBlock funcs (depth + 1) fuel f.body f.catches (calleeInit f vals s1)) :=
  callFunc_unfold hf hd ha

/-- The caller's variables, saved return value and error record are not touched by a call, whatever the callee does. -/
theorem caller_untouched (caller : St) (r : Res Flow × St) :
    (finishCall caller r).2.vars = caller.vars ∧ (finishCall caller r).2.returned = caller.returned ∧
    (finishCall caller r).2.lastErr = caller.lastErr := by
  rw [finishCall_snd]
  exact ⟨rfl, rfl, rfl⟩

/-- The callee's initial variables do not depend on the caller's variables (nor on any earlier call). -/
theorem callee_start_independent (f : Func) (vals : List Val) (c1 c2 : St) :
    (calleeInit f vals c1).vars = (calleeInit f vals c2).vars ∧ (calleeInit f vals c1).returned = none ∧
    (calleeInit f vals c1).lastErr = LastErr.clear := by
  simp [calleeInit]

theorem failing_argument_fails_call (funcs : List Func) (depth fuel : Nat) (name : String) (args : List Expr)
    (s s1 : St) (f : Func) (c : Nat) (a : Bytes)
    (hf : funcs.find? (fun f => f.name == name && f.params.length == args.length) = some f)
    (hd : (depth == Gen.RECURSION_LIMIT) = false)
    (ha : evalArgs funcs depth fuel args s = (.err c a, s1)) :
    callFunc funcs depth (fuel + 1) name args s = (.err c a, s1) := by
  simp [callFunc, hf, hd, bind, ha]

/-- The callee's start state is a function of the function, the argument values, and the caller's output stream and work
budget — of nothing else of the caller (no variable, no saved return value, no running loop, no error record) and of no earlier call
(its error record is clear: `createEnv` resets it in a recycled context, repo e310d98). -/
theorem calleeInit_congr (f : Func) (vals : List Val) (c1 c2 : St) (ho : c1.out = c2.out) (hb : c1.budget = c2.budget) :
    calleeInit f vals c1 = calleeInit f vals c2 := by
  simp [calleeInit, ho, hb]

theorem evalArgs_lits (funcs : List Func) (depth : Nat) : ∀ (vals : List Val) (fuel : Nat) (s : St), vals.length < fuel →
    evalArgs funcs depth fuel (vals.map Expr.lit) s = (.ok vals, s)
  | _, 0, _, h => absurd h (Nat.not_lt_zero _)
  | [], _ + 1, _, _ => evalArgs_nil ..
  | v :: vs, k + 1, s, h => by
    obtain ⟨k, rfl⟩ : ∃ k', k = k' + 1 := Nat.exists_eq_add_one.mpr (Nat.zero_lt_of_lt (Nat.lt_of_succ_lt_succ h))
    simp only [List.map_cons, evalArgs, bind_app, eval_lit, evalArgs_lits funcs depth vs (k + 1) s (Nat.lt_of_succ_lt_succ h), pure_app]

/-- **The callee cannot read the caller's variables; the result depends on the caller only through output and budget — never on
earlier calls.** Full `callFunc`, argument evaluation included: two calls of the same function name from two ARBITRARY caller states
(different variables, different loops running, different saved return values, different error records, any earlier calls — failed
ones included — behind them) whose argument expressions evaluate to the same values, with the same printed output and remaining
budget, have the same outcome (value, or error, or hazard), print the same, and use the same budget. (With the error record of
recycled contexts this was false before repo e310d98: finding C08.error_record_survives_in_cached_context, fixed; regression
witness `history_witness_fixed`.) -/
theorem call_independent_of_caller (funcs : List Func) (depth fuel : Nat) (name : String) (args args' : List Expr)
    (c c1 c' c1' : St) (f : Func) (vals : List Val)
    (hf : funcs.find? (fun f => f.name == name && f.params.length == args.length) = some f)
    (hlen : args'.length = args.length) (hd : (depth == Gen.RECURSION_LIMIT) = false)
    (ha : evalArgs funcs depth fuel args c = (.ok vals, c1))
    (ha' : evalArgs funcs depth fuel args' c' = (.ok vals, c1'))
    (ho : c1.out = c1'.out) (hb : c1.budget = c1'.budget) :
    (callFunc funcs depth (fuel + 1) name args c).1 = (callFunc funcs depth (fuel + 1) name args' c').1 ∧
    (callFunc funcs depth (fuel + 1) name args c).2.out = (callFunc funcs depth (fuel + 1) name args' c').2.out ∧
    (callFunc funcs depth (fuel + 1) name args c).2.budget = (callFunc funcs depth (fuel + 1) name args' c').2.budget := by
  rw [callFunc_unfold hf hd ha, callFunc_unfold (hlen ▸ hf) hd ha',
      calleeInit_congr f vals c1 c1' ho hb, finishCall_snd, finishCall_snd]
  exact ⟨finishCall_fst .., rfl, rfl⟩

/-- **A call is a function of its argument values**: called with the same argument values (here: literals) from two arbitrary
caller states that agree on printed output and remaining budget, a function returns the same, prints the same and costs the same —
whatever the callers' variables are and whatever was called before (`funcs` is immutable, and every call builds its context afresh
with `calleeInit`, error record included: the repaired `createEnv`). -/
theorem call_determined_by_argument_values (funcs : List Func) (depth fuel : Nat) (name : String) (vals : List Val)
    (c c' : St) (f : Func)
    (hf : funcs.find? (fun f => f.name == name && f.params.length == vals.length) = some f)
    (hd : (depth == Gen.RECURSION_LIMIT) = false) (hfuel : vals.length < fuel)
    (ho : c.out = c'.out) (hb : c.budget = c'.budget) :
    (callFunc funcs depth (fuel + 1) name (vals.map Expr.lit) c).1 = (callFunc funcs depth (fuel + 1) name (vals.map Expr.lit) c').1 ∧
    (callFunc funcs depth (fuel + 1) name (vals.map Expr.lit) c).2.out = (callFunc funcs depth (fuel + 1) name (vals.map Expr.lit) c').2.out ∧
    (callFunc funcs depth (fuel + 1) name (vals.map Expr.lit) c).2.budget = (callFunc funcs depth (fuel + 1) name (vals.map Expr.lit) c').2.budget :=
  call_independent_of_caller funcs depth fuel name _ _ c c c' c' f vals (by simpa using hf) rfl hd
    (evalArgs_lits funcs depth vals fuel c hfuel) (evalArgs_lits funcs depth vals fuel c' hfuel) ho hb

/-- **History independence**: whatever two statement lists `h1`, `h2` (any calls of any functions, failing ones included) ran before —
from any states, with any outcomes —, the same call with the same argument values made afterwards gives the same result, provided
the two runs left the same printed output and budget (the two process-wide parts of the state). No hypothesis on cached contexts. -/
theorem call_independent_of_history (funcs : List Func) (depth fuel k : Nat) (name : String) (vals : List Val) (h1 h2 : List Stmt)
    (c0 c0' : St) (f : Func)
    (hf : funcs.find? (fun f => f.name == name && f.params.length == vals.length) = some f)
    (hd : (depth == Gen.RECURSION_LIMIT) = false) (hfuel : vals.length < fuel)
    (ho : (execList funcs depth k h1 c0).2.out = (execList funcs depth k h2 c0').2.out)
    (hb : (execList funcs depth k h1 c0).2.budget = (execList funcs depth k h2 c0').2.budget) :
    (callFunc funcs depth (fuel + 1) name (vals.map Expr.lit) (execList funcs depth k h1 c0).2).1 =
      (callFunc funcs depth (fuel + 1) name (vals.map Expr.lit) (execList funcs depth k h2 c0').2).1 :=
  (call_determined_by_argument_values funcs depth fuel name vals _ _ f hf hd hfuel ho hb).1

/-- **The callee cannot modify the caller's variables**: after ANY call (any function, any arguments, any outcome incl. errors) the
caller's variables, saved return value, running loops and own error record are exactly what the argument evaluation left; if the
arguments are literals, exactly what they were before the call. -/
theorem callee_cannot_modify_caller (funcs : List Func) (depth fuel : Nat) (name : String) (vals : List Val) (c : St)
    (hfuel : vals.length < fuel) :
    (callFunc funcs depth (fuel + 1) name (vals.map Expr.lit) c).2.vars = c.vars ∧
    (callFunc funcs depth (fuel + 1) name (vals.map Expr.lit) c).2.returned = c.returned ∧
    (callFunc funcs depth (fuel + 1) name (vals.map Expr.lit) c).2.iters = c.iters ∧
    (callFunc funcs depth (fuel + 1) name (vals.map Expr.lit) c).2.lastErr = c.lastErr := by
  cases hfind : funcs.find? (fun f => f.name == name && f.params.length == (vals.map Expr.lit).length) with
  | none => simp only [callFunc, hfind]; exact ⟨rfl, rfl, rfl, rfl⟩
  | some f =>
    cases hd : depth == Gen.RECURSION_LIMIT
    · rw [callFunc_unfold hfind hd (evalArgs_lits funcs depth vals fuel _ hfuel), finishCall_snd]
      exact ⟨rfl, rfl, rfl, rfl⟩
    · rw [beq_iff_eq.mp hd, recursion_limit funcs fuel name _ c f hfind]
      exact ⟨rfl, rfl, rfl, rfl⟩

/-- **Overloads are selected by name and argument count**: the function a call runs has the called name and as many parameters as
the call has arguments (`FunctorManager::findDeclaration`); it is the first such entry of the function table. -/
theorem overload_by_arity (funcs : List Func) (name : String) (args : List Expr) (f : Func)
    (hf : funcs.find? (fun f => f.name == name && f.params.length == args.length) = some f) :
    f.name = name ∧ f.params.length = args.length ∧ f ∈ funcs := by
  have h1 := List.find?_some hf
  have h2 := List.mem_of_find?_eq_some hf
  simp only [Bool.and_eq_true, beq_iff_eq] at h1
  exact ⟨h1.1, h1.2, h2⟩

/-- Two declarations of one name with different parameter counts coexist (`addFunc` replaces only same name + same arity). -/
theorem overloads_coexist (fs : List Func) (f g : Func) (hg : g ∈ fs) (hne : sameSig f g = false) : g ∈ addFunc fs f := by
  unfold addFunc
  split
  · simp only [List.mem_map]
    exact ⟨g, hg, by simp [hne]⟩
  · simp [hg]

/-- **Local variables start every call unset**: in the context a call starts in, every symbol that is not a parameter holds a
null (the typed null of its declaration, `createChildRuntime`; an untyped null when the function never declares it) — whatever
the caller holds under the same name and whatever any earlier call of the same function left behind. -/
theorem locals_start_unset (f : Func) (vals : List Val) (caller : St) (n : String) (hn : n ∉ f.params.map (·.1)) :
    lookupVar (calleeInit f vals caller).vars n = lookupVar (f.decls.map fun (p : String × Ty) => (p.1, Val.null p.2)) n ∧
    (lookupVar (calleeInit f vals caller).vars n).isNull = true := by
  have hn' : n ∉ ((f.params.map (·.1)).zip vals).map (·.1) := fun h => by
    obtain ⟨⟨a, b⟩, hab, rfl⟩ := List.mem_map.mp h
    exact hn (List.of_mem_zip hab).1
  have e : lookupVar (calleeInit f vals caller).vars n = lookupVar (f.decls.map fun (p : String × Ty) => (p.1, Val.null p.2)) n := by
    unfold calleeInit
    exact lookup_bind_other _ n hn' _
  exact ⟨e, by rw [e]; exact lookup_nulls_isNull f.decls n⟩

/-- Argument evaluation yields one value per argument. -/
theorem evalArgs_length (funcs : List Func) (depth : Nat) : ∀ (fuel : Nat) (args : List Expr) (s s1 : St) (vals : List Val),
    evalArgs funcs depth fuel args s = (.ok vals, s1) → vals.length = args.length
  | 0, _, _, _, _, h => by rw [evalArgs] at h; cases h
  | _ + 1, [], _, _, _, h => by rw [evalArgs_nil] at h; cases h; rfl
  | k + 1, a :: as, s, s1, vals, h => by
    rw [evalArgs] at h
    obtain ⟨v, s2, -, h⟩ := bind_app_eq_ok h
    obtain ⟨vs, s3, h2, h⟩ := bind_app_eq_ok h
    cases h
    rw [List.length_cons, List.length_cons, evalArgs_length funcs depth k as s2 _ vs h2]

/-- **Arguments are received by copy, n parameters**: with distinct parameter names (what the parser enforces) and one value per
parameter (what `callFunc` guarantees: `evalArgs_length` + the arity test of `findDeclaration`; asserted in `createEnv`), the i-th
parameter holds the i-th argument value when the callee starts — for every i, every number of parameters, every caller. -/
theorem argument_bound_by_value_all (f : Func) (vals : List Val) (caller : St)
    (hnd : (f.params.map (·.1)).Nodup) (hlen : vals.length = f.params.length) (i : Nat) (hi : i < f.params.length) :
    lookupVar (calleeInit f vals caller).vars (f.params[i]).1 = vals[i]'(by omega) := by
  have hz : ((f.params.map (·.1)).zip vals).map (·.1) = f.params.map (·.1) :=
    List.map_fst_zip (by simp [hlen])
  have hmem : ((f.params[i]).1, vals[i]'(by omega)) ∈ (f.params.map (·.1)).zip vals :=
    List.mem_iff_getElem.mpr ⟨i, by simp [hlen]; omega, by simp⟩
  unfold calleeInit
  exact lookup_bind_mem _ (by rw [hz]; exact hnd) _ _ hmem

/-- **Arguments are received by copy** (single parameter shown; values are immutable in the model, so a copy is the value itself):
the parameter holds the argument value in the callee; whatever the callee then does to it, the caller's variables are untouched
(`caller_untouched`, `callee_cannot_modify_caller`). -/
theorem argument_bound_by_value (f : Func) (p : String) (t : Ty) (v : Val) (caller : St) (hp : f.params = [(p, t)]) :
    lookupVar (calleeInit f [v] caller).vars p = v := by
  simpa [hp] using argument_bound_by_value_all f [v] caller (by simp [hp]) (by simp [hp]) 0 (by simp [hp])

/-- two parameters, distinct names: the hypotheses of `argument_bound_by_value_all` are satisfiable and the conclusion is about both -/
example : (let f : Func := { name := "f", params := [("a", Ty.int), ("b", Ty.str)], ret := Ty.int, body := [], catches := [] }
    (lookupVar (calleeInit f [.int 4, .str [120]] {}).vars "a" == .int 4,
     lookupVar (calleeInit f [.int 4, .str [120]] {}).vars "b" == .str [120])) = (true, true) := by decide +kernel

/-- `function g(n) begin if n == 0 then return 0; end if; return g(n-1); end` -/
def gFunc : Func :=
  { name := "g", params := [("n", Ty.int)], ret := Ty.int,
    body := [.ifS [(some (.bin .eq (.var "n") (.lit (.int 0))), [.returnS (some (.lit (.int 0)))])],
             .returnS (some (.fcall "g" [.bin .sub (.var "n") (.lit (.int 1))]))],
    catches := [], decls := [("n", Ty.int)] }

/-- **255 nested calls run, the 256th raises RECURSION_LIMIT** (`Lemmas.countDown_outcome` for `n` = 254 and 255, from the program level = depth 0):
`g(254)` makes 255 nested calls and returns 0; `g(255)` attempts a 256th and fails with the recursion-limit error — a BLOC
runtime error, not a crash, and the caller's state is an ordinary state afterwards. -/
theorem recursion_limit_exact :
    (match (eval [gFunc] 0 2000 (.fcall "g" [.lit (.int 254)]) {}).1 with | .ok (.int i) => i == 0 | _ => false) = true ∧
    (match (eval [gFunc] 0 2000 (.fcall "g" [.lit (.int 255)]) {}).1 with
      | .err c a => c == Gen.EXC_RT_RECURSION_LIMIT && a == [] | _ => false) = true := by
  have G : CountDown [gFunc] gFunc := ⟨by with_unfolding_all rfl, rfl, rfl, fun _ _ => rfl⟩
  constructor
  · rw [countDown_outcome G 254 0 2000 (.lit (.int 254)) {} {} (by decide) (by decide)
      (fun j => evalArgs_lits _ _ [.int 254] _ _ (by show 1 < j + 3; omega)) (by decide)]
    rfl
  · rw [countDown_outcome G 255 0 2000 (.lit (.int 255)) {} {} (by decide) (by decide)
      (fun j => evalArgs_lits _ _ [.int 255] _ _ (by show 1 < j + 3; omega)) (by decide)]
    rfl

/-- **Runaway recursion through ANY cycle of functions stops with RECURSION_LIMIT at depth exactly `Gen.RECURSION_LIMIT`** — direct
recursion (`S = [f]`), mutual recursion (`S = [p, q]`, p calls q calls p) and every longer cycle: `S` is a set of function names, each
bound in the table to a function whose body is `return <some name of S>();`. For every function table, every exception clause lists
(the error is not catchable), every depth `d` the chain is entered at (= every number of frames a wrapper put below it), every caller
state `s` (= every history: nothing of `s` but the budget is read): a call of any member of `S` at depth `d` runs exactly
`n = RECURSION_LIMIT - d` body statements — one `return` per level, the budget counts them — and ends with the recursion-limit error:
the call attempted at depth `RECURSION_LIMIT` raises it before any argument or body statement of a deeper level runs. -/
theorem runaway_cycle_stops_at_limit (funcs : List Func) (S : List String)
    (hS : ∀ nm ∈ S, ∃ f nxt, funcs.find? (fun g => g.name == nm && g.params.length == 0) = some f ∧ nxt ∈ S ∧
      f.body = [.returnS (some (.fcall nxt []))]) :
    ∀ (n d : Nat), d + n = Gen.RECURSION_LIMIT → ∀ nm ∈ S, ∀ (h : Nat) (s : St), n ≤ s.budget →
      (callFunc funcs d (5 * n + 1 + h) nm [] s).1 = .err Gen.EXC_RT_RECURSION_LIMIT [] ∧
      (callFunc funcs d (5 * n + 1 + h) nm [] s).2.budget = s.budget - n := by
  intro n
  induction n with
  | zero =>
    intro d hd nm hnm h s _
    obtain ⟨f, _, hf, _, _⟩ := hS nm hnm
    obtain rfl : d = Gen.RECURSION_LIMIT := by omega
    rw [show 5 * 0 + 1 + h = h + 1 by omega, recursion_limit funcs h nm [] s f hf]
    exact ⟨rfl, rfl⟩
  | succ n ih =>
    intro d hd nm hnm h s hb
    obtain ⟨f, nxt, hf, hnxt, hbody⟩ := hS nm hnm
    obtain ⟨ih1, ih2⟩ := ih (d + 1) (by omega) nxt hnxt h (tick (calleeInit f [] s)) (by show n ≤ s.budget - 1; omega)
    rw [show 5 * (n + 1) + 1 + h = (5 * n + 1 + h) + 5 by omega,
      callFunc_return_call_error hf hbody (by omega) (by omega) (Prod.ext ih1 rfl)
        fun cl => C07.uncatchable_reaches_host cl _ [] (by decide) (by decide) (by decide)]
    refine ⟨rfl, ih2.trans ?_⟩
    show s.budget - 1 - n = s.budget - (n + 1)
    omega

/-- **Any direct recursion without end stops with RECURSION_LIMIT at depth exactly `Gen.RECURSION_LIMIT`** (symbolic: every function name,
every function table, every exception clause list of the function — the recursion-limit error is not catchable —, every caller state, every
depth `d` the first call is made at): `function f() begin return f(); end` called at depth `d` makes `n = RECURSION_LIMIT - d` nested calls —
exactly `n` `return` statements are executed (budget) — and the call attempted at depth `RECURSION_LIMIT` raises the error, which every level
passes on unchanged. Fuel `5·n + 1` suffices (five model functions per level), more does not change the result. -/
theorem direct_recursion_stops_at_limit (funcs : List Func) (name : String) (f : Func)
    (hf : funcs.find? (fun g => g.name == name && g.params.length == 0) = some f)
    (hbody : f.body = [.returnS (some (.fcall name []))]) :
    ∀ (n d : Nat), d + n = Gen.RECURSION_LIMIT → ∀ (h : Nat) (s : St), n ≤ s.budget →
      (callFunc funcs d (5 * n + 1 + h) name [] s).1 = .err Gen.EXC_RT_RECURSION_LIMIT [] ∧
      (callFunc funcs d (5 * n + 1 + h) name [] s).2.budget = s.budget - n :=
  fun n d hd h s hb =>
    runaway_cycle_stops_at_limit funcs [name]
      (fun nm hnm => by obtain rfl := List.mem_singleton.mp hnm; exact ⟨f, nm, hf, hnm, hbody⟩)
      n d hd name (List.mem_singleton_self _) h s hb

/-- the hypotheses are satisfiable: `function r() begin return r(); end` called from the program level (d = 0, n = 255) -/
example : (callFunc [{ name := "r", params := [], ret := Ty.int, body := [.returnS (some (.fcall "r" []))], catches := [("OTHERS", [.nop])] }] 0 (5 * 255 + 1 + 0) "r" [] {}).1 =
    .err Gen.EXC_RT_RECURSION_LIMIT [] :=
  (direct_recursion_stops_at_limit _ "r" _ (by with_unfolding_all rfl) rfl 255 0 (by decide) 0 {} (by decide)).1

/-- **The recursion limit holds after every history.** Whatever statements `hist` ran before at the program level (any calls of any
functions of the table, finished recursions of any depth, calls that failed — at the limit or otherwise —, from any state `c0`, with
any fuel `k`), in the state they leave:
* a call attempted by a caller that runs at depth `RECURSION_LIMIT` returns the recursion-limit error at once: no argument is
  evaluated, no body statement runs, the state (output, budget, variables) is exactly the caller's;
* a runaway recursion through any cycle `S` (direct, mutual, longer) entered at any depth `d` runs exactly `RECURSION_LIMIT - d`
  levels, then fails with that error — the same `RECURSION_LIMIT - d` as from a fresh state (`runaway_cycle_stops_at_limit` does not
  read the history). The model has no per-function cache of contexts: after e310d98 a recycled context is indistinguishable from a
  new one, and the depth travels with the CALLER (`createEnv`: `r = caller.recursion()`), which is what the family
  `reclimit-after-cache` of the check ties to the library. -/
theorem recursion_limit_any_history (funcs : List Func) (k : Nat) (hist : List Stmt) (c0 : St) :
    (∀ (fuel : Nat) (name : String) (args : List Expr) (f : Func),
      funcs.find? (fun f => f.name == name && f.params.length == args.length) = some f →
      callFunc funcs Gen.RECURSION_LIMIT (fuel + 1) name args (execList funcs 0 k hist c0).2 =
        (.err Gen.EXC_RT_RECURSION_LIMIT, (execList funcs 0 k hist c0).2)) ∧
    (∀ (S : List String),
      (∀ nm ∈ S, ∃ f nxt, funcs.find? (fun g => g.name == nm && g.params.length == 0) = some f ∧ nxt ∈ S ∧
        f.body = [.returnS (some (.fcall nxt []))]) →
      ∀ (n d : Nat), d + n = Gen.RECURSION_LIMIT → ∀ nm ∈ S, ∀ (h : Nat), n ≤ (execList funcs 0 k hist c0).2.budget →
        (callFunc funcs d (5 * n + 1 + h) nm [] (execList funcs 0 k hist c0).2).1 = .err Gen.EXC_RT_RECURSION_LIMIT [] ∧
        (callFunc funcs d (5 * n + 1 + h) nm [] (execList funcs 0 k hist c0).2).2.budget =
          (execList funcs 0 k hist c0).2.budget - n) :=
  ⟨fun fuel name args f hf => recursion_limit funcs fuel name args _ f hf,
   fun S hS n d hd nm hnm h hb => runaway_cycle_stops_at_limit funcs S hS n d hd nm hnm h _ hb⟩

/-- the hypotheses are satisfiable — mutual recursion `function p() begin return q(); end  function q() begin return p(); end`,
entered at depth 200 (a wrapper put 200 frames below it) after a history that itself ran into the limit: 55 levels, then the error -/
example :
    let p : Func := { name := "p", params := [], ret := Ty.int, body := [.returnS (some (.fcall "q" []))], catches := [("OTHERS", [.nop])] }
    let q : Func := { name := "q", params := [], ret := Ty.int, body := [.returnS (some (.fcall "p" []))], catches := [] }
    let hist : List Stmt := [.beginS [.doS (.fcall "p" [])] [("OTHERS", [.nop])]]
    (callFunc [p, q] 200 (5 * 55 + 1 + 0) "q" [] (execList [p, q] 0 3000 hist {}).2).1 = .err Gen.EXC_RT_RECURSION_LIMIT [] := by
  intro p q hist
  refine ((recursion_limit_any_history [p, q] 3000 hist {}).2 ["p", "q"] ?_ 55 200 (by decide) "q" (by simp) 0 ?_).1
  · intro nm hnm
    simp only [List.mem_cons, List.mem_nil_iff, or_false] at hnm
    rcases hnm with rfl | rfl
    · exact ⟨p, "q", by with_unfolding_all rfl, by simp, rfl⟩
    · exact ⟨q, "p", by with_unfolding_all rfl, by simp, rfl⟩
  · decide +kernel

/-- `function f(b) begin if b then x = 1; end if; return x; end` — the witness of the stale-local defect of the pinned build -/
def fStale : Func :=
  { name := "f", params := [("b", Ty.bool)], ret := Ty.int,
    body := [.ifS [(some (.var "b"), [.letS "x" (.lit (.int 1))])], .returnS (some (.var "x"))],
    catches := [], decls := [("b", Ty.bool), ("x", Ty.int)] }

/-- history independence on the witness: `print f(true); print f(false); print f(false);` prints 1, null, null — the local `x`
assigned by the first call is unset again in the later ones, and the caller's own `x` is neither read nor changed -/
example : (let r := execList [fStale] 0 40 [.letS "x" (.lit (.int 7)), .printS [.fcall "f" [.lit (.bool true)]], .printS [.fcall "f" [.lit (.bool false)]],
      .printS [.fcall "f" [.lit (.bool false)]], .printS [.var "x"]] {}
    (r.1, r.2.out)) = (.ok .norm, [[10], [55], [10], [110, 117, 108, 108], [10], [110, 117, 108, 108], [10], [49]]) := by decide +kernel

/-- `function f(b:boolean) return string is begin if b then begin raise E1; exception when E1 then raise E2; end; end if; return error@1; end`
— the witness of finding C08.error_record_survives_in_cached_context -/
def fErr : Func :=
  { name := "f", params := [("b", Ty.bool)], ret := Ty.str,
    body := [.ifS [(some (.var "b"), [.beginS [.raiseS "E1"] [("E1", [.raiseS "E2"])]])], .returnS (some (.item .errorE 1))],
    catches := [], decls := [("b", Ty.bool)] }

/-- **Regression witness of finding C08.error_record_survives_in_cached_context (fixed in e310d98)**:
`print f(false); begin do f(true); exception when E2 then nop; end; print f(false);` prints two empty lines: the second `f(false)` —
whose recycled context went through a failing `when E1` clause in the earlier call — starts with a clear record like the first. -/
theorem history_witness_fixed :
    (execList [fErr] 0 40 [.printS [.fcall "f" [.lit (.bool false)]],
        .beginS [.doS (.fcall "f" [.lit (.bool true)])] [("E2", [.nop])],
        .printS [.fcall "f" [.lit (.bool false)]]] {}).2.out = [[10], [], [10], []] := by decide +kernel

/-- overloads by argument count: `h(a)` and `h(a, b)` coexist and the call picks by arity -/
example : (let h1 : Func := { name := "h", params := [("a", Ty.int)], ret := Ty.int, body := [.returnS (some (.lit (.int 1)))], catches := [] }
    let h2 : Func := { name := "h", params := [("a", Ty.int), ("b", Ty.int)], ret := Ty.int, body := [.returnS (some (.lit (.int 2)))], catches := [] }
    let r := execList (addFunc (addFunc [] h1) h2) 0 40 [.printS [.fcall "h" [.lit (.int 0), .lit (.int 0)]], .printS [.fcall "h" [.lit (.int 0)]]] {}
    (r.1, r.2.out)) = (.ok .norm, [[10], [49], [10], [50]]) := by decide +kernel

/-- the hypotheses of `call_determined_by_argument_values` are satisfiable: two callers with different variables and own error records -/
example : (callFunc [fStale] 0 20 "f" [.lit (.bool true)] { vars := [("x", .int 5)] }).1 =
    (callFunc [fStale] 0 20 "f" [.lit (.bool true)] { vars := [("b", .str [1]), ("q", .int 9)], returned := some (.int 3), lastErr := (23, []) }).1 :=
  And.left (call_determined_by_argument_values [fStale] 0 19 "f" [.bool true] _ _ fStale (by with_unfolding_all rfl) (by decide) (by decide) rfl rfl)

end BlocV.C08
