/-
  C06 — loops and conditionals execute exactly the iterations the manual prescribes. Model (Model/Interp.lean): `forLoop` / `whileLoop` /
  `forallLoop`, the transcriptions of FORStatement::doit / WHILEStatement::doit / FORALLStatement::doit for an ARBITRARY body runner, and the
  statement level `exec … (.forS …)`, `(.forallS …)`, `(.letS …)`. Spec: `Spec.forRange` / `forCount` / `forValues` (Spec/Loops.lean),
  `forallOrder` (Model/Members.lean, characterised in C09). Clause table (property text → theorem): notes/NOTES-p0608.md.
-/
import BlocV.Proofs.Lemmas.Lock
import BlocV.Proofs.Lemmas.InterpEqns

namespace BlocV.C06
open BlocV.Lemmas

/-- `break` ends exactly the innermost loop: a `break` flow from the body makes the loop itself end
normally, with the state the body left. -/
theorem forLoop_break (v : String) (min max step : Int64) (k : Nat) (s s1 : St)
    (body : EvalM Flow) (hb : body s = (.ok .brk, s1)) :
    forLoop body v min max step (k + 1) s = (.ok .norm, s1) := by
  simp [forLoop, bind, hb, pure]

theorem forLoop_return (v : String) (min max step : Int64) (k : Nat) (s s1 : St)
    (body : EvalM Flow) (hb : body s = (.ok .ret, s1)) :
    forLoop body v min max step (k + 1) s = (.ok .ret, s1) := by
  simp [forLoop, bind, hb, pure]

theorem forLoop_error (v : String) (min max step : Int64) (k : Nat) (s s1 : St) (c : Nat) (a : Bytes)
    (body : EvalM Flow) (hb : body s = (.err c a, s1)) :
    forLoop body v min max step (k + 1) s = (.err c a, s1) := by
  simp [forLoop, bind, hb]

/-- **A body that sets the control variable to null** (`for k in 1 to 3 loop k = int(); end loop`): after a body run that ends normally
or with `continue`, if the control variable holds a null — typed or untyped —, the loop ends with the BLOC error NOT_INTEGER, from the
state the body left; nothing is dereferenced and no further iteration runs. (FORStatement::doit, re-entry branch, after the repair
`if (data->iterator->isNull()) throw RuntimeError(EXC_RT_NOT_INTEGER)`; before it: a null-pointer dereference.) -/
theorem forLoop_null_iterator (body : EvalM Flow) (v : String) (min max step : Int64) (k : Nat) (s s1 : St) (r : Flow)
    (hb : body s = (.ok r, s1)) (hr : r = .norm ∨ r = .cont) (hn : (lookupVar s1.vars v).isNull = true) :
    forLoop body v min max step (k + 1) s = (.err Gen.EXC_RT_NOT_INTEGER [], s1) := by
  rw [forLoop, bind_app, hb]
  rcases hr with rfl | rfl
  all_goals simp only [bind_app, getSt_app, liftM_app, hn, if_true]

example : forLoop (fun s => (.ok .norm, { s with vars := setVar s.vars "k" (.null Ty.int) })) "k" 1 3 1 5 { vars := [("k", .int 1)] } =
    (.err Gen.EXC_RT_NOT_INTEGER [], { vars := [("k", .null Ty.int)] }) :=
  forLoop_null_iterator _ "k" 1 3 1 4 _ _ .norm rfl (Or.inl rfl) (by decide +kernel)

/-- A body that always ends normally (or with `continue`) and never assigns the control variable. -/
structure Quiet (body : EvalM Flow) (v : String) : Prop where
  norm : ∀ s, (body s).1 = .ok .norm ∨ (body s).1 = .ok .cont
  keeps : ∀ s, lookupVar (body s).2.vars v = lookupVar s.vars v

def bodySt (body : EvalM Flow) (s : St) : St := (body s).2
def setK (v : String) (s : St) (x : Int) : St := { s with vars := setVar s.vars v (.int (Int64.ofInt x)) }

/-- The state after running the body once for every value of the list, the control variable being
set to each value before the body runs (the first value is already in place). -/
def runOver (body : EvalM Flow) (v : String) (s : St) : List Int → St
  | [] => s
  | _ :: rest => rest.foldl (fun st x => bodySt body (setK v st x)) (bodySt body s)

def QuietAt (body : EvalM Flow) (v : String) (s : St) : Prop :=
  ((body s).1 = .ok .norm ∨ (body s).1 = .ok .cont) ∧ lookupVar (body s).2.vars v = lookupVar s.vars v

def QuietAlong (body : EvalM Flow) (v : String) : St → List Int → Prop
  | _, [] => True
  | s, [_] => QuietAt body v s
  | s, _ :: y :: rest => QuietAt body v s ∧ QuietAlong body v (setK v (bodySt body s) y) (y :: rest)

theorem QuietAlong.head {body : EvalM Flow} {v : String} {s : St} {x : Int} :
    ∀ {l : List Int}, QuietAlong body v s (x :: l) → QuietAt body v s
  | [], h => h
  | _ :: _, h => h.1

theorem run_of_endsNorm {body : EvalM Flow} {s : St} (h : (body s).1 = .ok .norm ∨ (body s).1 = .ok .cont) :
    ∃ fl, (fl = .norm ∨ fl = .cont) ∧ body s = (.ok fl, bodySt body s) := by
  rcases h with h | h
  · exact ⟨_, Or.inl rfl, Prod.ext h rfl⟩
  · exact ⟨_, Or.inr rfl, Prod.ext h rfl⟩

theorem quietAlong_of_quiet {body : EvalM Flow} {v : String} (hq : Quiet body v) : ∀ (l : List Int) (s : St), QuietAlong body v s l
  | [], _ => trivial
  | [_], s => ⟨hq.norm s, hq.keeps s⟩
  | _ :: y :: rest, s => ⟨⟨hq.norm s, hq.keeps s⟩, quietAlong_of_quiet hq (y :: rest) _⟩

/-- **The re-entry loop visits its trace, in either direction**: entered with the control variable at `cur` inside the range, the loop
runs the body exactly for `forTrace … cur` — `cur, cur+step, …` computed on mathematical integers, so never wrapping around, also at
INT64_MAX / INT64_MIN — and ends normally, whenever the fuel covers the number of values. The body only has to be quiet along the run
that actually happens (`QuietAlong`) — the hypothesis a real statement body can satisfy (a body made of statements is never quiet in
EVERY state: with an exhausted work budget it stops as `oof`). -/
theorem forLoop_visits_along (body : EvalM Flow) {v : String} {min max step : Int64} :
    ∀ (k : Nat) (cur : Int64) (s : St), lookupVar s.vars v = .int cur → forStop min max step cur.toInt = false →
      (forTrace min max step k cur.toInt).length < k →
      QuietAlong body v s (forTrace min max step k cur.toInt) →
      forLoop body v min max step k s = (.ok .norm, runOver body v s (forTrace min max step k cur.toInt)) := by
  intro k
  induction k with
  | zero => intro cur s _ _ hl; exact absurd hl (Nat.not_lt_zero _)
  | succ k ih =>
    intro cur s hcur hin hl hq
    rw [forTrace, hin, if_neg Bool.false_ne_true] at hl hq ⊢
    obtain ⟨fl, hfl, hb⟩ := run_of_endsNorm hq.head.1
    rw [forLoop_iteration min max step k hb hfl (hq.head.2.trans hcur)]
    cases hstop : forStop min max step (cur.toInt + step.toInt)
    · have hnxt := toInt_add_of_not_forStop hstop
      have h := ih (cur + step) (setK v (bodySt body s) (cur.toInt + step.toInt))
        (by rw [← hnxt, setK, Int64.ofInt_toInt]; exact lookup_setVar) (hnxt ▸ hstop)
      rw [hnxt] at h
      cases k with
      | zero => exact absurd hl (by simp [forTrace])
      | succ k =>
        rw [forTrace, hstop, if_neg Bool.false_ne_true] at h hl hq ⊢
        rw [if_neg Bool.false_ne_true, ← Int64.ofInt_toInt (cur + step), hnxt]
        exact h (Nat.lt_of_succ_lt_succ hl) hq.2
    · have hnil : forTrace min max step k (cur.toInt + step.toInt) = [] := by cases k <;> simp [forTrace, hstop]
      rw [hnil]
      rfl

/-- **Ascending loop.** For a quiet body, the loop entered with the control variable at `cur ≤ max`
and a positive step runs the body exactly for `cur, cur+step, … ≤ max` — computed on mathematical
integers, so it never wraps around, also at INT64_MAX — and ends normally, whenever the fuel covers
the number of values. (Corollary of `forLoop_visits_along`.) -/
theorem forLoop_visits_up (body : EvalM Flow) (v : String) (min max step : Int64)
    (hq : Quiet body v) (hstep : 0 < step.toInt) :
    ∀ (k : Nat) (cur : Int64) (s : St), lookupVar s.vars v = .int cur → cur.toInt ≤ max.toInt →
      (Spec.upFrom k cur.toInt max.toInt step.toInt).length < k →
      forLoop body v min max step k s =
        (.ok .norm, runOver body v s (Spec.upFrom k cur.toInt max.toInt step.toInt)) :=
  fun k cur s h1 h2 h3 => by
    rw [upFrom_eq_forTrace min max step hstep] at h3 ⊢
    exact forLoop_visits_along body k cur s h1 (by rw [forStop_of_pos hstep]; simpa using h2) h3
      (quietAlong_of_quiet hq _ _)

example : Spec.upFrom 5 1 10 4 = [1, 5, 9] := by decide

/-- **Descending loop**, for a quiet body and a negative step, incl. at INT64_MIN: no wrap-around. -/
theorem forLoop_visits_down (body : EvalM Flow) (v : String) (min max step : Int64)
    (hq : Quiet body v) (hstep : step.toInt < 0) :
    ∀ (k : Nat) (cur : Int64) (s : St), lookupVar s.vars v = .int cur → min.toInt ≤ cur.toInt →
      (Spec.downFrom k cur.toInt min.toInt (-step.toInt)).length < k →
      forLoop body v min max step k s =
        (.ok .norm, runOver body v s (Spec.downFrom k cur.toInt min.toInt (-step.toInt))) :=
  fun k cur s h1 h2 h3 => by
    rw [downFrom_eq_forTrace min max step hstep] at h3 ⊢
    exact forLoop_visits_along body k cur s h1 (by rw [forStop_of_neg hstep]; simpa using h2) h3
      (quietAlong_of_quiet hq _ _)

example : Spec.downFrom 5 (-9223372036854775806) (-9223372036854775808) 2 = [-9223372036854775806, -9223372036854775808] := by decide
/-- at INT64_MIN the model stops instead of wrapping: two iterations, final value of the control variable INT64_MIN -/
example : (match forLoop (pure .norm) "i" (-9223372036854775808) 0 (-2) 5 { vars := [("i", .int (-9223372036854775806))] } with
    | (.ok .norm, s) => lookupVar s.vars "i" == .int (-9223372036854775808)
    | _ => false) = true := by decide +kernel

/-- **A body that assigns the control variable** (manual: allowed — the loop continues from the assigned value): whatever the body did
to the variable, if it ends normally or with `continue` leaving the INTEGER `a` in it, then
(1) when `a + step` — computed in ℤ, no wrap-around — lies beyond the limit in the direction of the step (`> max` ascending, `< min`
descending) the loop ends normally right there, the variable keeping `a`: also when `a` is already beyond the limit, equal to it, or
inside the last partial-step window `(limit − step, limit]`, and at INT64_MAX / INT64_MIN;
(2) otherwise the next iteration runs with the variable `a + step`, which as an Int64 is exactly `a + step` (no wrap) and lies inside
[min, max]. (A null left in the variable: `forLoop_null_iterator`, NOT_INTEGER.) Any body, any state, any `a`. -/
theorem for_body_assignment (body : EvalM Flow) (v : String) (min max step : Int64) (k : Nat) (s s1 : St) (r : Flow) (a : Int64)
    (hb : body s = (.ok r, s1)) (hr : r = .norm ∨ r = .cont) (hv : lookupVar s1.vars v = .int a) (hstep : step > 0 ∨ step < 0) :
    (((step > 0 ∧ a.toInt + step.toInt > max.toInt) ∨ (step < 0 ∧ a.toInt + step.toInt < min.toInt)) →
      forLoop body v min max step (k + 1) s = (.ok .norm, s1)) ∧
    (¬ ((step > 0 ∧ a.toInt + step.toInt > max.toInt) ∨ (step < 0 ∧ a.toInt + step.toInt < min.toInt)) →
      forLoop body v min max step (k + 1) s = forLoop body v min max step k { s1 with vars := setVar s1.vars v (.int (a + step)) } ∧
      (a + step).toInt = a.toInt + step.toInt ∧
      ((step > 0 → (a + step).toInt ≤ max.toInt) ∧ (step < 0 → min.toInt ≤ (a + step).toInt))) := by
  have hit := forLoop_iteration min max step k hb hr hv
  have hstop : forStop min max step (a.toInt + step.toInt) = true ↔
      ((step > 0 ∧ a.toInt + step.toInt > max.toInt) ∨ (step < 0 ∧ a.toInt + step.toInt < min.toInt)) := by simp [forStop]
  constructor
  · intro hc
    rw [hit, if_pos (hstop.mpr hc)]
  · intro hc
    rw [← hstop] at hc
    have hsum := toInt_add_of_not_forStop (Bool.eq_false_iff.mpr hc)
    rw [hit, if_neg hc, hsum]
    exact ⟨rfl, rfl, fun h => Int.not_lt.mp fun h' => hc (hstop.mpr (.inl ⟨h, h'⟩)),
      fun h => Int.not_lt.mp fun h' => hc (hstop.mpr (.inr ⟨h, h'⟩))⟩

/-- `for k in 0 to 10 step 3 loop print k; if k == 3 then k = 8; end if; end loop`: 8 lies in the last window (7, 10]: 0 3 then the loop ends (8+3 > 10);
with `k = 7` instead the trace is 0 3 10 -/
example : ((execList [] 0 30 [.forS "k" (.lit (.int 0)) (.lit (.int 10)) (some (.lit (.int 3))) .auto
      [.printS [.var "k"], .ifS [(some (.bin .eq (.var "k") (.lit (.int 3))), [.letS "k" (.lit (.int 8))])]]] {}).2.output,
    (execList [] 0 30 [.forS "k" (.lit (.int 0)) (.lit (.int 10)) (some (.lit (.int 3))) .auto
      [.printS [.var "k"], .ifS [(some (.bin .eq (.var "k") (.lit (.int 3))), [.letS "k" (.lit (.int 7))])]]] {}).2.output) =
    ([48, 10, 51, 10], [48, 10, 51, 10, 49, 48, 10]) := by decide +kernel

/-- **`Spec.forRange` in closed form**: for every `step ≥ 1` the recursive specification list is
`first ± i·step` for `i < forCount` — `|limit − first| / step + 1` values when the direction can be met, none otherwise. -/
theorem forRange_closed_form (first limit step : Int) (dir : Spec.Direction) (hs : 1 ≤ step) :
    Spec.forRange first limit step dir = Spec.forValues first limit step dir := by
  unfold Spec.forRange Spec.forValues Spec.forCount
  by_cases h : limit > first
  · simp only [h, if_true]
    by_cases hd : dir = .desc
    · simp [hd]
    · rw [if_neg hd, if_neg hd, upFrom_eq_map limit step (by omega),
        Nat.min_eq_right (upCount_le (by omega) (by omega)), upCount, if_neg (by omega)]
  · simp only [h, if_false]
    by_cases hd : dir = .asc ∧ limit ≠ first
    · simp [hd]
    · rw [if_neg hd, if_neg hd, downFrom_eq_map limit step (by omega),
        Nat.min_eq_right (downCount_le (by omega) (by omega)), downCount, if_neg (by omega)]

/-- The number of iterations is exactly `forCount`: `(|limit − first| / step) + 1`, or 0 when the requested direction cannot be met. -/
theorem forRange_length (first limit step : Int) (dir : Spec.Direction) (hs : 1 ≤ step) :
    (Spec.forRange first limit step dir).length = Spec.forCount first limit step dir := by
  rw [forRange_closed_form first limit step dir hs]; simp [Spec.forValues]

/-- For Int64 bounds and any step a `for` loop makes at most 2^64 iterations. -/
theorem forCount_le_int64 (bi ei st : Int64) (dir : Spec.Direction) :
    Spec.forCount bi.toInt ei.toInt st.toInt dir ≤ 2 ^ 64 := by
  have h1 := Int64.le_toInt bi; have h2 := Int64.toInt_lt bi
  have h3 := Int64.le_toInt ei; have h4 := Int64.toInt_lt ei
  unfold Spec.forCount
  have e1 := Int.ediv_le_self (b := st.toInt) (a := ei.toInt - bi.toInt)
  have e2 := Int.ediv_le_self (b := st.toInt) (a := bi.toInt - ei.toInt)
  split <;> split <;> omega

example : Spec.forRange (-9223372036854775808) 9223372036854775807 9223372036854775807 .auto = [-9223372036854775808, -1, 9223372036854775806] := by decide
example : Spec.forCount 9223372036854775806 9223372036854775807 1 .auto = 2 := by decide

/-- How the optional step expression of a `for` header evaluates: absent = 1. -/
def StepEval (funcs : List Func) (depth fuel : Nat) (step : Option Expr) (s2 : St) (st : Int64) (s3 : St) : Prop :=
  match step with
  | none => st = 1 ∧ s3 = s2
  | some se => eval funcs depth fuel se s2 = (.ok (.int st), s3)

/-- **FORStatement::doit, first entry**: with bounds evaluating to integers `bi`, `ei` and the step to `st ≥ 1` (absent = 1), each
expression evaluated exactly once, in the order first, limit, step, each from the state the previous one left, the statement is:
nothing when the requested direction cannot be met; else the control variable is set to `bi` and the re-entry loop runs ascending
in `[bi, ei]` with step `st`, or descending in `[ei, bi]` with step `0 − st`. -/
theorem exec_for_enter {funcs : List Func} {depth fuel : Nat} {v : String} {b e : Expr} {step : Option Expr} {dir : Dir}
    {body : List Stmt} {s s1 s2 s3 : St} {bi ei st : Int64} (hbud : s.budget ≠ 0)
    (hb : eval funcs depth fuel b (tick s) = (.ok (.int bi), s1))
    (he : eval funcs depth fuel e s1 = (.ok (.int ei), s2))
    (hs : StepEval funcs depth fuel step s2 st s3) (hst : ¬ st < 1) :
    exec funcs depth (fuel + 1) (.forS v b e step dir body) s =
      if ei > bi then
        if dir == .desc then (.ok .norm, s3)
        else forLoop (execList funcs depth fuel body) v bi ei st fuel { s3 with vars := setVar s3.vars v (.int bi) }
      else
        if dir == .asc && ei != bi then (.ok .norm, s3)
        else forLoop (execList funcs depth fuel body) v ei bi (0 - st) fuel { s3 with vars := setVar s3.vars v (.int bi) } := by
  have hrun : forFrom funcs depth fuel v step dir body (.int bi) (.int ei) s2 = forRun funcs depth fuel v dir body bi ei st s3 := by
    cases step with
    | none =>
      obtain ⟨rfl, rfl⟩ := hs
      rw [forFrom]
      simp only [bind_app, liftM_app, asInt_int]
    | some se =>
      have hs' : eval funcs depth fuel se s2 = (.ok (.int st), s3) := hs
      rw [forFrom]
      simp only [bind_app, pure_app, liftM_app, evalM_ite_app, hs', isNull_int, asInt_int, hst, Bool.false_eq_true, if_false]
  rw [exec_forS_bounds hbud hb (isNull_int bi) he (isNull_int ei), hrun, forRun]
  simp only [bind_app, pure_app, modifySt_app, evalM_ite_app]

def specDir : Dir → Spec.Direction
  | .auto => .auto
  | .asc => .asc
  | .desc => .desc

/-- The state after the iterations of a `for` over the values `l`: nothing for the empty list (the
control variable is not even assigned), else the variable is set to the first value and the body runs
once per value. -/
def runFor (body : EvalM Flow) (v : String) (s : St) : List Int → St
  | [] => s
  | x :: rest => runOver body v (setK v s x) (x :: rest)

def QuietFor (body : EvalM Flow) (v : String) (s : St) : List Int → Prop
  | [] => True
  | x :: rest => QuietAlong body v (setK v s x) (x :: rest)

/-- **The `for` statement visits exactly `Spec.forRange`** (statement level, all Int64 bounds and steps ≥ 1, all three directions): when the
header expressions evaluate to `bi`, `ei`, `st` and the body (the statement list, run by `execList`) is quiet along the prescribed run,
`exec … (.forS v b e step dir body)` ends normally in the state obtained by running the body once for each value of
`Spec.forRange bi ei st dir`, in order, the control variable set to that value — zero iterations (and the variable untouched) when the
direction cannot be met. The fuel needed is one more than the closed-form iteration count `Spec.forCount` (≤ |ei−bi|/st + 1):
the loop terminates, without the control variable ever wrapping around, for every header. (statement_for.cpp) -/
theorem exec_for_visits (funcs : List Func) (depth fuel : Nat) (v : String) (b e : Expr) (step : Option Expr) (dir : Dir)
    (body : List Stmt) (s s1 s2 s3 : St) (bi ei st : Int64) (hbud : s.budget ≠ 0)
    (hb : eval funcs depth fuel b (tick s) = (.ok (.int bi), s1))
    (he : eval funcs depth fuel e s1 = (.ok (.int ei), s2))
    (hs : StepEval funcs depth fuel step s2 st s3) (hst : 1 ≤ st.toInt)
    (hq : QuietFor (execList funcs depth fuel body) v s3 (Spec.forRange bi.toInt ei.toInt st.toInt (specDir dir)))
    (hfuel : Spec.forCount bi.toInt ei.toInt st.toInt (specDir dir) < fuel) :
    exec funcs depth (fuel + 1) (.forS v b e step dir body) s =
      (.ok .norm, runFor (execList funcs depth fuel body) v s3 (Spec.forRange bi.toInt ei.toInt st.toInt (specDir dir))) := by
  have hst' : ¬ st < 1 := Int64.not_lt.mpr (Int64.le_iff_toInt_le.mpr hst)
  rw [exec_for_enter hbud hb he hs hst']
  have hgt : (ei > bi) ↔ ei.toInt > bi.toInt := Int64.lt_iff_toInt_lt
  -- the loop proper, once the header's range is known to be the trace of `forLoop` with the bounds and step it is run with
  have key : ∀ mn mx stp, forStop mn mx stp bi.toInt = false →
      Spec.forRange bi.toInt ei.toInt st.toInt (specDir dir) = forTrace mn mx stp fuel bi.toInt →
      forLoop (execList funcs depth fuel body) v mn mx stp fuel { s3 with vars := setVar s3.vars v (.int bi) } =
        (.ok .norm, runFor (execList funcs depth fuel body) v s3 (Spec.forRange bi.toInt ei.toInt st.toInt (specDir dir))) := by
    intro mn mx stp hin htr
    have hlen := forRange_length bi.toInt ei.toInt st.toInt (specDir dir) hst
    rw [htr] at hq hlen ⊢
    have h := forLoop_visits_along (execList funcs depth fuel body) fuel bi
      { s3 with vars := setVar s3.vars v (.int bi) } lookup_setVar hin (by omega)
    cases fuel with
    | zero => omega
    | succ k =>
      rw [forTrace, hin, if_neg Bool.false_ne_true] at h hq ⊢
      rw [runFor, setK, Int64.ofInt_toInt]
      rw [QuietFor, setK, Int64.ofInt_toInt] at hq
      exact h hq
  by_cases h : ei > bi
  · have h' := hgt.mp h
    rw [if_pos h]
    by_cases hd : dir = .desc
    · subst hd; simp [Spec.forRange, h', specDir, runFor]
    · rw [if_neg (by simpa using hd)]
      exact key bi ei st (by rw [forStop_of_pos (by omega)]; simpa using Int.le_of_lt h') (forRange_eq_forTrace_up bi ei st _ fuel h'
        (fun hs => hd (by cases dir <;> first | rfl | cases hs)) hst hfuel)
  · have h' : ¬ ei.toInt > bi.toInt := fun hh => h (hgt.mpr hh)
    rw [if_neg h]
    by_cases hd : dir = .asc ∧ ei ≠ bi
    · have hne : ei.toInt ≠ bi.toInt := fun e => hd.2 (Int64.toInt_inj.mp e)
      simp [Spec.forRange, h', specDir, runFor, hd.1, hd.2, hne]
    · rw [if_neg (by simpa using hd)]
      have hneg : (0 - st).toInt = -st.toInt := toInt_zero_sub st (by omega)
      exact key ei bi (0 - st) (by rw [forStop_of_neg (by omega)]; simpa using h') (forRange_eq_forTrace_down bi ei st _ fuel h'
        (fun ⟨h1, h2⟩ => hd ⟨(by cases dir <;> first | rfl | cases h1), fun e => h2 (congrArg _ e)⟩) hst hfuel)

/-- **Termination** (corollary of `exec_for_visits`): with fuel above `Spec.forCount` — at most `|limit − first| / step + 1 ≤ 2^64`
(`forCount_le_int64`) — the `for` statement over a quiet body ends normally; in particular it is not cut off as out-of-fuel and the
control variable never wraps around (also for `for i in 9223372036854775806 to 9223372036854775807`, the pinned build's endless loop). -/
theorem exec_for_terminates (funcs : List Func) (depth fuel : Nat) (v : String) (b e : Expr) (step : Option Expr) (dir : Dir)
    (body : List Stmt) (s s1 s2 s3 : St) (bi ei st : Int64) (hbud : s.budget ≠ 0)
    (hb : eval funcs depth fuel b (tick s) = (.ok (.int bi), s1))
    (he : eval funcs depth fuel e s1 = (.ok (.int ei), s2))
    (hs : StepEval funcs depth fuel step s2 st s3) (hst : 1 ≤ st.toInt)
    (hq : QuietFor (execList funcs depth fuel body) v s3 (Spec.forRange bi.toInt ei.toInt st.toInt (specDir dir)))
    (hfuel : Spec.forCount bi.toInt ei.toInt st.toInt (specDir dir) < fuel) :
    (exec funcs depth (fuel + 1) (.forS v b e step dir body) s).1 = .ok .norm := by
  rw [exec_for_visits funcs depth fuel v b e step dir body s s1 s2 s3 bi ei st hbud hb he hs hst hq hfuel]

/-- the former endless loop: two iterations, ends normally, the control variable ends at INT64_MAX -/
example : (let r := exec [] 0 10 (.forS "i" (.lit (.int 9223372036854775806)) (.lit (.int 9223372036854775807)) none .auto [.printS [.lit (.str [120])]]) {}
    (r.1, r.2.out.length, lookupVar r.2.vars "i" == .int 9223372036854775807)) = (.ok .norm, 4, true) := by decide +kernel

/-- The requested direction can be met: the `for` header prescribes at least one iteration. -/
def forEntered (bi ei : Int64) (dir : Dir) : Bool :=
  if ei > bi then dir != .desc else !(dir == .asc && ei != bi)

/-- **Statement level: a `for` whose body sets the control variable to null raises NOT_INTEGER** (`for k in 1 to 3 loop k = int(); end loop;`):
with the header evaluating to integers `bi`, `ei`, step `st ≥ 1` and the direction met, if the first run of the body (from the state with
the control variable set to `bi`) ends normally or with `continue` and leaves a null in the control variable, the statement fails with
the BLOC error NOT_INTEGER from the state that body run left — an ordinary, catchable-by-nobody runtime error reported to the host, not a
crash (statement_for.cpp after the repair). Later iterations behave the same by `forLoop_null_iterator`. -/
theorem exec_for_null_iterator (funcs : List Func) (depth fuel : Nat) (v : String) (b e : Expr) (step : Option Expr) (dir : Dir)
    (body : List Stmt) (s s1 s2 s3 s4 : St) (bi ei st : Int64) (r : Flow) (hbud : s.budget ≠ 0)
    (hb : eval funcs depth (fuel + 1) b (tick s) = (.ok (.int bi), s1))
    (he : eval funcs depth (fuel + 1) e s1 = (.ok (.int ei), s2))
    (hs : StepEval funcs depth (fuel + 1) step s2 st s3) (hst : ¬ st < 1)
    (hdir : forEntered bi ei dir = true)
    (hbody : execList funcs depth (fuel + 1) body { s3 with vars := setVar s3.vars v (.int bi) } = (.ok r, s4))
    (hr : r = .norm ∨ r = .cont) (hn : (lookupVar s4.vars v).isNull = true) :
    exec funcs depth (fuel + 2) (.forS v b e step dir body) s = (.err Gen.EXC_RT_NOT_INTEGER [], s4) := by
  rw [exec_for_enter hbud hb he hs hst]
  unfold forEntered at hdir
  split at hdir
  · rw [if_pos ‹_›, if_neg (by simpa using hdir)]
    exact forLoop_null_iterator _ v bi ei st fuel _ s4 r hbody hr hn
  · rw [Bool.not_eq_true'] at hdir
    rw [if_neg ‹_›, hdir, if_neg Bool.false_ne_true]
    exact forLoop_null_iterator _ v ei bi (0 - st) fuel _ s4 r hbody hr hn

/-- `for k in 1 to 3 loop k = int(); end loop; print "after";`: NOT_INTEGER, nothing printed, `k` is the null the body stored -/
example : (let r := execList [] 0 10 [.forS "k" (.lit (.int 1)) (.lit (.int 3)) none .auto [.letS "k" (.null Ty.int |> Expr.lit)], .printS [.lit (.str [97])]] {}
    (r.1, r.2.out, lookupVar r.2.vars "k" == .null Ty.int)) = (.err Gen.EXC_RT_NOT_INTEGER [], [], true) := by decide +kernel

/-- A null first bound (typed or untyped): zero iterations; the limit, the step and the body are not even evaluated; the state is the one
the evaluation of the bound left (for a literal or a variable: unchanged apart from the work budget). -/
theorem exec_for_null_first (funcs : List Func) (depth fuel : Nat) (v : String) (b e : Expr) (step : Option Expr) (dir : Dir)
    (body : List Stmt) (s s1 : St) (vb : Val) (hbud : s.budget ≠ 0)
    (hb : eval funcs depth fuel b (tick s) = (.ok vb, s1)) (hn : vb.isNull = true) :
    exec funcs depth (fuel + 1) (.forS v b e step dir body) s = (.ok .norm, s1) := by
  rw [exec_forS funcs depth fuel hbud]
  simp only [bind_app, pure_app, evalM_ite_app, hb, hn, if_true]

/-- A null limit: zero iterations, step and body not evaluated. -/
theorem exec_for_null_limit (funcs : List Func) (depth fuel : Nat) (v : String) (b e : Expr) (step : Option Expr) (dir : Dir)
    (body : List Stmt) (s s1 s2 : St) (vb ve : Val) (hbud : s.budget ≠ 0)
    (hb : eval funcs depth fuel b (tick s) = (.ok vb, s1)) (hnb : vb.isNull = false)
    (he : eval funcs depth fuel e s1 = (.ok ve, s2)) (hn : ve.isNull = true) :
    exec funcs depth (fuel + 1) (.forS v b e step dir body) s = (.ok .norm, s2) := by
  rw [exec_forS funcs depth fuel hbud]
  simp only [Bool.false_eq_true, if_false, bind_app, pure_app, evalM_ite_app, hb, he, hnb, hn, if_true]

/-- A null step: zero iterations, the body does not run, the control variable is not assigned. -/
theorem exec_for_null_step (funcs : List Func) (depth fuel : Nat) (v : String) (b e se : Expr) (dir : Dir)
    (body : List Stmt) (s s1 s2 s3 : St) (vb ve vs : Val) (hbud : s.budget ≠ 0)
    (hb : eval funcs depth fuel b (tick s) = (.ok vb, s1)) (hnb : vb.isNull = false)
    (he : eval funcs depth fuel e s1 = (.ok ve, s2)) (hne : ve.isNull = false)
    (hs : eval funcs depth fuel se s2 = (.ok vs, s3)) (hn : vs.isNull = true) :
    exec funcs depth (fuel + 1) (.forS v b e (some se) dir body) s = (.ok .norm, s3) := by
  rw [exec_forS_bounds hbud hb hnb he hne, forFrom]
  simp only [bind_app, pure_app, evalM_ite_app, hs, hn, if_true]

/-- A step below 1 (zero, negative — any Int64 `< 1`) raises OUT_OF_RANGE before the control variable is assigned and before anything of the
body runs: the state is the one left by evaluating the three header expressions. -/
theorem exec_for_step_below_one (funcs : List Func) (depth fuel : Nat) (v : String) (b e se : Expr) (dir : Dir)
    (body : List Stmt) (s s1 s2 s3 : St) (vb ve : Val) (st : Int64) (hbud : s.budget ≠ 0)
    (hb : eval funcs depth fuel b (tick s) = (.ok vb, s1)) (hnb : vb.isNull = false)
    (he : eval funcs depth fuel e s1 = (.ok ve, s2)) (hne : ve.isNull = false)
    (hs : eval funcs depth fuel se s2 = (.ok (.int st), s3)) (hlt : st < 1) :
    exec funcs depth (fuel + 1) (.forS v b e (some se) dir body) s = (.err Gen.EXC_RT_OUT_OF_RANGE [], s3) := by
  rw [exec_forS_bounds hbud hb hnb he hne, forFrom]
  simp only [Bool.false_eq_true, if_false, bind_app, liftM_app, failE_app, evalM_ite_app, hs, isNull_int, asInt_int, hlt, if_true]

example : (exec [] 0 10 (.forS "i" (.lit (.int 1)) (.lit (.int 9)) (some (.lit (.int 4))) .auto [.printS [.var "i"]]) {}).2.out
    = [[10], [57], [10], [53], [10], [49]] := by decide +kernel

/-- the hypotheses of `exec_for_visits` are satisfiable: `for i in 1 to 10 step 4 loop x = i; end loop` -/
example : exec [] 0 10 (.forS "i" (.lit (.int 1)) (.lit (.int 10)) (some (.lit (.int 4))) .auto [.letS "x" (.var "i")]) {} =
    (.ok .norm, runFor (execList [] 0 9 [.letS "x" (.var "i")]) "i" (tick {}) [1, 5, 9]) := by
  have h := exec_for_visits [] 0 9 "i" (.lit (.int 1)) (.lit (.int 10)) (some (.lit (.int 4))) .auto [.letS "x" (.var "i")]
    {} (tick {}) (tick {}) (tick {}) 1 10 4 (by decide) (eval_lit ..) (eval_lit ..) (eval_lit ..) (by decide)
  have hr : Spec.forRange (1 : Int64).toInt (10 : Int64).toInt (4 : Int64).toInt (specDir .auto) = [1, 5, 9] := by decide
  rw [hr] at h
  exact h ⟨⟨Or.inl (by decide +kernel), by with_unfolding_all rfl⟩, ⟨Or.inl (by decide +kernel), by with_unfolding_all rfl⟩, ⟨Or.inl (by decide +kernel), by with_unfolding_all rfl⟩⟩ (by decide)

/-- `index += step` on the loop's own (top) control entry -/
def stepTo (s : St) (j : Nat) : St :=
  { s with iters := match s.iters with
      | b :: rest => { b with idx := j } :: rest
      | [] => [] }

/-- The state after running the body once for every index of the list (the first index is already in place). -/
def runOverF (body : EvalM Flow) : St → List Nat → St
  | s, [] => s
  | s, [_] => bodySt body s
  | s, _ :: j :: rest => runOverF body (stepTo (bodySt body s) j) (j :: rest)

/-- One body run of a `forall` over a table of `n` elements, at index `i`, is quiet: it ends normally
(or with `continue`), the loop's control entry is still on top with its index, and the traversed
table still has `n` elements. -/
def QuietAtF (body : EvalM Flow) (it : String) (n : Nat) (s : St) (i : Nat) : Prop :=
  ((body s).1 = .ok .norm ∨ (body s).1 = .ok .cont) ∧
  ∃ b rest, (body s).2.iters = b :: rest ∧ b.it = it ∧ b.idx = i ∧ tableSize ((body s).2.iterTable b) = n

def QuietAlongF (body : EvalM Flow) (it : String) (n : Nat) : St → List Nat → Prop
  | _, [] => True
  | s, [i] => QuietAtF body it n s i
  | s, i :: j :: rest => QuietAtF body it n s i ∧ QuietAlongF body it n (stepTo (bodySt body s) j) (j :: rest)

theorem QuietAlongF.head {body : EvalM Flow} {it : String} {n : Nat} {s : St} {i : Nat} :
    ∀ {l : List Nat}, QuietAlongF body it n s (i :: l) → QuietAtF body it n s i
  | [], h => h
  | _ :: _, h => h.1

/-- **One re-entry of FORALLStatement::doit, for any body**: after a body run that ends normally or with `continue`, the index moves by one
in the traversal direction and the loop goes on while it stays inside the table *as it is then*. -/
theorem forallLoop_iteration {body : EvalM Flow} {it : String} {desc : Bool} {k : Nat} {s s1 : St} {r : Flow}
    {b : Iter} {rest : List Iter} (hb : body s = (.ok r, s1)) (hr : r = .norm ∨ r = .cont)
    (hi : s1.iters = b :: rest) (hit : b.it = it) :
    forallLoop body it desc (k + 1) s =
      match forallNext desc b.idx (tableSize (s1.iterTable b)) with
      | none => (.ok .norm, s1)
      | some j => forallLoop body it desc k (stepTo s1 j) := by
  have hne : (b.it != it) = false := by simp [hit]
  rw [forallLoop, bind_app, hb]
  rcases hr with rfl | rfl
  all_goals
    simp only [bind_app, getSt_app, hi, hne, Bool.false_eq_true, if_false]
    cases forallNext desc b.idx (tableSize (s1.iterTable b)) with
    | none => rfl
    | some j => simp only [bind_app, modifySt_app, stepTo, hi]

/-- **forall visits the index trace of the loop header**, each index once, in order: for a body that is quiet along the run (keeps the
loop's control entry on top and the table length `n`), `forallLoop` started at index `i` ends normally after running the body exactly
for the indices `forallTrace desc n k (some i)` (C09's header trace), with the iterator at that index. -/
theorem forallLoop_visits_along {body : EvalM Flow} {it : String} {desc : Bool} {n : Nat} :
    ∀ {k : Nat} {i : Nat} {s : St},
      (forallTrace desc n k (some i)).length < k →
      QuietAlongF body it n s (forallTrace desc n k (some i)) →
      forallLoop body it desc k s = (.ok .norm, runOverF body s (forallTrace desc n k (some i))) := by
  intro k
  induction k with
  | zero => intro i s hl; exact absurd hl (Nat.not_lt_zero _)
  | succ k ih =>
    intro i s hl hq
    rw [forallTrace] at hl hq ⊢
    obtain ⟨hn, b, rest, hi, hit, hidx, (hsz : tableSize ((bodySt body s).iterTable b) = n)⟩ := hq.head
    obtain ⟨fl, hfl, hb⟩ := run_of_endsNorm hn
    rw [forallLoop_iteration hb hfl hi hit, hidx, hsz]
    cases hnx : forallNext desc i n with
    | none =>
      have hnil : forallTrace desc n k none = [] := by cases k <;> rfl
      rw [hnil]
      rfl
    | some j =>
      rw [hnx] at hl hq
      cases k with
      | zero => exact absurd hl (by simp [forallTrace])
      | succ k => exact ih (Nat.lt_of_succ_lt_succ hl) hq.2

theorem forallTrace_first {desc : Bool} {n k : Nat} (hn : 0 < n) (hk : n < k) :
    forallTrace desc n k (some (if desc then n - 1 else 0)) = forallOrder desc n := by
  have := forallTrace_order_of_lt desc hk
  rwa [forallFirst, if_neg (by simpa using Nat.ne_of_gt hn)] at this

/-- **Leaving a forall by any route** (`FORALLStatement::finalizeControl`, also run by `Context::onRuntimeError`): whatever the outcome `r` of
the loop (normal, return, BLOC error, hazard, out of fuel), exactly the loop's own control entry is popped, the iterator variable becomes
a null of the type it had before the loop, and output, saved return value and budget are untouched. -/
theorem forallExit_pops (it : String) (r : Res Flow) (s : St) (b : Iter) (rest : List Iter) (h : s.iters = b :: rest) :
    forallExit it (r, s) = (r, { s with iters := rest, vars := setVar s.vars it (.null b.bak) }) ∧
    (forallExit it (r, s)).2.iters = rest ∧
    lookupVar (forallExit it (r, s)).2.vars it = .null b.bak ∧
    (forallExit it (r, s)).2.out = s.out ∧ (forallExit it (r, s)).2.returned = s.returned ∧
    (forallExit it (r, s)).2.budget = s.budget := by
  have e : forallExit it (r, s) = (r, { s with iters := rest, vars := setVar s.vars it (.null b.bak) }) := by
    unfold forallExit; simp only [h]
  rw [e]
  exact ⟨rfl, rfl, lookup_setVar, rfl, rfl, rfl⟩

/-- The control entry a `forall it in t` pushes. -/
def forallEntry (s : St) (it t : String) (desc : Bool) (n : Nat) : Iter :=
  { it := it, src := some t, priv := .null Ty.none, idx := if desc then n - 1 else 0,
    bak := (lookupVar s.vars it).type, locked := s.iters.any (·.src == some t) }

/-- **FORALLStatement::doit, first entry, over a table variable**: the table is read once; a control entry (iterator name, traversed
variable, first index, the iterator variable's former type, the inherited lock) is pushed; the loop runs; `forallExit` pops it. -/
theorem exec_forall_var_enter {funcs : List Func} {depth fuel : Nat} {it t : String} {dir : Dir} {body : List Stmt}
    {s : St} {ty : Ty} {d : List Ty} {es : List Val} (hbud : s.budget ≠ 0)
    (ht : lookupVar s.vars t = .tab ty d es) (hl : (ty.level == 0) = false) (hne : es ≠ [])
    (hit : s.iters.any (·.it == it) = false) (htt : s.iters.any (·.it == t) = false) :
    exec funcs depth (fuel + 2) (.forallS it (.var t) dir body) s =
      forallExit it (forallLoop (execList funcs depth (fuel + 1) body) it (dir == .desc) (fuel + 1)
        { tick s with iters := forallEntry s it t (dir == .desc) es.length :: s.iters }) := by
  have hrd : readVar s t = .ok (.tab ty d es) := (readVar_of_not_iter htt).trans (congrArg Res.ok ht)
  have hnull : (Val.tab ty d es).isNull = false := rfl
  have hlev : ((Val.tab ty d es).type.level == 0) = false := hl
  have hsz : (tableSize (.tab ty d es) == 0) = false := beq_eq_false_iff_ne.mpr (mt List.length_eq_zero_iff.mp hne)
  rw [exec_forallS funcs depth (fuel + 1) hbud]
  simp only [eval_var, readVar_tick, tick_iters, bind_app, pure_app, getSt_app, evalM_ite_app, hrd, hnull, hlev, hsz, hit, htt, Bool.false_eq_true, if_false]
  rfl

/-- **The `forall` statement over a table variable** visits `forallOrder` = `0,…,n−1` resp. `n−1,…,0` (every element once, in the requested
order: `C09.forall_visits_once_in_order`) and is then left through `forallExit` (iterator constraint and table lock released:
`forallExit_pops`). (statement_forall.cpp) -/
theorem exec_forall_var_visits (funcs : List Func) (depth fuel : Nat) (it t : String) (dir : Dir) (body : List Stmt)
    (s : St) (ty : Ty) (d : List Ty) (es : List Val) (hbud : s.budget ≠ 0)
    (ht : lookupVar s.vars t = .tab ty d es) (hl : (ty.level == 0) = false) (hne : es ≠ [])
    (hit : s.iters.any (·.it == it) = false) (htt : s.iters.any (·.it == t) = false)
    (hfuel : es.length < fuel + 1)
    (hq : QuietAlongF (execList funcs depth (fuel + 1) body) it es.length
      { tick s with iters := forallEntry s it t (dir == .desc) es.length :: s.iters } (forallOrder (dir == .desc) es.length)) :
    exec funcs depth (fuel + 2) (.forallS it (.var t) dir body) s =
      forallExit it (.ok .norm, runOverF (execList funcs depth (fuel + 1) body)
        { tick s with iters := forallEntry s it t (dir == .desc) es.length :: s.iters } (forallOrder (dir == .desc) es.length)) := by
  have hpos := List.length_pos_iff.mpr hne
  rw [exec_forall_var_enter hbud ht hl hne hit htt]
  rw [← forallTrace_first hpos hfuel] at hq ⊢
  rw [forallLoop_visits_along ?_ hq]
  rw [forallTrace_first hpos hfuel]
  cases dir == .desc <;> simpa [forallOrder] using hfuel

/-- **A write through the iterator lands in the table**: `it = e` while `it` is the iterator of a running forall over table variable `t`
(not read-only) replaces exactly element `idx` of `t` by the value of `e` (same type required) — `getElem?_listPut`: position `idx`
becomes `v`, every other position is unchanged, the length is unchanged (C09.forall_length_fixed) — and assigns no other variable. (statement_let.cpp) -/
theorem exec_let_through_iterator (funcs : List Func) (depth fuel : Nat) (n t : String) (e : Expr) (s s1 : St)
    (b0 b : Iter) (v old : Val) (ty : Ty) (d : List Ty) (es : List Val) (hbud : s.budget ≠ 0)
    (h0 : s.iters.find? (·.it == n) = some b0) (hlock : b0.locked = false)
    (he : eval funcs depth fuel e (tick s) = (.ok v, s1))
    (h1 : s1.iters.find? (·.it == n) = some b) (hsrc : b.src = some t)
    (ht : lookupVar s1.vars t = .tab ty d es) (hold : es[b.idx]? = some old) (hty : v.type = old.type) :
    exec funcs depth (fuel + 1) (.letS n e) s =
      (.ok .norm, { s1 with vars := setVar s1.vars t (.tab ty d (listPut es b.idx v)) }) := by
  have hit : s1.iterTable b = .tab ty d es := (iterTable_src hsrc).trans ht
  have hstep : forallStep (.tab ty d es) b.idx v = .ok (.tab ty d (listPut es b.idx v)) := by
    unfold forallStep; simp [hold, hty]
  rw [exec_letS funcs depth fuel hbud]
  simp only [Bool.false_eq_true, if_false, bind_app, pure_app, getSt_app, modifySt_app, liftM_app, evalM_ite_app, tick_iters,
    h0, hlock, he, h1, hit, hstep, hsrc]

def tI3 : Val := .tab { major := .int, level := 1 } [] [.int 1, .int 2, .int 3]

/-- `forall e in t desc loop print e; end loop` prints 3, 2, 1 and leaves no control entry behind -/
example : (let r := exec [] 0 10 (.forallS "e" (.var "t") .desc [.printS [.var "e"]]) { vars := [("t", tI3)] }
    (r.2.out, r.2.iters.length)) = ([[10], [49], [10], [50], [10], [51]], 0) := by decide +kernel

/-- `forall e in t loop e = e + 10; end loop`: the writes land in the table, element by element -/
example : (let r := exec [] 0 10 (.forallS "e" (.var "t") .auto [.letS "e" (.bin .add (.var "e") (.lit (.int 10)))]) { vars := [("t", tI3)] }
    lookupVar r.2.vars "t" == .tab { major := .int, level := 1 } [] [.int 11, .int 12, .int 13]) = true := by decide +kernel

/-- the hypotheses of `exec_forall_var_visits` are satisfiable (one-element table, empty body) -/
example : exec [] 0 3 (.forallS "e" (.var "t") .auto []) { vars := [("t", .tab { major := .int, level := 1 } [] [.int 7])] } =
    forallExit "e" (.ok .norm, runOverF (execList [] 0 2 [])
      { tick { vars := [("t", .tab { major := .int, level := 1 } [] [.int 7])] } with
        iters := [forallEntry { vars := [("t", .tab { major := .int, level := 1 } [] [.int 7])] } "e" "t" false 1] } [0]) :=
  exec_forall_var_visits [] 0 1 "e" "t" .auto [] _ { major := .int, level := 1 } [] [.int 7] (by decide) (by with_unfolding_all rfl) (by decide) (by simp)
    (by decide) (by decide) (by decide) ⟨Or.inl (by decide +kernel), _, _, by with_unfolding_all rfl, rfl, rfl, by with_unfolding_all rfl⟩

/-- **No iterator constraint or table lock survives** (the model's control-stack discipline): for every expression, call, argument list,
block, statement list, statement, print list and if-chain, at every fuel and depth, from every state and WHATEVER THE OUTCOME (value, any
Flow, BLOC error, hazard, unmodelled, out of fuel), the names of the running `forall` loops after are exactly those before
(Lemmas/Interp.lean `sameIters_all`: the induction `interp_all` over all eight functions of the interpreter, built-ins included). -/
theorem iters_balanced (funcs : List Func) (fuel depth : Nat) :
    (∀ e s, ((eval funcs depth fuel e s).2.iters.map (·.it)) = s.iters.map (·.it)) ∧
    (∀ name args s, ((callFunc funcs depth fuel name args s).2.iters.map (·.it)) = s.iters.map (·.it)) ∧
    (∀ args s, ((evalArgs funcs depth fuel args s).2.iters.map (·.it)) = s.iters.map (·.it)) ∧
    (∀ body catches s, ((execBlock funcs depth fuel body catches s).2.iters.map (·.it)) = s.iters.map (·.it)) ∧
    (∀ l s, ((execList funcs depth fuel l s).2.iters.map (·.it)) = s.iters.map (·.it)) ∧
    (∀ st s, ((exec funcs depth fuel st s).2.iters.map (·.it)) = s.iters.map (·.it)) ∧
    (∀ es s, ((evalPrint funcs depth fuel es s).2.iters.map (·.it)) = s.iters.map (·.it)) ∧
    (∀ rules s, ((execIf funcs depth fuel rules s).2.iters.map (·.it)) = s.iters.map (·.it)) := by
  have key : ∀ {α} {x : EvalM α}, Pres SameIters x → ∀ s, (x s).2.iters.map (·.it) = s.iters.map (·.it) := fun hx s => by
    simpa [List.map_map, Function.comp_def, iterKey] using congrArg (List.map (·.1)) (hx.h s)
  have h := sameIters_all funcs fuel
  exact ⟨fun e => key (h.eval depth e), fun n a => key (h.callFunc depth n a), fun a => key (h.evalArgs depth a),
    fun b c => key (h.execBlock depth b c), fun l => key (h.execList depth l), fun st => key (h.exec depth st),
    fun es => key (h.evalPrint depth es), fun r => key (h.execIf depth r)⟩

/-- Stronger form for statements: not only the names — the whole control entries (traversed variable, index, saved type, lock flag) of the
enclosing loops are as before; a statement can only change the private copy of a traversed temporary (by writing through its iterator). -/
theorem exec_iters_frames (funcs : List Func) (fuel depth : Nat) (st : Stmt) (s : St) :
    (exec funcs depth fuel st s).2.iters.map iterKey = s.iters.map iterKey :=
  ((sameIters_all funcs fuel).exec depth st).h s

/-- The condition test of `WHILEStatement::doit`: null counts as false. -/
def whileTest (v : Val) : Res Bool := if v.isNull then Res.ok false else v.asBool

/-- A null or false condition ends the while loop normally without running the body. -/
theorem whileLoop_false (cond : EvalM Val) (body : EvalM Flow) (k : Nat) (s s1 : St) (v : Val)
    (hc : cond s = (.ok v, s1)) (ht : whileTest v = .ok false) :
    whileLoop cond body (k + 1) s = (.ok .norm, s1) :=
  whileLoop_cond_false cond body k s s1 v hc ht

theorem whileLoop_break (cond : EvalM Val) (body : EvalM Flow) (k : Nat) (s s1 s2 : St) (v : Val)
    (hc : cond s = (.ok v, s1)) (ht : whileTest v = .ok true) (hb : body s1 = (.ok .brk, s2)) :
    whileLoop cond body (k + 1) s = (.ok .norm, s2) := by
  rw [whileLoop_cond_true hc ht, bind_app, hb]
  rfl

theorem whileLoop_return (cond : EvalM Val) (body : EvalM Flow) (k : Nat) (s s1 s2 : St) (v : Val)
    (hc : cond s = (.ok v, s1)) (ht : whileTest v = .ok true) (hb : body s1 = (.ok .ret, s2)) :
    whileLoop cond body (k + 1) s = (.ok .ret, s2) := by
  rw [whileLoop_cond_true hc ht, bind_app, hb]
  rfl

/-- `continue` (like a normal end of the body) goes back to the condition of this same loop. -/
theorem whileLoop_continue (cond : EvalM Val) (body : EvalM Flow) (k : Nat) (s s1 s2 : St) (v : Val) (fl : Flow)
    (hc : cond s = (.ok v, s1)) (ht : whileTest v = .ok true) (hb : body s1 = (.ok fl, s2)) (hfl : fl = .norm ∨ fl = .cont) :
    whileLoop cond body (k + 1) s = whileLoop cond body k s2 := by
  rw [whileLoop_cond_true hc ht, bind_app, hb]
  rcases hfl with rfl | rfl <;> rfl

theorem whileLoop_error (cond : EvalM Val) (body : EvalM Flow) (k : Nat) (s s1 s2 : St) (v : Val) (c : Nat) (a : Bytes)
    (hc : cond s = (.ok v, s1)) (ht : whileTest v = .ok true) (hb : body s1 = (.err c a, s2)) :
    whileLoop cond body (k + 1) s = (.err c a, s2) := by
  rw [whileLoop_cond_true hc ht, bind_app, hb]

theorem forallLoop_break (body : EvalM Flow) (it : String) (desc : Bool) (k : Nat) (s s1 : St)
    (hb : body s = (.ok .brk, s1)) : forallLoop body it desc (k + 1) s = (.ok .norm, s1) := by
  unfold forallLoop; simp only [bind_app, hb, pure_app]

theorem forallLoop_return (body : EvalM Flow) (it : String) (desc : Bool) (k : Nat) (s s1 : St)
    (hb : body s = (.ok .ret, s1)) : forallLoop body it desc (k + 1) s = (.ok .ret, s1) := by
  unfold forallLoop; simp only [bind_app, hb, pure_app]

/-- An error in the body ends the forall loop with that error (the control entry is then popped by `forallExit`). -/
theorem forallLoop_error (body : EvalM Flow) (it : String) (desc : Bool) (k : Nat) (s s1 : St) (c : Nat) (a : Bytes)
    (hb : body s = (.err c a, s1)) : forallLoop body it desc (k + 1) s = (.err c a, s1) := by
  unfold forallLoop; simp only [bind_app, hb]

/-- `Executable::run` stops at the first statement that ends with a pending break / continue / return: the rest of the list does not run and
the condition is handed to the enclosing construct (the innermost loop for break/continue). -/
theorem execList_stops (funcs : List Func) (depth fuel : Nat) (st : Stmt) (rest : List Stmt) (s s1 : St) (fl : Flow)
    (h : exec funcs depth fuel st s = (.ok fl, s1)) (hfl : fl ≠ .norm) :
    execList funcs depth (fuel + 1) (st :: rest) s = (.ok fl, s1) := by
  rw [execList_cons, h]
  exact if_neg (by simpa using hfl)

/-- A statement that ends normally is followed by the rest of the list, from the state it left. -/
theorem execList_continues (funcs : List Func) (depth fuel : Nat) (st : Stmt) (rest : List Stmt) (s s1 : St)
    (h : exec funcs depth fuel st s = (.ok .norm, s1)) :
    execList funcs depth (fuel + 1) (st :: rest) s = execList funcs depth fuel rest s1 :=
  execList_cons_norm rest h

/-- An error in a statement ends the list with that error. -/
theorem execList_error (funcs : List Func) (depth fuel : Nat) (st : Stmt) (rest : List Stmt) (s s1 : St) (c : Nat) (a : Bytes)
    (h : exec funcs depth fuel st s = (.err c a, s1)) :
    execList funcs depth (fuel + 1) (st :: rest) s = (.err c a, s1) := by
  rw [execList_cons, h]

/-! ## the compile-time lock: `QuietAlongF` holds for bodies the parser accepts

`lockL L body` (Model/Interp.lean) = the parser accepts `body` while the names `L` are locked (tied to Parser::parse by the check's
`lock` family). `Lemmas.lock_all`: such code never changes the number of elements of a table in `L`. With `sameIters_all` (the
loop's control entry stays in place) this gives `QuietAlongF` from the one thing that really is run-dependent: that the iterations end
normally or with `continue` (`EndsNormAlong`; a `break`, `return` or error cuts the traversal short by definition). -/

/-- **What the lock buys**: code accepted while `t` is locked leaves the number of elements of `t` alone — every statement list, fuel, depth,
state, outcome (error, break, out of fuel included). -/
theorem locked_code_keeps_table_length (funcs : List Func) (depth fuel : Nat) (t : String) (L : List String) (body : List Stmt) (s : St)
    (ht : t ∈ L) (hl : lockL L body = true) :
    tableSize (lookupVar (execList funcs depth fuel body s).2.vars t) = tableSize (lookupVar s.vars t) :=
  ((lock_all t funcs fuel).execList L depth body ht hl).h s

/-- every iteration of the traversal, run from the state the run reaches, ends normally or with `continue` -/
def EndsNormAlong (body : EvalM Flow) : St → List Nat → Prop
  | _, [] => True
  | s, [_] => (body s).1 = .ok .norm ∨ (body s).1 = .ok .cont
  | s, _ :: j :: rest => ((body s).1 = .ok .norm ∨ (body s).1 = .ok .cont) ∧ EndsNormAlong body (stepTo (bodySt body s) j) (j :: rest)

def LoopInv (it t : String) (n : Nat) (s : St) (i : Nat) : Prop :=
  ∃ b rest, s.iters = b :: rest ∧ b.it = it ∧ b.src = some t ∧ b.idx = i ∧ tableSize (lookupVar s.vars t) = n

theorem loopInv_body (funcs : List Func) (depth fuel : Nat) {stmts : List Stmt} {L : List String} {it t : String} {n : Nat}
    (ht : t ∈ L) (hl : lockL L stmts = true) {s : St} {i : Nat} (h : LoopInv it t n s i) :
    LoopInv it t n (execList funcs depth fuel stmts s).2 i := by
  obtain ⟨b, rest, hi, hit, hsrc, hidx, hn⟩ := h
  have hk : (execList funcs depth fuel stmts s).2.iters.map iterKey = s.iters.map iterKey :=
    ((sameIters_all funcs fuel).execList depth stmts).h s
  rw [hi] at hk
  obtain ⟨b', rest', hi', hkey, -⟩ := List.map_eq_cons_iff.mp hk
  simp only [iterKey, Prod.mk.injEq] at hkey
  exact ⟨b', rest', hi', hkey.1.trans hit, hkey.2.1.trans hsrc, hkey.2.2.1.trans hidx,
    (locked_code_keeps_table_length funcs depth fuel t L stmts s ht hl).trans hn⟩

/-- **`QuietAlongF` from the lock**: for a body the parser accepts under the lock of `t`, the run-local quietness of C06's traversal theorems
follows from "every iteration ends normally or with continue". -/
theorem quietAlongF_of_lock {funcs : List Func} {depth fuel : Nat} {stmts : List Stmt} {L : List String} {it t : String} {n : Nat}
    (ht : t ∈ L) (hl : lockL L stmts = true) :
    ∀ {is : List Nat} {i : Nat} {s : St}, LoopInv it t n s i →
      EndsNormAlong (execList funcs depth fuel stmts) s (i :: is) → QuietAlongF (execList funcs depth fuel stmts) it n s (i :: is) := by
  have hat : ∀ {s : St} {i : Nat}, LoopInv it t n s i →
      ((execList funcs depth fuel stmts s).1 = .ok .norm ∨ (execList funcs depth fuel stmts s).1 = .ok .cont) →
      QuietAtF (execList funcs depth fuel stmts) it n s i := by
    intro s i hinv hfl
    obtain ⟨b', rest', hi', hit', hsrc', hidx', hn'⟩ := loopInv_body funcs depth fuel ht hl hinv
    exact ⟨hfl, b', rest', hi', hit', hidx', iterTable_src hsrc' ▸ hn'⟩
  intro is
  induction is with
  | nil => exact hat
  | cons j rest ih =>
    intro i s hinv he
    obtain ⟨b, rest', hi, hit, hsrc, -, hn⟩ := loopInv_body funcs depth fuel ht hl hinv
    exact ⟨hat hinv he.1, ih ⟨{ b with idx := j }, rest', by rw [stepTo, bodySt, hi], hit, hsrc, rfl, hn⟩ he.2⟩

/-- **forall visits every element once, in the requested order — for every body the parser accepts** (statement level, table variable):
`exec_forall_var_visits` with the hypothesis `QuietAlongF` replaced by (1) `lockL L body` for some lock set containing `t` — what
Parser::parse enforces for the body of `forall it in t` — and (2) every iteration ends normally or with `continue`. -/
theorem exec_forall_var_visits_locked (funcs : List Func) (depth fuel : Nat) (it t : String) (dir : Dir) (body : List Stmt)
    (s : St) (ty : Ty) (d : List Ty) (es : List Val) (L : List String) (hbud : s.budget ≠ 0)
    (ht : lookupVar s.vars t = .tab ty d es) (hl : (ty.level == 0) = false) (hne : es ≠ [])
    (hit : s.iters.any (·.it == it) = false) (htt : s.iters.any (·.it == t) = false)
    (hfuel : es.length < fuel + 1)
    (htL : t ∈ L) (hlock : lockL L body = true)
    (hn : EndsNormAlong (execList funcs depth (fuel + 1) body)
      { tick s with iters := forallEntry s it t (dir == .desc) es.length :: s.iters } (forallOrder (dir == .desc) es.length)) :
    exec funcs depth (fuel + 2) (.forallS it (.var t) dir body) s =
      forallExit it (.ok .norm, runOverF (execList funcs depth (fuel + 1) body)
        { tick s with iters := forallEntry s it t (dir == .desc) es.length :: s.iters } (forallOrder (dir == .desc) es.length)) := by
  have hpos : 0 < es.length := List.length_pos_iff.mpr hne
  apply exec_forall_var_visits funcs depth fuel it t dir body s ty d es hbud ht hl hne hit htt hfuel
  rw [← forallTrace_first hpos hfuel, forallTrace] at hn ⊢
  refine quietAlongF_of_lock htL hlock ⟨_, _, rfl, rfl, rfl, rfl, ?_⟩ hn
  show tableSize (lookupVar s.vars t) = es.length
  rw [ht]; rfl

/-- hypotheses of `exec_forall_var_visits_locked` at work: `forall e in t loop print e; x = t.count(); end loop` over a 2-element table -/
example : exec [] 0 8 (.forallS "e" (.var "t") .auto [.printS [.var "e"], .letS "x" (.member .count (.var "t") [])])
      { vars := [("t", .tab { major := .int, level := 1 } [] [.int 4, .int 5])] } =
    forallExit "e" (.ok .norm, runOverF (execList [] 0 7 [.printS [.var "e"], .letS "x" (.member .count (.var "t") [])])
      { tick { vars := [("t", .tab { major := .int, level := 1 } [] [.int 4, .int 5])] } with
        iters := [forallEntry { vars := [("t", .tab { major := .int, level := 1 } [] [.int 4, .int 5])] } "e" "t" false 2] } [0, 1]) :=
  exec_forall_var_visits_locked [] 0 6 "e" "t" .auto _ _ { major := .int, level := 1 } [] [.int 4, .int 5] ["t"] (by decide) (by with_unfolding_all rfl) (by decide) (by decide)
    (by decide) (by decide) (by decide) (by decide) (by decide +kernel)
    ⟨Or.inl (by decide +kernel), Or.inl (by decide +kernel)⟩

/-- **A loop never takes back what was printed**: for every statement — `for`, `while`, `forall` with any body, left by any route
(end of range, break, return, error, out of fuel) — the output afterwards is the output before plus what the iterations printed
(`Lemmas.frame_all` for `OutGrows`); the `for`/`while` control entries a run could leave behind are as before. -/
theorem statement_output_only_grows (funcs : List Func) (depth fuel : Nat) (st : Stmt) (s : St) :
    (∃ t : Bytes, (exec funcs depth fuel st s).2.output = s.output ++ t) ∧ (exec funcs depth fuel st s).2.ctl = s.ctl :=
  ⟨output_prefix_of_outGrows (((frame_all outGrows_frame funcs fuel).exec depth st).h s),
   ((frame_all sameCtl_frame funcs fuel).exec depth st).h s⟩

/-- `for i in 1 to 3 loop print i; if i == 2 then raise E; end if; end loop` after `print "x"`: the error leaves `x 1 2` printed -/
example : (execList [] 0 30 [.printS [.lit (.str [120])], .forS "i" (.lit (.int 1)) (.lit (.int 3)) none .auto
      [.printS [.var "i"], .ifS [(some (.bin .eq (.var "i") (.lit (.int 2))), [.raiseS "E"])]]] {}).2.output = [120, 10, 49, 10, 50, 10] := by decide +kernel
end BlocV.C06
