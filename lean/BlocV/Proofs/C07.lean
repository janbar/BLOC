/-
  C07 — errors reach the nearest matching handler and leave no residue once handled. Model (Model/Interp.lean): `execBlock` / `catchMatches` /
  `exec` / `callFunc`, transcriptions of BEGINStatement::doit/docatch, RAISEStatement::doit, RuntimeError::THROWABLES (generated table),
  Context::onRuntimeError (loops of the interrupted region are unstacked: `forallExit`), FunctorExpression::value.
  `error@1/@2/@3`: `Expr.errorE` / `Expr.item` read the context's record `St.lastErr`; `execBlock` = docatch sets it when a clause is entered,
  `handlerExit` sets it back to what it was on entry of the block when the clause ends without error; a called function starts with a clear
  record (`calleeInit`). Clause tables: notes/NOTES-p0608.md, notes/NOTES-INT.md.
-/
import BlocV.Proofs.Lemmas.ErrRec
import BlocV.Proofs.Lemmas.InterpEqns

namespace BlocV.C07
open BlocV.Lemmas

/-- The catchable built-in errors are exactly OUT_OF_RANGE and DIVIDE_BY_ZERO (generated from
`RuntimeError::THROWABLES` on every run). -/
theorem catchable_set : Gen.throwables = [(Gen.EXC_RT_OUT_OF_RANGE, "OUT_OF_RANGE"), (Gen.EXC_RT_DIVIDE_BY_ZERO, "DIVIDE_BY_ZERO")] := by
  decide

/-- `when others` matches exactly the three kinds: a user-raised name, OUT_OF_RANGE, DIVIDE_BY_ZERO. -/
theorem others_matches_iff (code : Nat) (arg : Bytes) :
    catchMatches "OTHERS" code arg = true ↔
      (code = Gen.EXC_RT_USER_S ∨ code = Gen.EXC_RT_OUT_OF_RANGE ∨ code = Gen.EXC_RT_DIVIDE_BY_ZERO) := by
  have hft : findThrowable "OTHERS" = Gen.EXC_RT_USER_S := by decide
  simp only [catchMatches, hft, isThrowable_iff, beq_self_eq_true, Bool.true_and, bne_self_eq_false, Bool.false_or, Bool.or_eq_true,
    Bool.and_eq_true, beq_iff_eq]
  exact ⟨fun h => h.elim id fun h => Or.inl h.1.symm, Or.inl⟩

/-- A clause naming a built-in catchable error matches exactly that error. -/
theorem builtin_clause_matches :
    (∀ code arg, catchMatches "DIVIDE_BY_ZERO" code arg = true ↔ code = Gen.EXC_RT_DIVIDE_BY_ZERO) ∧
    (∀ code arg, catchMatches "OUT_OF_RANGE" code arg = true ↔ code = Gen.EXC_RT_OUT_OF_RANGE) :=
  ⟨catchMatches_builtin "DIVIDE_BY_ZERO" _ (by decide) (by decide) (by decide),
   catchMatches_builtin "OUT_OF_RANGE" _ (by decide) (by decide) (by decide)⟩

/-- Handler selection: when the body of a block raises error (c, a), the FIRST clause (in text order)
that matches runs, from the state the error left with the error saved as the context's record (what `error` reads);
its outcome — value, break/continue/return, or a new error — is the outcome of the block; when the clause ends without error the
record is set back to what it was when the BLOCK was entered (`handlerExit s.lastErr`, repo 8256736). -/
theorem handler_selection (funcs : List Func) (depth fuel : Nat) (body : List Stmt) (catches : List (String × List Stmt))
    (s s' : St) (c : Nat) (a : Bytes) (n : String) (h : List Stmt)
    (hb : execList funcs depth fuel body s = (.err c a, s')) (hc : (c == oofCode) = false)
    (hm : catches.find? (fun cl => catchMatches cl.1 c a) = some (n, h)) :
    execBlock funcs depth (fuel + 1) body catches s = handlerExit s.lastErr (execList funcs depth fuel h { s' with lastErr := (c, a) }) := by
  simp [execBlock, hb, hc, hm]

theorem unmatched_propagates (funcs : List Func) (depth fuel : Nat) (body : List Stmt) (catches : List (String × List Stmt))
    (s s' : St) (c : Nat) (a : Bytes)
    (hb : execList funcs depth fuel body s = (.err c a, s'))
    (hm : catches.find? (fun cl => catchMatches cl.1 c a) = none) :
    execBlock funcs depth (fuel + 1) body catches s = (.err c a, s') := by
  simp [execBlock, hb, hm]

theorem no_error_no_handler (funcs : List Func) (depth fuel : Nat) (body : List Stmt) (catches : List (String × List Stmt))
    (s s' : St) (fl : Flow) (hb : execList funcs depth fuel body s = (.ok fl, s')) :
    execBlock funcs depth (fuel + 1) body catches s = (.ok fl, s') := by
  simp [execBlock, hb]

/-- Errors other than the three catchable kinds are matched by no clause at all, whatever its name
is — they always reach the host. (No condition on `n`: a name outside `THROWABLES`, the keyword of an uncatchable code included, is
a user name for `findThrowable` — `findThrowable_cases` — and `others` asks for one of the three kinds.) -/
theorem uncatchable_reaches_host (n : String) (code : Nat) (arg : Bytes)
    (hu : code ≠ Gen.EXC_RT_USER_S) (h1 : code ≠ Gen.EXC_RT_OUT_OF_RANGE) (h2 : code ≠ Gen.EXC_RT_DIVIDE_BY_ZERO) :
    catchMatches n code arg = false := by
  have hthr : isThrowable code = false := by simpa [← Bool.not_eq_true, isThrowable_iff] using ⟨h1, h2⟩
  have hne : findThrowable n ≠ code := by rcases findThrowable_cases n with h | h | h <;> rw [h] <;> exact Ne.symm ‹_›
  simp [catchMatches, hthr, hu, hne]

example : catchMatches "E1" Gen.EXC_RT_USER_S (nameBytes "E1") = true := by decide
example : catchMatches "E1" Gen.EXC_RT_USER_S (nameBytes "E2") = false := by decide
example : catchMatches "OTHERS" Gen.EXC_RT_STRING_TO_NUM [] = false := by decide

/-- **Nearest enclosing handler, inner block without a matching clause**: an error raised in the body of an inner block
that has no matching `when` clause leaves that block unchanged and is handled by the FIRST matching clause of the next
enclosing block, from the state the error left; the statements after the inner block do not run. -/
theorem inner_unmatched_reaches_outer (funcs : List Func) (depth fuel : Nat) (ibody rest : List Stmt)
    (icatches ocatches : List (String × List Stmt)) (s s' : St) (c : Nat) (a : Bytes) (n : String) (h : List Stmt)
    (hbud : s.budget ≠ 0)
    (hb : execList funcs depth fuel ibody (tick s) = (.err c a, s')) (hc : (c == oofCode) = false)
    (hin : icatches.find? (fun cl => catchMatches cl.1 c a) = none)
    (hout : ocatches.find? (fun cl => catchMatches cl.1 c a) = some (n, h)) :
    execBlock funcs depth (fuel + 4) (.beginS ibody icatches :: rest) ocatches s =
      handlerExit s.lastErr (execList funcs depth (fuel + 3) h { s' with lastErr := (c, a) }) := by
  refine handler_selection funcs depth (fuel + 3) _ ocatches s s' c a n h ?_ hc hout
  rw [execList_cons, exec_beginS funcs depth (fuel + 1) hbud, unmatched_propagates funcs depth fuel ibody icatches _ s' c a hb hin]

/-- **Nearest enclosing handler, inner block with a matching clause**: the inner block's first matching clause runs;
the enclosing block only sees the outcome of that handler (a value, a Flow, or a new error raised by the handler). -/
theorem inner_matching_handles (funcs : List Func) (depth fuel : Nat) (ibody : List Stmt)
    (icatches : List (String × List Stmt)) (s s' : St) (c : Nat) (a : Bytes) (n : String) (h : List Stmt)
    (hbud : s.budget ≠ 0)
    (hb : execList funcs depth fuel ibody (tick s) = (.err c a, s')) (hc : (c == oofCode) = false)
    (hin : icatches.find? (fun cl => catchMatches cl.1 c a) = some (n, h)) :
    exec funcs depth (fuel + 2) (.beginS ibody icatches) s = handlerExit s.lastErr (execList funcs depth fuel h { s' with lastErr := (c, a) }) := by
  rw [exec_beginS funcs depth (fuel + 1) hbud ibody icatches]
  exact handler_selection funcs depth fuel ibody icatches _ s' c a n h hb hc hin

/-- **An error inside a called function reaches the caller's block**: when the callee's own block (body + its `exception`
clauses, which get the first chance) ends with error (c, a), the call expression fails with (c, a) in the caller — whose
variables are untouched, only output and budget are carried over —, the statement containing the call fails, and the first
matching clause of the caller's enclosing block runs. -/
theorem error_in_callee_reaches_callers_block (funcs : List Func) (depth fuel : Nat) (name : String) (args : List Expr)
    (rest : List Stmt) (catches : List (String × List Stmt)) (s s1 sc : St) (f : Func) (vals : List Val)
    (c : Nat) (a : Bytes) (n : String) (h : List Stmt) (hbud : s.budget ≠ 0)
    (hf : funcs.find? (fun f => f.name == name && f.params.length == args.length) = some f)
    (hd : (depth == Gen.RECURSION_LIMIT) = false)
    (ha : evalArgs funcs depth fuel args (tick s) = (.ok vals, s1))
    (hcallee : execBlock funcs (depth + 1) fuel f.body f.catches (calleeInit f vals s1) = (.err c a, sc))
    (hc : (c == oofCode) = false)
    (hm : catches.find? (fun cl => catchMatches cl.1 c a) = some (n, h)) :
    execBlock funcs depth (fuel + 5) (.doS (.fcall name args) :: rest) catches s =
      handlerExit s.lastErr (execList funcs depth (fuel + 4) h
        { s1 with out := sc.out, budget := sc.budget, lastErr := (c, a) }) := by
  refine handler_selection funcs depth (fuel + 4) _ catches s { s1 with out := sc.out, budget := sc.budget } c a n h ?_ hc hm
  rw [execList_cons, exec_doS funcs depth (fuel + 2) hbud, bind_app, eval_fcall,
    callFunc_unfold hf hd ha, hcallee]
  rfl

/-- **No residue: control stack.** Whatever a block does — ends normally, with break/continue/return, handles an error in a
`when` clause (also when that handler fails in turn), or lets an error through — the stack of running `forall` loops after the
block is entry by entry (iterator name, traversed variable, index, saved type, lock flag) the one before it: every loop entered
inside the interrupted region has been closed, no iterator constraint and no table lock is left behind. Holds for every fuel and
outcome, incl. hazards and out-of-fuel. (Model of `Context::onRuntimeError` + `unstackControl`;
`Lemmas.sameIters_all`, an instance of the interpreter's induction `Lemmas.interp_all`.) -/
theorem no_residue_control_stack (funcs : List Func) (depth fuel : Nat) (body : List Stmt) (catches : List (String × List Stmt)) (s : St) :
    (execBlock funcs depth fuel body catches s).2.iters.map iterKey = s.iters.map iterKey :=
  ((sameIters_all funcs fuel).execBlock depth body catches).h s

/-- The same for a whole program handed to `Executable::run` (handled, reported or no error at all): a run that starts with an
empty control stack ends with an empty control stack. -/
theorem no_residue_after_run (funcs : List Func) (depth fuel : Nat) (prog : List Stmt) (s : St) (h0 : s.iters = []) :
    (execList funcs depth fuel prog s).2.iters = [] := by
  have := ((sameIters_all funcs fuel).execList depth prog).h s
  unfold SameIters at this
  rw [h0] at this
  simpa using this

/-- **No residue: pending break / continue / return.** In the model a pending condition is not state at all: it is the `Flow`
value a statement returns (`St` has no flag field — only `returned`, the value saved by `return`, which is read only together
with a `ret` Flow). So after a handled error the only pending condition is the one the handler itself produced: the block's
Flow IS the handler's Flow, and the interrupted body's conditions are gone with its (error) result. -/
theorem handled_flow_is_handlers_flow (funcs : List Func) (depth fuel : Nat) (body : List Stmt) (catches : List (String × List Stmt))
    (s s' : St) (c : Nat) (a : Bytes) (n : String) (h : List Stmt)
    (hb : execList funcs depth fuel body s = (.err c a, s')) (hc : (c == oofCode) = false)
    (hm : catches.find? (fun cl => catchMatches cl.1 c a) = some (n, h)) :
    (execBlock funcs depth (fuel + 1) body catches s).1 = (execList funcs depth fuel h { s' with lastErr := (c, a) }).1 := by
  rw [handler_selection funcs depth fuel body catches s s' c a n h hb hc hm, handlerExit_fst]

/-- **The same context runs further code**: when the handler ends normally, execution continues with the statement after the
block, from the handler's final state — an ordinary state (variables assigned before the error keep their values, output
printed so far stays), nothing else is remembered. -/
theorem continues_after_handled (funcs : List Func) (depth fuel : Nat) (body rest : List Stmt) (catches : List (String × List Stmt))
    (s s' s2 : St) (c : Nat) (a : Bytes) (n : String) (h : List Stmt) (hbud : s.budget ≠ 0)
    (hb : execList funcs depth fuel body (tick s) = (.err c a, s')) (hc : (c == oofCode) = false)
    (hm : catches.find? (fun cl => catchMatches cl.1 c a) = some (n, h))
    (hh : execList funcs depth fuel h { s' with lastErr := (c, a) } = (.ok .norm, s2)) :
    execList funcs depth (fuel + 3) (.beginS body catches :: rest) s =
      execList funcs depth (fuel + 2) rest { s2 with lastErr := s.lastErr } := by
  have h1 := inner_matching_handles funcs depth fuel body catches s s' c a n h hbud hb hc hm
  rw [hh, handlerExit_ok] at h1
  exact execList_cons_norm rest h1

/-- `raise NAME` for a user-defined name fails with the user code and the name as argument; for the two built-in throwable names
with their own code (RAISEStatement::doit). Nothing else changes (one unit of budget). -/
theorem raise_outcome (funcs : List Func) (depth fuel : Nat) (name : String) (s : St) (hbud : s.budget ≠ 0) :
    exec funcs depth (fuel + 1) (.raiseS name) s =
      if findThrowable name == Gen.EXC_RT_USER_S then (.err Gen.EXC_RT_USER_S (nameBytes name), tick s)
      else (.err (findThrowable name) [], tick s) := by
  rw [exec_raiseS funcs depth fuel hbud]
  split <;> simp_all [failE]

/-- A user-raised name is matched by the clause of the same name (and by `others`, see `others_matches_iff`). -/
theorem user_raise_matches_same_name (n : String) (h : findThrowable n = Gen.EXC_RT_USER_S) :
    catchMatches n Gen.EXC_RT_USER_S (nameBytes n) = true := by
  unfold catchMatches; simp [h]

/-- … and by no clause with a different (user) name. -/
theorem user_raise_not_matched_by_other_name (n m : String) (hn : findThrowable n = Gen.EXC_RT_USER_S)
    (hne : nameBytes n ≠ nameBytes m) (ho : (n == "OTHERS") = false) :
    catchMatches n Gen.EXC_RT_USER_S (nameBytes m) = false := by
  unfold catchMatches; simp [hn, ho, hne]

/-! ## the error record: `error@1`, `error@2`, `error@3`

`error` (ERRORExpression::value) reads the context's `_last_error` = `St.lastErr`; `docatch` = `execBlock` sets it when a clause is
entered (`handler_selection`) and sets it back to the record of the block's entry when the clause ends without error (`handlerExit`). -/

/-- **`error` of a user exception**: name and message are the raised name (its bytes up to the buffer size; a name is an
identifier: no NUL, and here at most 255 bytes — longer ones are cut by `what()`'s buffer), the code is EXC_RT_USER_S = 1. -/
theorem error_of_user_raise (a : Bytes) (h0 : ∀ b ∈ a, b ≠ 0) (hlen : a.length ≤ 255) :
    errorTuple (Gen.EXC_RT_USER_S, a) = .ok (.tup errDecl [.str a, .str a, .int 1]) := by
  have hfmt : Gen.rtMessages[Gen.EXC_RT_USER_S]? = some "%s" := by decide
  have hb : ("%s" : String).toUTF8.toList = [37, 115] := by decide +kernel
  have htw : a.takeWhile (· != 0) = a := by
    simpa using List.takeWhile_append_of_pos (l₂ := []) (p := (· != 0)) fun b hb => bne_iff_ne.mpr (h0 b hb)
  have hneq : (Gen.EXC_RT_USER_S == Gen.EXC_RT_NOERROR) = false := by decide
  unfold errorTuple errWhat
  simp only [hneq, Bool.false_eq_true, if_false, hfmt, hb, htw, fmtS, beq_self_eq_true, Bool.and_self, if_true, List.append_nil]
  rw [List.take_of_length_le (by simpa [Gen.WHAT_BUFFER] using hlen)]
  rfl

/-- **`error` of the two catchable built-in errors**: `@1` is the throwable's keyword, `@2` the message of the generated table,
`@3` the code — whatever argument the error carries. -/
theorem error_of_builtin_throwable (a : Bytes) :
    errorTuple (Gen.EXC_RT_DIVIDE_BY_ZERO, a) =
      .ok (.tup errDecl [.str "DIVIDE_BY_ZERO".toUTF8.toList, .str "Divide by zero.".toUTF8.toList, .int 23]) ∧
    errorTuple (Gen.EXC_RT_OUT_OF_RANGE, a) =
      .ok (.tup errDecl [.str "OUT_OF_RANGE".toUTF8.toList, .str "Out of range.".toUTF8.toList, .int 21]) := by
  have w1 : errWhat (Gen.EXC_RT_DIVIDE_BY_ZERO, a) = .ok "Divide by zero.".toUTF8.toList :=
    (errWhat_plain _ a "Divide by zero." (by decide) (by decide +kernel)).trans (by decide +kernel)
  have w2 : errWhat (Gen.EXC_RT_OUT_OF_RANGE, a) = .ok "Out of range.".toUTF8.toList :=
    (errWhat_plain _ a "Out of range." (by decide) (by decide +kernel)).trans (by decide +kernel)
  have k1 : throwableKeyword Gen.EXC_RT_DIVIDE_BY_ZERO = "DIVIDE_BY_ZERO".toUTF8.toList := by decide +kernel
  have k2 : throwableKeyword Gen.EXC_RT_OUT_OF_RANGE = "OUT_OF_RANGE".toUTF8.toList := by decide +kernel
  constructor
  · rw [errorTuple, w1, ← k1]; rfl
  · rw [errorTuple, w2, ← k2]; rfl

/-- with no error recorded `error` is ("", "", 0) — what a program reads before any clause of its context has been entered, and what a
called function reads when it starts (`calleeInit`) -/
theorem error_of_clear_record : errorTuple LastErr.clear = .ok (.tup errDecl [.str [], .str [], .int 0]) := by rfl

/-- `error@N` for N = 1, 2, 3 is the N-th component of the record's tuple; the state is left alone. -/
theorem eval_error_item (funcs : List Func) (depth fuel : Nat) (s : St) (x1 x2 x3 : Val)
    (hx : errorTuple s.lastErr = .ok (.tup errDecl [x1, x2, x3])) :
    eval funcs depth (fuel + 2) (.item .errorE 1) s = (.ok x1, s) ∧
    eval funcs depth (fuel + 2) (.item .errorE 2) s = (.ok x2, s) ∧
    eval funcs depth (fuel + 2) (.item .errorE 3) s = (.ok x3, s) := by
  have e : eval funcs depth (fuel + 1) .errorE s = (.ok (.tup errDecl [x1, x2, x3]), s) := by rw [eval_error, hx]
  refine ⟨?_, ?_, ?_⟩ <;>
    simp [eval, itemAt, itemNo, liftR, bind, e, monadLift, MonadLift.monadLift, itemAtV, itemIndex, Val.isNull, errDecl, liftM]

/-- **In the first matching clause `error` describes the error that was raised**: the clause starts in the state the error left,
with that error as the record; there `error` evaluates to `errorTuple (c, a)` — for a user exception (name, name, 1), for
DIVIDE_BY_ZERO / OUT_OF_RANGE (keyword, message, code) by the theorems above. -/
theorem handler_sees_its_error (funcs : List Func) (depth fuel k : Nat) (body : List Stmt) (catches : List (String × List Stmt))
    (s s' : St) (c : Nat) (a : Bytes) (n : String) (h : List Stmt)
    (hb : execList funcs depth fuel body s = (.err c a, s')) (hc : (c == oofCode) = false)
    (hm : catches.find? (fun cl => catchMatches cl.1 c a) = some (n, h)) :
    execBlock funcs depth (fuel + 1) body catches s = handlerExit s.lastErr (execList funcs depth fuel h { s' with lastErr := (c, a) }) ∧
    eval funcs depth (k + 1) .errorE { s' with lastErr := (c, a) } = (errorTuple (c, a), { s' with lastErr := (c, a) }) :=
  ⟨handler_selection funcs depth fuel body catches s s' c a n h hb hc hm, eval_error funcs depth k _⟩

/-- **An inner block that handles an error of its own RESTORES the record** (repo 72036d1 + 8256736): when its clause ends without
error the record is again what it was when the inner block was ENTERED — whatever the failing inner body and the clause did to it in
between (a clause of the body that failed leaves its own error behind: that is not what is restored) —, so an enclosing clause that is
still running reads ITS error again: `error@N` describes the clause's error before and after the inner block. -/
theorem inner_handled_error_restores_record (funcs : List Func) (depth fuel : Nat) (ibody : List Stmt)
    (icatches : List (String × List Stmt)) (s s' s2 : St) (c : Nat) (a : Bytes) (n : String) (h : List Stmt) (fl : Flow)
    (hbud : s.budget ≠ 0)
    (hb : execList funcs depth fuel ibody (tick s) = (.err c a, s')) (hc : (c == oofCode) = false)
    (hin : icatches.find? (fun cl => catchMatches cl.1 c a) = some (n, h))
    (hh : execList funcs depth fuel h { s' with lastErr := (c, a) } = (.ok fl, s2)) :
    exec funcs depth (fuel + 2) (.beginS ibody icatches) s = (.ok fl, { s2 with lastErr := s.lastErr }) ∧
    (exec funcs depth (fuel + 2) (.beginS ibody icatches) s).2.lastErr = s.lastErr := by
  have e : exec funcs depth (fuel + 2) (.beginS ibody icatches) s = (.ok fl, { s2 with lastErr := s.lastErr }) := by
    rw [inner_matching_handles funcs depth fuel ibody icatches s s' c a n h hbud hb hc hin, hh, handlerExit_ok]
  exact ⟨e, by rw [e]⟩

/-- **No clause entered ⇒ record unchanged** (every outcome): statements without exception clauses — loops, conditionals, blocks without
clauses, calls of functions WITH clauses of their own — leave the context's error record exactly as they found it, whether they end
normally, with break/continue/return, with an error, a hazard or out of fuel (`Lemmas.err_all`: `Lemmas.interp_all` for `KeepErr`). So does every
expression. -/
theorem record_kept_without_clauses (funcs : List Func) (depth fuel : Nat) (body : List Stmt) (s : St) (hb : noClauseL body = true) :
    (execList funcs depth fuel body s).2.lastErr = s.lastErr :=
  ((err_all funcs fuel).execList depth body hb).h s

theorem expression_keeps_record (funcs : List Func) (depth fuel : Nat) (e : Expr) (s : St) :
    (eval funcs depth fuel e s).2.lastErr = s.lastErr :=
  ((err_all funcs fuel).eval depth e).h s

/-- **Inside a clause `error@N` describes the clause's error before and after an inner block that handles an error of its own**: when
the inner block's body fails and its first matching clause ends without error, the record after the block is the record before it. -/
theorem inner_block_keeps_enclosing_record (funcs : List Func) (depth fuel : Nat) (ibody : List Stmt)
    (icatches : List (String × List Stmt)) (s s' s2 : St) (c : Nat) (a : Bytes) (n : String) (h : List Stmt) (fl : Flow)
    (hbud : s.budget ≠ 0)
    (hb : execList funcs depth fuel ibody (tick s) = (.err c a, s')) (hc : (c == oofCode) = false)
    (hin : icatches.find? (fun cl => catchMatches cl.1 c a) = some (n, h))
    (hh : execList funcs depth fuel h { s' with lastErr := (c, a) } = (.ok fl, s2)) :
    (exec funcs depth (fuel + 2) (.beginS ibody icatches) s).2.lastErr = s.lastErr :=
  (inner_handled_error_restores_record funcs depth fuel ibody icatches s s' s2 c a n h fl hbud hb hc hin hh).2

/-- **FULL STATEMENT — code that ends without error leaves the error record alone**: for EVERY statement list (any nesting of blocks,
clauses that fail and are handled further out, loops, calls), every state and every fuel, when the run ends without error (normally or
with a pending break/continue/return) the record is what it was at the start (`Lemmas.ok_all`: `Lemmas.interp_all` for `OkKeeps`). It rests on `outer` being
taken on entry of the block (repo 8256736); regression witness: `record_restored_after_failed_inner_clause_witness`. -/
theorem ok_run_keeps_record (funcs : List Func) (depth fuel : Nat) (body : List Stmt) (s s2 : St) (fl : Flow)
    (hrun : execList funcs depth fuel body s = (.ok fl, s2)) : s2.lastErr = s.lastErr :=
  ((ok_all funcs fuel).execList depth body).h s fl s2 hrun

/-- **Inside a clause `error@N` describes the clause's error at EVERY point** of its body, whatever inner blocks handled errors of
their own before that point, nested however deep inside their clauses, whether or not clauses of theirs failed. `pre` is any prefix of the
clause body that ended normally (or with a pending break/continue/return) from the state `st0` in which the clause started (record = the
clause's error (c, a), `handler_selection`): at that point `error` still evaluates to `errorTuple (c, a)`. -/
theorem error_describes_clause_error_at_every_point (funcs : List Func) (depth fuel k : Nat) (pre : List Stmt) (st0 s1 : St)
    (c : Nat) (a : Bytes) (fl : Flow) (h0 : st0.lastErr = (c, a))
    (hrun : execList funcs depth fuel pre st0 = (.ok fl, s1)) :
    eval funcs depth (k + 1) .errorE s1 = (errorTuple (c, a), s1) := by
  have hk : s1.lastErr = st0.lastErr := ok_run_keeps_record funcs depth fuel pre st0 s1 fl hrun
  rw [eval_error, hk, h0]

/-- a run: the clause of E1 runs `begin raise E2; exception when E2 then begin raise E3; exception when E3 then nop; end; end;` (a block
whose clause holds another block) and then `print error@1` still prints E1 -/
example : (execList [] 0 40 [.beginS [.raiseS "E1"] [("E1", [.beginS [.raiseS "E2"] [("E2", [.beginS [.raiseS "E3"] [("E3", [.nop])]])],
      .printS [.item .errorE 1]])]] {}).2.out = [[10], [69, 49]] := by decide +kernel

/-- regression witness of finding C07.error_record_cleared_by_inner_handler (fixed in 72036d1): `begin raise E1; exception when E1 then
print error@1 error@3; begin raise E2; exception when E2 then nop; end; print error@1 error@3; end;` prints `E11` twice. -/
theorem outer_handler_keeps_its_error_witness :
    (execList [] 0 30 [.beginS [.raiseS "E1"] [("E1", [.printS [.item .errorE 1, .item .errorE 3],
        .beginS [.raiseS "E2"] [("E2", [.nop])], .printS [.item .errorE 1, .item .errorE 3]])]] {}).2.out =
      [[10], [49], [69, 49], [10], [49], [69, 49]] := by decide +kernel

/-- regression witness of finding C07.error_record_stale_after_failed_inner_clause (fixed in 8256736): inside the clause of E0 a block
whose body's inner clause (of E1) fails with E2 handles E2; afterwards the clause of E0 reads E0 again: `begin raise E0; exception when
E0 then print error@1; begin begin raise E1; exception when E1 then raise E2; end; exception when E2 then print error@1; end;
print error@1; end;` prints E0, E2, E0. -/
theorem record_restored_after_failed_inner_clause_witness :
    (execList [] 0 40 [.beginS [.raiseS "E0"] [("E0", [.printS [.item .errorE 1],
        .beginS [.beginS [.raiseS "E1"] [("E1", [.raiseS "E2"])]] [("E2", [.printS [.item .errorE 1]])],
        .printS [.item .errorE 1]])]] {}).2.out =
      [[10], [69, 48], [10], [69, 50], [10], [69, 48]] := by decide +kernel

/-- **A clause that fails**: the block ends with the clause's error, in the state the clause left — `handlerExit` does not touch a failing
outcome, so the record is not set back ("kept for debug"; the clause started with the record (c, a)). -/
theorem failed_handler_keeps_record (funcs : List Func) (depth fuel : Nat) (body : List Stmt) (catches : List (String × List Stmt))
    (s s' s2 : St) (c c2 : Nat) (a a2 : Bytes) (n : String) (h : List Stmt)
    (hb : execList funcs depth fuel body s = (.err c a, s')) (hc : (c == oofCode) = false)
    (hm : catches.find? (fun cl => catchMatches cl.1 c a) = some (n, h))
    (hh : execList funcs depth fuel h { s' with lastErr := (c, a) } = (.err c2 a2, s2)) :
    execBlock funcs depth (fuel + 1) body catches s = (.err c2 a2, s2) := by
  rw [handler_selection funcs depth fuel body catches s s' c a n h hb hc hm, hh, handlerExit_err]

/-- a run: `begin raise E1; exception when E1 then raise E2; end` ends with the error E2 and the record (1, "E1") -/
example : (let r := execList [] 0 20 [.beginS [.raiseS "E1"] [("E1", [.raiseS "E2"])]] {}
    (match r.1 with | .err c a => c == 1 && a == [69, 50] | _ => false, r.2.lastErr)) = (true, (1, [69, 49])) := by decide +kernel

/-- a user raise caught by its clause: `error@1`, `error@2` are the name, `error@3` is 1; DIVIDE_BY_ZERO caught by `others` -/
example : (execList [] 0 30 [.beginS [.raiseS "BOOM"] [("BOOM", [.printS [.item .errorE 1, .item .errorE 2, .item .errorE 3]])],
      .beginS [.doS (.bin .div (.lit (.int 1)) (.lit (.int 0)))] [("OTHERS", [.printS [.item .errorE 1, .item .errorE 3]])]] {}).2.out =
    [[10], [50, 51], "DIVIDE_BY_ZERO".toUTF8.toList, [10], [49], [66, 79, 79, 77], [66, 79, 79, 77]] := by decide +kernel

/-- **Output only grows**: whatever a statement list does — ends normally, fails, handles errors, calls functions, runs out of
fuel — the output after it is the output before it plus what was printed since (`Lemmas.frame_all` for `OutGrows`). -/
theorem output_only_grows (funcs : List Func) (depth fuel : Nat) (prog : List Stmt) (s : St) :
    ∃ t : Bytes, (execList funcs depth fuel prog s).2.output = s.output ++ t :=
  output_prefix_of_outGrows (((frame_all outGrows_frame funcs fuel).execList depth prog).h s)

/-- **Output produced before an error is preserved**: when the body of a block fails, everything printed before the block and inside it
up to the failing operation is part of the output the handler starts with (and, by `output_only_grows` again, of the final output of
the block, handled or not). -/
theorem output_before_error_preserved (funcs : List Func) (depth fuel : Nat) (body : List Stmt) (catches : List (String × List Stmt))
    (s s' : St) (c : Nat) (a : Bytes) (hb : execList funcs depth fuel body s = (.err c a, s')) :
    (∃ t : Bytes, s'.output = s.output ++ t) ∧
    (∃ t : Bytes, (execBlock funcs depth (fuel + 1) body catches s).2.output = s'.output ++ t) := by
  refine ⟨by simpa [hb] using output_only_grows funcs depth fuel body s,
    execBlock_cases (P := fun r => ∃ t : Bytes, r.2.output = s'.output ++ t)
      ⟨[], by rw [hb, List.append_nil]⟩ fun c' a' s'' n h hb' _ _ => ?_⟩
  rw [hb] at hb'
  cases hb'
  obtain ⟨t, ht⟩ := output_only_grows funcs depth fuel h { s' with lastErr := (c, a) }
  exact ⟨t, (handlerExit_output ..).trans ht⟩

/-- `print "a"; begin print "b"; raise E; exception when others then print "c"; end` -/
example : (execList [] 0 20 [.printS [.lit (.str [97])], .beginS [.printS [.lit (.str [98])], .raiseS "E"] [("OTHERS", [.printS [.lit (.str [99])]])]] {}).2.output =
    [97, 10, 98, 10, 99, 10] := by decide +kernel

/-- **No residue, `for`/`while` entries, program runs**: a run through `Executable::run` (`execList`; also a block, a statement, a call)
never leaves or removes a `for`/`while` entry of the control stack — whatever the outcome. -/
theorem program_run_keeps_control_entries (funcs : List Func) (depth fuel : Nat) (prog : List Stmt) (s : St) :
    (execList funcs depth fuel prog s).2.ctl = s.ctl :=
  ((frame_all sameCtl_frame funcs fuel).execList depth prog).h s

/-- **One statement under the interactive runner** (apps/cli_parser.cpp after 3db7ed2: the runner's handler calls `onRuntimeError`):
it is the statement's ordinary execution; after a normal end the control entries are what they were, after ANY error there is none. -/
theorem interactive_statement_outcome (funcs : List Func) (fuel : Nat) (st : Stmt) (s : St) :
    (∀ fl s', exec funcs 0 fuel st s = (.ok fl, s') → stepTop funcs fuel st s = (.ok fl, s') ∧ s'.ctl = s.ctl) ∧
    (∀ c a s', exec funcs 0 fuel st s = (.err c a, s') → stepTop funcs fuel st s = (.err c a, { s' with ctl := [] })) := by
  constructor
  · intro fl s' h
    exact ⟨by simp only [stepTop, purgeOnErr, h], ((frame_all sameCtl_frame funcs fuel).exec 0 st).run h⟩
  · intro c a s' h
    simp only [stepTop, purgeOnErr, h]

theorem stepTop_no_residue (funcs : List Func) (fuel : Nat) (st : Stmt) (s : St) (h0 : s.ctl = []) :
    (stepTop funcs fuel st s).2.ctl = [] := by
  unfold stepTop purgeOnErr
  split
  · rename_i heq
    exact (((frame_all sameCtl_frame funcs fuel).exec 0 st).run heq).trans h0
  · rfl

/-- **No residue under the interactive runner** (the full statement; false before 3db7ed2 — finding
C07.interactive_runner_keeps_control_entry, fixed): whatever statements are typed one after the other, whatever their outcomes
(errors in loop headers, bodies, handlers, functions; `return` at the prompt), a session that starts with an empty control stack has
an empty control stack after every statement. -/
theorem interactive_runner_no_residue (funcs : List Func) (fuel : Nat) : ∀ (prog : List Stmt) (s : St), s.ctl = [] →
    (runInteractive funcs fuel prog s).2.ctl = []
  | [], _, h0 => h0
  | st :: rest, s, h0 =>
    interactive_runner_no_residue funcs fuel rest { (stepTop funcs fuel st s).2 with returned := none } (stepTop_no_residue funcs fuel st s h0)

/-- regression witness: `zero = 0; while (1 / zero) > 0 loop nop; end loop; print "alive";` at the prompt: DIVIDE_BY_ZERO is reported, the
session goes on, nothing is left on the control stack; a `return` at the prompt ends its statement and the session goes on -/
theorem interactive_runner_witness_fixed :
    (let r := runInteractive [] 30 [.letS "zero" (.lit (.int 0)),
        .whileS (.bin .gt (.bin .div (.lit (.int 1)) (.var "zero")) (.lit (.int 0))) [.nop], .returnS (some (.lit (.int 5))), .printS [.lit (.str [97])]] {}
     (r.1.map (fun x => match x with | .ok .ret => 1 | .ok _ => 0 | .err c _ => c | _ => 999), r.2.ctl, r.2.out, r.2.returned.isNone)) =
    ([0, 23, 1, 0], [], [[10], [97]], true) := by decide +kernel

/-- `begin begin raise E1; exception when E2 then print "inner"; end; print "skipped"; exception when E1 then print "outer"; end; print "after";`:
the inner block has no clause for E1, the outer one handles it; what follows runs normally. -/
example : (execList [] 0 20 [.beginS [.beginS [.raiseS "E1"] [("E2", [.printS [.lit (.str [105])]])], .printS [.lit (.str [115])]]
      [("E1", [.printS [.lit (.str [111])]])], .printS [.lit (.str [97])]] {}).2.out = [[10], [97], [10], [111]] := by decide +kernel

/-- an error raised inside nested loops inside a block: handled, loops closed (empty control stack), and the iterator name can be assigned again -/
example : (let r := execList [] 0 20 [.beginS [.forallS "e" (.var "t") .auto [.whileS (.lit (.bool true)) [.raiseS "X"]]] [("X", [.nop])],
      .letS "e" (.lit (.str [104]))] { vars := [("t", .tab { major := .int, level := 1 } [] [.int 1, .int 2])] }
    (r.1, r.2.iters.length, lookupVar r.2.vars "e" == .str [104])) = (.ok .norm, 0, true) := by decide +kernel

/-- a function that raises, called inside a block of the caller: the caller's clause runs, the caller's variable `x` is untouched -/
example : (let f : Func := { name := "f", params := [], ret := Ty.none, body := [.raiseS "BOOM"], catches := [] }
    let r := execList [f] 0 20 [.letS "x" (.lit (.int 1)), .beginS [.doS (.fcall "f" [])] [("BOOM", [.printS [.var "x"]])]] {}
    (r.1, r.2.out)) = (.ok .norm, [[10], [49]]) := by decide +kernel

/-- DIVIDE_BY_ZERO inside a function inside a loop, caught by `others` in the caller -/
example : (let f : Func := { name := "f", params := [("a", Ty.int)], ret := Ty.int, body := [.returnS (some (.bin .div (.lit (.int 1)) (.var "a")))], catches := [] }
    let r := execList [f] 0 30 [.beginS [.forS "i" (.lit (.int 1)) (.lit (.int 0)) none .auto [.doS (.fcall "f" [.var "i"])]] [("OTHERS", [.printS [.var "i"]])]] {}
    (r.1, r.2.out)) = (.ok .norm, [[10], [48]]) := by decide +kernel
end BlocV.C07
