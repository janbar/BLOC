/-
  C02G — translator tie for the operators: the hand-written static rules of Model/Typing.lean and the
  operand cells of Model/Ops.lean are PROVED equal to the interpretation (Model/GenEval.lean) of the tables that
  extract/optypes.py regenerates from blocc/operator/op_*.{h,cpp} and blocc/parse_expression.cpp on every run
  (lean/BlocV/Gen/OpTypes.lean).  A change of one `type()` if-chain, of one `case Type::X:` label of a `value()`, or of
  one assertType call of a production changes the generated file and makes the theorem whose comment names that change
  ("BREAKS when") stop checking.

  All theorems are for ALL types (major, minor, level) and all values; the finite part (operators × majors × majors) is
  evaluated over the whole table, never sampled.
-/
import BlocV.Proofs.Lemmas.GenOps

namespace BlocV.C02G
open Gen GenOps GenEval

/-- The hand-written static type of a binary operator node is what `OpXXXExpression::type` says today.
BREAKS when: a result of a `type()` chain is changed (`return Value::type_integer` → `type_numeric`), a condition is
changed, two steps whose order matters are swapped (op_add: the LITERAL test before the IMAGINARY test), a step is added
or removed, or a header's inline `type()` returns another constant. -/
theorem typeBin_eq_source (op : BinOp) (t1 t2 : Ty) : BlocV.typeBin op t1 t2 = GenEval.typeBin op t1 t2 := by
  cases op <;> rfl

-- a non-trivial row: a table of strings plus anything is typed `string` (level 0!) by op_add's first step — the row
-- behind the recorded C02 gap; the generated chain evaluates to the same
example : GenEval.typeBin .add { major := .str, level := 1 } Ty.int = Ty.str ∧
    GenEval.typeBin .add Ty.num { major := .imag } = Ty.imag ∧ GenEval.typeBin .mod Ty.int Ty.num = Ty.num := ⟨rfl, rfl, rfl⟩

/-- Same for the unary operators (`return arg1->type(ctx)` for `-`/`+`, a constant for `~`/`!`).
BREAKS when: op_neg/op_pos stop returning the operand's type, or op_not/op_bnot's inline constant changes. -/
theorem typeUn_eq_source (op : UnOp) (t1 : Ty) : BlocV.typeUn op t1 = GenEval.typeUn op t1 := by
  cases op <;> rfl

example : GenEval.typeUn .neg { major := .tup, minor := 77, level := 2 } = { major := .tup, minor := 77, level := 2 } ∧
    GenEval.typeUn .not Ty.num = Ty.int := ⟨rfl, rfl⟩

/-- The parser's acceptance of `e1 op e2` as transcribed by hand is the conjunction of the two checks the production
wraps around its operands today.
BREAKS when: an `assertType` becomes `assertTypeUniform` (or the reverse), the type checked against changes
(`Type::NUMERIC` → `Type::INTEGER`, `result->type(ctx)` → a constant), a check is dropped or added, or two productions of
the same operator (keyword and symbol spelling) stop agreeing (the extractor refuses that). -/
theorem acceptBin_eq_source (op : BinOp) (t1 t2 : Ty) : BlocV.acceptBin op t1 t2 = GenEval.acceptBin op t1 t2 := by
  -- unfolding; where the production checks one operand only, the other check is `true`
  cases op <;> first | rfl | exact (Bool.and_true _).symm

-- `+` checks only its second operand, against the type of the first; `<<` is uniform (a decimal is refused where `*`
-- takes it); `==` checks nothing
example : GenEval.acceptBin .add Ty.str Ty.int = false ∧ GenEval.acceptBin .add Ty.int Ty.num = true ∧
    GenEval.acceptBin .pop Ty.int Ty.num = false ∧ GenEval.acceptBin .mul Ty.int Ty.num = true ∧
    GenEval.acceptBin .eq Ty.str { major := .tup, minor := 3 } = true := ⟨rfl, rfl, rfl, rfl, rfl⟩

/-- BREAKS when: the check of a unary production changes (`~` is checked against NUMERIC, not INTEGER, today). -/
theorem acceptUn_eq_source (op : UnOp) (t1 : Ty) : BlocV.acceptUn op t1 = GenEval.acceptUn op t1 := by
  cases op <;> rfl

example : GenEval.acceptUn .not Ty.num = true ∧ GenEval.acceptUn .bnot Ty.int = false := ⟨rfl, rfl⟩

/-- The case labels of the nested switches of every switch-form `value()` (eager and lazy) and the `t2 == Type::X` tests of
the `==`/`!=` chains (imaginary cells aside, which Model/Ops.lean leaves unmodelled) are exactly the operand cells the
hand-written model has.
BREAKS when: a `case Type::X:` label is added to or dropped from any of the 14 switch-form operators, a `t2 == Type::X`
test is added to or dropped from op_eq/op_ne. -/
theorem value_case_labels_eq_model_cells (op : BinOp) (m1 m2 : Major)
    (hop : eagerSwitch op = true ∨ op = .band ∨ op = .bior ∨ ((op = .eq ∨ op = .ne) ∧ m1 ≠ .imag ∧ m2 ≠ .imag)) :
    (pairsOf (binShape op)).contains (m1, m2) = handCell op m1 m2 :=
  have table : ∀ op ∈ allBinOps, ∀ m1 ∈ allMajors, ∀ m2 ∈ allMajors,
      (eagerSwitch op = true ∨ op = .band ∨ op = .bior ∨ ((op = .eq ∨ op = .ne) ∧ m1 ≠ .imag ∧ m2 ≠ .imag)) →
      (pairsOf (binShape op)).contains (m1, m2) = handCell op m1 m2 := by decide +kernel
  table op (mem_allBinOps op) m1 (mem_allMajors m1) m2 (mem_allMajors m2) hop

example : (pairsOf (binShape .add)).contains (.none, .str) = true ∧ (pairsOf (binShape .mod)).contains (.none, .imag) = false ∧
    (pairsOf (binShape .sub)).contains (.none, .imag) = true := ⟨rfl, rfl, rfl⟩

/-- For the twelve eager switch-form operators (`+ - * / ** % & | ^ << >> xor`) and ALL operand values — null or not: the
switch looks at the types only — the result is the operator's type-mismatch error EXC_RT_INV_EXPRESSION IF AND ONLY IF the
operands are not both of level 0 with (major, major) among the case labels extracted from that operator's `value()`.
BREAKS when: see `value_case_labels_eq_model_cells`; also when the level guard in front of the switch changes (the
extractor asserts its exact text). -/
theorem evalBin_typeerror_iff_not_in_source_table (op : BinOp) (hop : eagerSwitch op = true) (a b : Val) (same : Bool) :
    evalBin op a b same = inv ↔ inTable (binShape op) a.type b.type = false := by
  unfold inTable
  rw [value_case_labels_eq_model_cells op _ _ (Or.inl hop)]
  exact evalBin_inv_iff op hop a b same

-- non-trivial rows: a string times an integer, a table plus a table, null % complex are type errors; null + string, 1 / 0
-- are not (the latter is DIVIDE_BY_ZERO)
example : evalBin .mul (.str [97]) (.int 2) = inv ∧ inTable (binShape .mul) Ty.str Ty.int = false := ⟨rfl, rfl⟩
example : evalBin .add (.tab { major := .int, level := 1 } [] [.int 1]) (.tab { major := .int, level := 1 } [] []) = inv ∧
    inTable (binShape .add) { major := .int, level := 1 } { major := .int, level := 1 } = false := ⟨rfl, rfl⟩
example : evalBin .mod (.null Ty.none) (.null Ty.imag) = inv ∧ evalBin .add (.null Ty.none) (.str [97]) = .ok (.str [97]) ∧
    evalBin .div (.int 1) (.int 0) = .err Gen.EXC_RT_DIVIDE_BY_ZERO ∧ inTable (binShape .div) Ty.int Ty.int = true :=
  ⟨rfl, rfl, rfl, rfl⟩

/-- `and` / `or` (lazy): the first operand alone decides when it is `false` (resp. `true`); otherwise the rule of the eager
operators holds with the labels of the inner switches.
BREAKS when: a label of an outer or inner switch of op_band/op_bior is added or dropped. -/
theorem evalBin_lazy_typeerror_iff (op : BinOp) (hop : op = .band ∨ op = .bior) (a b : Val) (same : Bool) :
    evalBin op a b same = inv ↔ ¬(a = .bool (op == .bior) ∨ inTable (binShape op) a.type b.type = true) := by
  unfold inTable
  rw [value_case_labels_eq_model_cells op _ _ (Or.inr (hop.elim Or.inl (fun h => Or.inr (Or.inl h))))]
  rcases hop with rfl | rfl
  · exact lazy_shape.1.inv_iff a b
  · exact lazy_shape.2.inv_iff a b

example : evalBin .band (.bool false) (.int 3) = .ok (.bool false) ∧ evalBin .band (.bool true) (.int 3) = inv ∧
    inTable (binShape .band) Ty.bool Ty.int = false ∧ evalBin .bior (.null Ty.none) (.null Ty.bool) = .ok (.null Ty.bool) :=
  ⟨rfl, rfl, rfl, rfl⟩

/-- The case labels of the unary `value()`s are the cells of the model's `evalUn`.
BREAKS when: a label of op_neg/op_pos/op_not/op_bnot is added or dropped (e.g. `~` accepting NUMERIC). -/
theorem unary_case_labels_eq_model_cells (op : UnOp) (m : Major) : (rowsOf (unShape op)).contains m = unCell op m := by
  cases op <;> cases m <;> rfl

/-- Unary operators, all operand values: EXC_RT_INV_EXPRESSION iff the operand is not of level 0 with its major among the
case labels of the operator's `value()`. -/
theorem evalUn_typeerror_iff_not_in_source_table (op : UnOp) (a : Val) :
    evalUn op a = inv ↔ inTableUn (unShape op) a.type = false := by
  unfold inTableUn
  rw [unary_case_labels_eq_model_cells]
  exact evalUn_inv_iff op a

-- `~` is accepted by the parser on a decimal (acceptUn_eq_source) and is a type error at run time: the generated tables say so
example : evalUn .not (.num 0x4004000000000000) = inv ∧ inTableUn (unShape .not) Ty.num = false ∧
    GenEval.acceptUn .not Ty.num = true ∧ evalUn .neg (.null Ty.none) = .ok (.null Ty.none) := ⟨rfl, rfl, rfl, rfl⟩

/-- `== != < <= > >=` test `a1.isNull() || a2.isNull()` BEFORE looking at any type (the extractor asserts that statement at
the head of every `eqchain` / `ord` shaped `value()`): the result is the boolean null, whatever the types.
BREAKS when: one of the six files loses that first statement or gains a switch form (the shape recorded in
`Gen.Op.*_value` changes and `binShape op` no longer matches). -/
theorem relational_null_first (op : BinOp) (a b : Val) (same : Bool)
    (hsh : (∃ ps, binShape op = .eqchain ps) ∨ (∃ cs, binShape op = .ord cs)) (hn : a.isNull = true ∨ b.isNull = true) :
    evalBin op a b same = .ok (.null Ty.bool) := by
  refine evalBin_rel_null op ?_ a b same hn
  -- the six relational operators are the ones with these shapes
  cases op <;> first | (rcases hsh with ⟨ps, h⟩ | ⟨cs, h⟩ <;> cases h; done) | simp

example : evalBin .lt (.null Ty.str) (.int 1) = .ok (.null Ty.bool) ∧ (∃ cs, binShape .lt = .ord cs) := ⟨rfl, ⟨_, rfl⟩⟩

/-- `==` / `!=` on two non-null level-0 operands whose majors are NOT among the extracted `t1`-case × `t2 == Type::X`
tests: the constant the chain ends with (`false`, resp. `true`) — never an error. (Imaginary operands aside: unmodelled.)
BREAKS when: a test is added to or dropped from a case of op_eq/op_ne. -/
theorem equality_outside_source_tests (a b : Val) (same : Bool) (hn1 : a.isNull = false) (hn2 : b.isNull = false)
    (h1 : a.type.level = 0) (h2 : b.type.level = 0) (hi1 : a.type.major ≠ .imag) (hi2 : b.type.major ≠ .imag)
    (hout : (pairsOf (binShape .eq)).contains (a.type.major, b.type.major) = false ∧
            (pairsOf (binShape .ne)).contains (a.type.major, b.type.major) = false) :
    evalBin .eq a b same = .ok (.bool false) ∧ evalBin .ne a b same = .ok (.bool true) := by
  have hc : eqCell a.type.major b.type.major = false := by
    have := value_case_labels_eq_model_cells .eq a.type.major b.type.major (Or.inr (Or.inr (Or.inr ⟨Or.inl rfl, hi1, hi2⟩)))
    rw [hout.1] at this; exact this.symm
  have := eqCore_const same a b h1 h2 hi1 hi2 hc
  simp [evalBin, opEq, opNe, hn1, hn2, this.1, this.2, boolRes]

example : evalBin .eq (.str [49]) (.int 1) = .ok (.bool false) ∧ evalBin .ne (.bool true) (.raw [1]) = .ok (.bool true) ∧
    (pairsOf (binShape .eq)).contains (.str, .int) = false := ⟨rfl, rfl, rfl⟩

/-- The case labels of the single switch of op_lt/le/gt/ge, the `a2.type() == Type::X` tests inside each case and the typed
accessor the fall-through reads the second operand with are the rows / cells of the model's `ordCore`.
BREAKS when: a case is added to or dropped from one of the four switches, a test on a2 is added or dropped, or the
fall-through reads a2 through another accessor. -/
theorem ordering_case_labels_eq_model_cells (op : BinOp) (hop : op = .lt ∨ op = .le ∨ op = .gt ∨ op = .ge) (m1 m2 : Major) :
    (rowsOf (binShape op)).contains m1 = ordRow m1 ∧ (pairsOf (binShape op)).contains (m1, m2) = GenOps.ordCell m1 m2 :=
  have table : ∀ op ∈ allBinOps, ∀ m1 ∈ allMajors, ∀ m2 ∈ allMajors, (op = .lt ∨ op = .le ∨ op = .gt ∨ op = .ge) →
      (rowsOf (binShape op)).contains m1 = ordRow m1 ∧ (pairsOf (binShape op)).contains (m1, m2) = GenOps.ordCell m1 m2 := by
    decide +kernel
  table op (mem_allBinOps op) m1 (mem_allMajors m1) m2 (mem_allMajors m2) hop

/-- `< <= > >=` on two non-null (well-formed) operands: a typed accessor throws (EXC_RT_NOT_INTEGER / NOT_NUMERIC /
NOT_LITERAL — the type-mismatch error of these four operators) IF AND ONLY IF the first operand's major is one of the case
labels and the pair is not, at level 0, among the tests / accessor types extracted from that case. Outside the case
labels the answer is `false` (no error); the null rule is `relational_null_first`. -/
theorem ordering_typeerror_iff_not_in_source_table (op : BinOp) (hop : op = .lt ∨ op = .le ∨ op = .gt ∨ op = .ge)
    (a b : Val) (same : Bool) (hw1 : a.tabOk = true) (hw2 : b.tabOk = true) (hn1 : a.isNull = false) (hn2 : b.isNull = false) :
    IsAccErr (evalBin op a b same) ↔
      ((rowsOf (binShape op)).contains a.type.major = true ∧ inTable (binShape op) a.type b.type = false) := by
  have hc := ordering_case_labels_eq_model_cells op hop a.type.major b.type.major
  unfold inTable
  rw [hc.1, hc.2]
  rcases hop with h | h | h | h <;> subst h <;> exact ordered_accErr_iff hw1 hw2 hn1 hn2

-- an integer compared with a string: the integer row reads a2 through integer(): NOT_INTEGER; a boolean first operand is
-- outside the labels: `false`
example : evalBin .lt (.int 1) (.str [97]) = .err Gen.EXC_RT_NOT_INTEGER ∧ inTable (binShape .lt) Ty.int Ty.str = false ∧
    (rowsOf (binShape .lt)).contains .int = true ∧ evalBin .lt (.bool true) (.int 1) = .ok (.bool false) ∧
    (rowsOf (binShape .ge)).contains .bool = false ∧ (pairsOf (binShape .ge)).contains (.int, .num) = true :=
  ⟨rfl, rfl, rfl, rfl, rfl, by decide⟩

/-- For the six built-in member methods: the model's `acceptMember` answers EXC_PARSE_MEMB_NOT_IMPL_S IF AND ONLY IF the
receiver is of level 0 with a major outside the case labels of the method's first `switch (exp_type.major())`
(`Gen.Memb.*_recv.receivers`); hypotheses: the receiver reaches the method (`memberDispatch`), it is not locked, and — for
the one method (`at`) whose source checks its argument first (`argFirst`, extracted) — that argument is there and passes.
BREAKS when: a receiver label is added to or dropped from one of the six switches (e.g. `count` losing ROWTYPE), or a
method starts / stops checking its first argument before the receiver. -/
theorem memberReceiver_eq_source (m : Member) (exp : Ty) (args : List Ty)
    (hd : memberDispatch exp = none)
    (harg : (recvOf m).argFirst = true → ∃ a0 rest, args = a0 :: rest ∧ typeChecking a0 Ty.int = true) :
    acceptMember m exp args false = some Gen.EXC_PARSE_MEMB_NOT_IMPL_S ↔ recvOk m exp = false := by
  rw [recvOk_eq]
  exact acceptMember_notImpl_iff m exp args hd (fun h => harg (h ▸ rfl))

example : recvOk .count { major := .tup, minor := 9 } = true ∧ recvOk .at { major := .tup, minor := 9 } = false ∧
    acceptMember .at { major := .tup, minor := 9 } [Ty.int] false = some Gen.EXC_PARSE_MEMB_NOT_IMPL_S ∧
    recvOk .put { major := .int, level := 1 } = true := ⟨rfl, rfl, rfl, rfl⟩

/-- The lock test: the methods whose source tests `s.locked()` refuse a locked receiver with EXC_PARSE_CONST_VIOLATION_S; the
others (`at`, `count`: they do not modify the receiver) ignore the lock.
BREAKS when: the lock test is added to or removed from a member's `parse()`. -/
theorem memberLock_eq_source (m : Member) (exp : Ty) (args : List Ty) (hd : memberDispatch exp = none) :
    ((recvOf m).lockChecked = true → acceptMember m exp args true = some Gen.EXC_PARSE_CONST_VIOLATION_S) ∧
    ((recvOf m).lockChecked = false → acceptMember m exp args true = acceptMember m exp args false) := by
  cases m <;> refine ⟨fun h => ?_, fun h => ?_⟩ <;>
    first | (cases h; done) | simp only [acceptMember, hd, ↓reduceIte]

example : acceptMember .delete Ty.str [Ty.int] true = some Gen.EXC_PARSE_CONST_VIOLATION_S ∧
    acceptMember .count Ty.str [] true = none ∧ (recvOf .count).lockChecked = false := ⟨rfl, rfl, rfl⟩

/-- put / insert / concat on a LEVEL-0 receiver that passes the receiver test, position argument (if any) type-checking as
integer, exactly the right number of arguments: the model accepts IF AND ONLY IF the value argument passes the test
extracted from the receiver's case of the method's second `switch (exp_type.major())`; otherwise EXC_PARSE_MEMB_ARG_TYPE_S.
(The collection branch — receivers of level ≥ 1 — is still hand-transcribed.)
BREAKS when: a conjunct `args.back()->type(ctx) != Type::X` or the `typeChecking(…, Type::INTEGER)` is added to or dropped
from a case, a case moves between `break;` and a test, or a receiver label of that switch changes. -/
theorem memberArgs_eq_source (m : Member) (hm : m = .put ∨ m = .insert ∨ m = .concat) (exp arg pos : Ty)
    (hl : exp.level = 0) (hd : memberDispatch exp = none) (hr : level0Seq exp = true) (hp : typeChecking pos Ty.int = true) :
    acceptMember m exp ((lead m).map (fun _ => pos) ++ [arg]) false =
      (if arg0Ok (arg0Of m) exp arg = some true then none else some Gen.EXC_PARSE_MEMB_ARG_TYPE_S) := by
  have hl' : (exp.level == 0) = true := by simp [hl]
  -- a level-0 receiver that passes the receiver test is an untyped null, a string or bytes
  have hmj : exp.major = .none ∨ exp.major = .str ∨ exp.major = .raw := by
    simpa [level0Seq, hl, or_assoc] using hr
  rcases hm with rfl | rfl | rfl <;> rcases hmj with h | h | h <;>
    simp [acceptMember, hd, hr, hp, hl', h, lead, arg0Of, arg0Ok, Memb.put_arg0, Memb.insert_arg0, Memb.concat_arg0, evalArgRule]
  all_goals cases typeChecking arg Ty.int <;> simp
  all_goals split <;> simp_all

example : arg0Ok (arg0Of .insert) Ty.raw Ty.str = some true ∧ arg0Ok (arg0Of .insert) Ty.str Ty.raw = some false ∧
    arg0Ok (arg0Of .put) Ty.str Ty.str = some false ∧ arg0Ok (arg0Of .concat) Ty.none Ty.bool = some true ∧
    acceptMember .insert Ty.str [Ty.int, Ty.raw] false = some Gen.EXC_PARSE_MEMB_ARG_TYPE_S := ⟨rfl, rfl, rfl, rfl, rfl⟩

end BlocV.C02G
