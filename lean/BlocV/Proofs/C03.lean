/-
  C03 — integer and decimal arithmetic is total and follows the manual for all operands.

  Each theorem relates the model (`BlocV.Num.*`, the transcription of blocc/operator/op_*.cpp and
  builtin_int.cpp) to the spec (`BlocV.Spec.*`, mathematical integers) for ALL operands. `x.toInt` is the
  mathematical value of an Int64. Each group of theorems ends with `example`s on boundary operands, which
  show that the statements are not vacuous.
-/
import BlocV.Proofs.Lemmas.Int64
import BlocV.Proofs.Lemmas.Float
import BlocV.Proofs.Lemmas.OpsCases
import BlocV.Model.Typing
import BlocV.Model.Builtins

namespace BlocV.C03
open BlocV.Lemmas

/-! ### + − * unary− : exact result reduced modulo 2^64, for all operands -/

/-- `a + b` (op_add.cpp, computed in uint64_t and converted back): the exact sum reduced modulo 2^64 into [−2^63, 2^63), for all operands. -/
theorem add_exact (a b : Int64) : (Num.iadd a b).toInt = Spec.add a.toInt b.toInt := by
  simp [Num.iadd, Spec.add, Spec.wrap, Int64.toInt_add]

/-- `a - b` (op_sub.cpp): the exact difference reduced modulo 2^64, for all operands. -/
theorem sub_exact (a b : Int64) : (Num.isub a b).toInt = Spec.sub a.toInt b.toInt := by
  simp [Num.isub, Spec.sub, Spec.wrap, Int64.toInt_sub]

/-- `a * b` (op_mul.cpp): the exact product reduced modulo 2^64, for all operands. -/
theorem mul_exact (a b : Int64) : (Num.imul a b).toInt = Spec.mul a.toInt b.toInt := by
  simp [Num.imul, Spec.mul, Spec.wrap, Int64.toInt_mul]

/-- Unary minus (op_neg.cpp, `0 - a` in uint64_t): the exact negation reduced modulo 2^64 (so `-MIN = MIN`). -/
theorem neg_exact (a : Int64) : (Num.ineg a).toInt = Spec.neg a.toInt := by
  simp [Num.ineg, Spec.neg, Spec.wrap]

example : (Num.iadd 9223372036854775807 1).toInt = -9223372036854775808 := by decide
example : (Num.imul (-9223372036854775808) (-1)).toInt = -9223372036854775808 := by decide

/-! ### / and % : truncate toward zero, DIVIDE_BY_ZERO on a zero divisor, defined for every other pair -/

/-- What the spec's result means for the model's outcome type. -/
def ofIRes : Spec.IRes → Res Int
  | .val z => .ok z
  | .divideByZero => .err Gen.EXC_RT_DIVIDE_BY_ZERO
  | .outOfRange => .err Gen.EXC_RT_OUT_OF_RANGE

def mapInt : Res Int64 → Res Int
  | .ok r => .ok r.toInt
  | .err c a => .err c a
  | .haz h => .haz h
  | .unmodelled => .unmodelled

theorem mapInt_eq_ok {r : Res Int64} {z : Int} (h : mapInt r = .ok z) : ∃ q, r = .ok q ∧ q.toInt = z := by
  cases r <;> cases h
  exact ⟨_, rfl, rfl⟩

/-- `a / b` (op_div.cpp): DIVIDE_BY_ZERO when `b = 0`, otherwise the quotient truncated toward zero (reduced modulo 2^64, which only matters for `MIN / -1 = MIN`), for all operands. -/
theorem div_spec (a b : Int64) : mapInt (Num.idiv a b) = ofIRes (Spec.div a.toInt b.toInt) := by
  by_cases hb : b = 0
  · subst hb; rfl
  · rw [Num.idiv, if_neg (by simpa using hb), Spec.div, if_neg (toInt_ne_zero hb)]
    by_cases h1 : b = -1
    · subst h1
      rw [if_pos (by rfl)]
      exact congrArg Res.ok (by rw [Int64.toInt_sub]; simp [Spec.wrap])
    · rw [if_neg (by simpa using h1)]
      exact congrArg Res.ok (Int64.toInt_div a b)

/-- `a % b` (op_mod.cpp): DIVIDE_BY_ZERO when `b = 0`, otherwise the remainder of the truncating division (sign of the dividend; `MIN % -1 = 0`), for all operands. -/
theorem mod_spec (a b : Int64) : mapInt (Num.imod a b) = ofIRes (Spec.mod a.toInt b.toInt) := by
  by_cases hb : b = 0
  · subst hb; rfl
  · rw [Num.imod, if_neg (by simpa using hb), Spec.mod, if_neg (toInt_ne_zero hb)]
    by_cases h1 : b = -1
    · subst h1
      rw [if_pos (by rfl)]
      exact congrArg Res.ok (by simp [Spec.wrap])
    · rw [if_neg (by simpa using h1)]
      -- the remainder of two `int64_t` fits
      have := Int64.le_toInt (a % b); have := Int64.toInt_lt (a % b)
      refine congrArg Res.ok ?_
      rw [← Int64.toInt_mod, Spec.wrap, Int.bmod_eq_of_le] <;> omega

/-- Totality: `/` and `%` never reach a C-level hazard. -/
theorem div_mod_no_hazard (a b : Int64) : (Num.idiv a b).isHazard = false ∧ (Num.imod a b).isHazard = false :=
  ⟨dbzOnly_no_hazard (idiv_dbzOnly a b), imod_no_hazard a b⟩

example : mapInt (Num.idiv (-9223372036854775808) (-1)) = .ok (-9223372036854775808) := by decide
example : mapInt (Num.imod (-7) 2) = .ok (-1) := by decide
example : Num.idiv 1 0 = .err Gen.EXC_RT_DIVIDE_BY_ZERO := by decide

/-! ### `/` `%` : the two clauses of the statement spelled out (corollaries of `div_spec`, `mod_spec`) -/

/-- A zero divisor raises the catchable DIVIDE_BY_ZERO, for every dividend (op_div.cpp, op_mod.cpp). -/
theorem div_by_zero (a : Int64) :
    Num.idiv a 0 = .err Gen.EXC_RT_DIVIDE_BY_ZERO ∧ Num.imod a 0 = .err Gen.EXC_RT_DIVIDE_BY_ZERO := ⟨rfl, rfl⟩

/-- Every other pair is defined: a value is returned (never an error, never a C-level hazard), also
for `MIN / -1` and `MIN % -1`, whose C expressions would be undefined. -/
theorem div_mod_defined (a b : Int64) (hb : b ≠ 0) :
    (∃ q, Num.idiv a b = .ok q ∧ q.toInt = Spec.wrap (Int.tdiv a.toInt b.toInt)) ∧
    (∃ r, Num.imod a b = .ok r ∧ r.toInt = Spec.wrap (Int.tmod a.toInt b.toInt)) := by
  have hb' := toInt_ne_zero hb
  have hd := div_spec a b
  have hm := mod_spec a b
  rw [Spec.div, if_neg hb'] at hd
  rw [Spec.mod, if_neg hb'] at hm
  exact ⟨mapInt_eq_ok hd, mapInt_eq_ok hm⟩

example : (-9223372036854775808 : Int64) ≠ 0 ∧ (-1 : Int64) ≠ 0 := by decide
example : mapInt (Num.imod (-9223372036854775808) (-1)) = .ok 0 := by decide

/-! ### << >> : zero fill, negative displacement reverses, |displacement| ≥ 64 gives 0 -/

/-- `a << n` (op_pop.cpp) for every displacement: zero fill; a negative `n` shifts right by `-n`; `|n| ≥ 64` gives 0 — the reference manual's rule, on the 64-bit pattern. -/
theorem shl_spec (a n : Int64) : (Num.ishl a n).toInt = Spec.shl a.toInt n.toInt := by
  unfold Num.ishl Spec.shl
  have c1 : (n ≥ 64) ↔ n.toInt ≥ 64 := Int64.le_iff_toInt_le
  have c2 : (n ≤ -64) ↔ n.toInt ≤ -64 := Int64.le_iff_toInt_le
  have c3 : (n ≥ 0) ↔ n.toInt ≥ 0 := Int64.le_iff_toInt_le
  simp only [c1, c2, c3]
  split
  · rfl
  · have hneg : (0 - n).toInt = -n.toInt := toInt_zero_sub n (by omega)
    split
    · exact shl_toInt a n (by assumption) (by omega)
    · rw [shr_toInt a (0 - n) (by omega) (by omega), hneg]

/-- `a >> n` (op_pus.cpp) for every displacement: logical (zero-fill) right shift; a negative `n` shifts left by `-n`; `|n| ≥ 64` gives 0. -/
theorem shr_spec (a n : Int64) : (Num.ishr a n).toInt = Spec.shr a.toInt n.toInt := by
  unfold Num.ishr Spec.shr
  have c1 : (n ≥ 64) ↔ n.toInt ≥ 64 := Int64.le_iff_toInt_le
  have c2 : (n ≤ -64) ↔ n.toInt ≤ -64 := Int64.le_iff_toInt_le
  have c3 : (n ≥ 0) ↔ n.toInt ≥ 0 := Int64.le_iff_toInt_le
  simp only [c1, c2, c3]
  split
  · rfl
  · have hneg : (0 - n).toInt = -n.toInt := toInt_zero_sub n (by omega)
    split
    · exact shr_toInt a n (by assumption) (by omega)
    · rw [shl_toInt a (0 - n) (by omega) (by omega), hneg]

example : (Num.ishl 1 64).toInt = 0 ∧ (Num.ishr (-1) 1).toInt = 9223372036854775807
    ∧ (Num.ishl 1 (-1)).toInt = 0 ∧ (Num.ishl 4 (-1)).toInt = 2 := by decide

/-! ### ** : exact power modulo 2^64 for every base and every non-negative exponent -/

/-- `a ** n` for every base and every exponent `n ≥ 0` (op_exp.cpp, square-and-multiply in uint64_t): the exact power `a^n` reduced modulo 2^64. -/
theorem pow_exact (a n : Int64) (hn : 0 ≤ n.toInt) :
    mapInt (Num.ipow a n) = .ok (Spec.pow a.toInt n.toInt.toNat) := by
  unfold Num.ipow
  have hlt : ¬ (n < 0) := by
    rw [Int64.lt_iff_toInt_lt]; show ¬ n.toInt < 0; omega
  simp only [hlt, if_false, mapInt]
  congr 1
  rw [toInt_toInt64, powLoop_spec 64 1 a.toUInt64 n.toUInt64 (by have := n.toUInt64.toNat_lt; omega)]
  rw [toNat_toUInt64_of_nonneg n hn]
  unfold Spec.pow Spec.wrap
  have h2 : ((2:Int) ^ 64) = ((2 ^ 64 : Nat) : Int) := by norm_cast
  simp only [UInt64.toNat_one, Nat.one_mul]
  rw [Int.natCast_emod, Int.natCast_pow, toNat_of_toInt]
  rw [show ((2 ^ 64 : Nat) : Int) = (2:Int) ^ 64 from h2.symm]
  rw [pow_emod, h2, Int.emod_bmod]

/-- Totality for every exponent: no C-level hazard (a negative exponent with base 0 raises DIVIDE_BY_ZERO). -/
theorem pow_no_hazard (a n : Int64) : (Num.ipow a n).isHazard = false := ipow_no_hazard a n

example : mapInt (Num.ipow 3 39) = .ok 4052555153018976267 := by rw [ipow_3_39]; rfl
example : (0 : Int) ≤ (39 : Int64).toInt := by decide

/-! ### & | ^ ~ act on all 64 bits -/

/-- `a & b` (op_and.cpp) acts on all 64 bits of the two patterns. -/
theorem and_bitwise (a b : Int64) : (Num.iand a b).toInt = Spec.band a.toInt b.toInt := by
  rw [Num.iand, Spec.band, pattern_toInt, pattern_toInt, ← UInt64.toNat_and, ← Int64.toUInt64_and]
  exact toInt_eq_wrap _

/-- `a | b` (op_ior.cpp) acts on all 64 bits. -/
theorem or_bitwise (a b : Int64) : (Num.ior a b).toInt = Spec.bor a.toInt b.toInt := by
  rw [Num.ior, Spec.bor, pattern_toInt, pattern_toInt, ← UInt64.toNat_or, ← Int64.toUInt64_or]
  exact toInt_eq_wrap _

/-- `a ^ b` (op_xor.cpp) acts on all 64 bits. -/
theorem xor_bitwise (a b : Int64) : (Num.ixor a b).toInt = Spec.bxor a.toInt b.toInt := by
  rw [Num.ixor, Spec.bxor, pattern_toInt, pattern_toInt, ← UInt64.toNat_xor, ← Int64.toUInt64_xor]
  exact toInt_eq_wrap _

/-- `~a` (op_not.cpp, `~*a1.integer()`): the complement of all 64 bits of the pattern. -/
theorem not_bitwise (a : Int64) : (Num.inot a).toInt = Spec.bnot a.toInt := by
  rw [Num.inot, Spec.bnot, pattern_toInt, ← UInt64.toNat_not, ← Int64.toUInt64_not]
  exact toInt_eq_wrap _

example : (Num.iand (-1) 255).toInt = 255 ∧ (Num.ixor (-1) 1).toInt = -2 := by decide
example : (Num.inot 0).toInt = -1 ∧ (Num.inot (-9223372036854775808)).toInt = 9223372036854775807 := by decide

/-! ### The operators as the interpreter dispatches them (`evalBin`/`evalUn`, Model/Ops.lean) -/

/-- The `Num` function each integer operator of the statement is, on two integer values. -/
def intOp : BinOp → Option (Int64 → Int64 → Res Int64)
  | .add => some fun a b => .ok (Num.iadd a b)
  | .sub => some fun a b => .ok (Num.isub a b)
  | .mul => some fun a b => .ok (Num.imul a b)
  | .div => some Num.idiv
  | .mod => some Num.imod
  | .exp => some Num.ipow
  | .and => some fun a b => .ok (Num.iand a b)
  | .ior => some fun a b => .ok (Num.ior a b)
  | .xor => some fun a b => .ok (Num.ixor a b)
  | .pop => some fun a b => .ok (Num.ishl a b)
  | .pus => some fun a b => .ok (Num.ishr a b)
  | _ => none

/-- On two integer values `+ - * / % ** & | ^ << >>` of the interpreter ARE the `Num` functions the
theorems above speak about (so those theorems are about what `evalBin`, the function the driver
executes against the C++, returns), and the result is an integer. -/
theorem evalBin_int (op : BinOp) (f : Int64 → Int64 → Res Int64) (h : intOp op = some f) (a b : Int64)
    (same : Bool) : evalBin op (.int a) (.int b) same = intRes (f a b) := by
  -- `f` is the integer function of the operator's table (Lemmas/OpsCases.lean), and the cell of two integers is its case `int`
  have hop : GenOps.eagerSwitch op = true ∧ f = intFn op ∧ binAct op .int .int = .int := by
    cases op <;> simp only [intOp, Option.some.injEq, reduceCtorEq] at h <;> subst h <;> exact ⟨rfl, rfl, rfl⟩
  rw [evalBin_eq op hop.1, hop.2.1]
  show (binAct op .int .int).run _ _ _ _ = _
  rw [hop.2.2]
  exact bind_intRes _

/-- **Totality of the integer operators**: for all operands each of `+ - * / % ** & | ^ << >>` returns an
integer, except that DIVIDE_BY_ZERO is raised by `/` and `%` on a zero divisor and by `0 ** n` with `n < 0`;
no other error, no C-level hazard (overflow, out-of-range shift, MIN / -1), nothing unmodelled. -/
theorem int_ops_total (op : BinOp) (f : Int64 → Int64 → Res Int64) (h : intOp op = some f) (a b : Int64) :
    (∃ r, f a b = .ok r) ∨
    (f a b = .err Gen.EXC_RT_DIVIDE_BY_ZERO ∧ ((b = 0 ∧ (op = .div ∨ op = .mod)) ∨ (op = .exp ∧ a = 0 ∧ b < 0))) := by
  cases op <;> simp only [intOp, Option.some.injEq, reduceCtorEq] at h <;> subst h
  case div =>
    by_cases hb : b = 0
    · subst hb; exact .inr ⟨rfl, .inl ⟨rfl, .inl rfl⟩⟩
    · obtain ⟨⟨q, hq, -⟩, -⟩ := div_mod_defined a b hb
      exact .inl ⟨q, hq⟩
  case exp =>
    rcases ipow_cases a b with h | ⟨h, ha, hn⟩
    · exact .inl h
    · exact .inr ⟨h, .inr ⟨rfl, ha, hn⟩⟩
  case mod =>
    by_cases hb : b = 0
    · subst hb; exact .inr ⟨rfl, .inl ⟨rfl, .inr rfl⟩⟩
    · obtain ⟨-, r, hr, -⟩ := div_mod_defined a b hb
      exact .inl ⟨r, hr⟩
  all_goals exact .inl ⟨_, rfl⟩

/-- The integer operators on two operands of type integer — integers or typed nulls — yield type integer
(a value or a null), for ALL such values. -/
theorem integer_is_integer (op : BinOp) (f : Int64 → Int64 → Res Int64) (h : intOp op = some f)
    (a1 a2 v : Val) (same : Bool) (h1 : a1.type.major = .int) (h2 : a2.type.major = .int)
    (he : evalBin op a1 a2 same = .ok v) : v.type = Ty.int := by
  have hop : GenOps.eagerSwitch op = true ∧ binAct op .int .int = .int := by
    cases op <;> first | exact ⟨rfl, rfl⟩ | simp [intOp] at h
  rw [evalBin_eq op hop.1, switchOn, h1, h2, hop.2] at he
  split at he
  · cases he
  · exact Act.okP_num (P := (·.type = Ty.int)) rfl (fun _ => rfl) v he

/-- Unary minus and `~` on an integer value. -/
theorem evalUn_int (a : Int64) :
    evalUn .neg (.int a) = .ok (.int (Num.ineg a)) ∧ evalUn .not (.int a) = .ok (.int (Num.inot a)) ∧
    evalUn .pos (.int a) = .ok (.int a) := ⟨rfl, rfl, rfl⟩

example : evalBin .exp (.int 3) (.int 39) = .ok (.int 4052555153018976267) := by
  rw [evalBin_int .exp Num.ipow rfl, ipow_3_39]; rfl
example : evalBin .div (.int 1) (.int 0) = .err Gen.EXC_RT_DIVIDE_BY_ZERO := rfl

/-! ### An operation with a decimal operand is carried out in double precision and yields a decimal -/

/-- The arithmetic operators of the statement. -/
def isArith : BinOp → Bool
  | .add | .sub | .mul | .div | .exp | .mod => true
  | _ => false

/-- The conversion `(double)i` applied to an integer operand of a mixed pair. -/
def toDouble (i : Int64) : Num.F64 := Num.bits i.toFloat

/-- The arithmetic operators go through the table of Lemmas/OpsCases.lean with `fop` as their double function; a cell
with a decimal operand converts an integer operand (`true`) and applies it. -/
theorem isArith_table {op : BinOp} (h : isArith op = true) :
    GenOps.eagerSwitch op = true ∧ binAct op .num .num = .dec false false ∧
      binAct op .num .int = .dec false true ∧ binAct op .int .num = .dec true false := by
  cases op <;> first | exact absurd h (by decide) | exact ⟨rfl, rfl, rfl, rfl⟩

/-- decimal ∘ decimal: the double operation on the two payloads, result a decimal (op_*.cpp, NUMERIC×NUMERIC). -/
theorem decimal_decimal (op : BinOp) (h : isArith op = true) (x y : Num.F64) (same : Bool) :
    evalBin op (.num x) (.num y) same = numRes (fop op x y) := by
  obtain ⟨hop, hc, -⟩ := isArith_table h
  rw [evalBin_eq op hop]
  show (binAct op .num .num).run _ _ _ _ = _
  rw [hc]
  exact bind_numRes _

/-- decimal ∘ integer: the integer is converted to double, then as above; result a decimal. -/
theorem decimal_integer (op : BinOp) (h : isArith op = true) (x : Num.F64) (y : Int64) (same : Bool) :
    evalBin op (.num x) (.int y) same = numRes (fop op x (toDouble y)) := by
  obtain ⟨hop, -, hc, -⟩ := isArith_table h
  rw [evalBin_eq op hop]
  show (binAct op .num .int).run _ _ _ _ = _
  rw [hc]
  exact bind_numRes _

theorem integer_decimal (op : BinOp) (h : isArith op = true) (x : Int64) (y : Num.F64) (same : Bool) :
    evalBin op (.int x) (.num y) same = numRes (fop op (toDouble x) y) := by
  obtain ⟨hop, -, -, hc⟩ := isArith_table h
  rw [evalBin_eq op hop]
  show (binAct op .int .num).run _ _ _ _ = _
  rw [hc]
  exact bind_numRes _

/-- Totality of the decimal operations: a decimal is returned except for `/` and `%` with a zero
divisor (±0.0), which raise DIVIDE_BY_ZERO; never another error, never a hazard. -/
theorem fop_total (op : BinOp) (h : isArith op = true) (x y : Num.F64) :
    fop op x y =
      if (op = .div ∨ op = .mod) ∧ Num.isZero y = true then .err Gen.EXC_RT_DIVIDE_BY_ZERO
      else .ok (match op with
        | .add => Num.fadd x y | .sub => Num.fsub x y | .mul => Num.fmul x y | .div => Num.fdiv x y
        | .exp => Num.fpow x y | _ => Num.fmod x y) := by
  cases op <;> first
    | exact absurd h (by decide)
    | rfl
    | (simp only [fop, fdivChecked, fmodChecked, true_or, or_true, true_and])

/-- Unary minus and plus of a decimal are decimals. -/
theorem evalUn_decimal (x : Num.F64) :
    evalUn .neg (.num x) = .ok (.num (Num.fneg x)) ∧ evalUn .pos (.num x) = .ok (.num x) := ⟨rfl, rfl⟩

/-- **An operation with a decimal operand yields a decimal**, at full generality: for EVERY pair of
values (nulls, typed nulls, strings, tables, tuples, … included) of which one has type decimal, whatever
`+ - * / % **` returns — a number or a null — has type decimal (level 0). (When the other operand is
not numeric nothing is returned: the operator raises.) -/
theorem mixed_is_decimal (op : BinOp) (h : isArith op = true) (a1 a2 v : Val) (same : Bool)
    (hd : a1.type.major = .num ∨ a2.type.major = .num) (he : evalBin op a1 a2 same = .ok v) :
    v.type.major = .num ∧ v.type.level = 0 := by
  -- level and major of the value: `evalBin_ok_kind`; a decimal operand makes the major decimal: the table of `binMajor`
  have tbl : ∀ op ∈ allBinOps, isArith op = true → ∀ m ∈ allMajors,
      binMajor op .num m = .num ∧ binMajor op m .num = .num := by decide
  obtain ⟨hl, hm, -⟩ := evalBin_ok_kind op a1 a2 same v he
  refine ⟨hm.trans ?_, hl⟩
  rcases hd with e | e <;> rw [e]
  · exact (tbl op (mem_allBinOps op) h _ (mem_allMajors _)).1
  · exact (tbl op (mem_allBinOps op) h _ (mem_allMajors _)).2

/-- The parser's static type agrees: a decimal operand with an integer or decimal one types the node decimal. -/
theorem typeBin_decimal (op : BinOp) (h : isArith op = true) (t1 t2 : Ty)
    (h1 : t1.major = .num ∨ t1.major = .int) (h2 : t2.major = .num ∨ t2.major = .int)
    (hd : t1.major = .num ∨ t2.major = .num) : typeBin op t1 t2 = Ty.num := by
  -- the rule looks at the majors only: an entry of its table
  have tbl : ∀ op ∈ allBinOps, isArith op = true → ∀ m1 ∈ [Major.num, .int], ∀ m2 ∈ [Major.num, .int], m1 = .num ∨ m2 = .num →
      typeBin op { major := m1 } { major := m2 } = Ty.num := by decide
  rw [typeBin_majors]
  exact tbl op (mem_allBinOps op) h _ (by simpa using h1) _ (by simpa using h2) hd

example : evalBin .add (.int 1) (.num 0x3ff8000000000000) = .ok (.num (Num.fadd (toDouble 1) 0x3ff8000000000000)) := rfl
example : evalBin .div (.num 0x3ff0000000000000) (.num 0x8000000000000000) = .err Gen.EXC_RT_DIVIDE_BY_ZERO := by
  rw [decimal_decimal .div rfl, fop_total .div rfl, show Num.isZero 0x8000000000000000 = true by decide]; rfl
example : evalBin .mul (.null Ty.none) (.num 0) = .ok (.null Ty.num) ∧ (Val.num 0).type.major = .num := ⟨rfl, rfl⟩

/-! ### int(decimal): succeeds exactly when the value lies in the integer range -/

/-- **`int(d)` for ALL 2^64 bit patterns** (builtin_int.cpp NUMERIC → Model/Num.lean `intOfDecimal`,
which tests sign / exponent / mantissa fields of the pattern). Against the independent specification
Spec/Float.lean — the exact value of the double `b` is `scaled b / 2^1074` —: the conversion succeeds
exactly when `b` is a number (not NaN, not ±infinity) whose value `v` satisfies −2^63 ≤ v < 2^63, and it
then returns `v` truncated toward zero, exactly; in every other case it raises OUT_OF_RANGE. It never
reaches the C-level undefined conversion (`Hazard.floatToInt`). -/
theorem int_of_decimal_spec (b : UInt64) :
    mapInt (Num.intOfDecimal b) = ofIRes (Spec.F64.intOf b.toNat) := by
  rw [intOfDecimal_eq, Spec.F64.intOf]
  split
  · next h =>
    have hb := (inIntRange_iff_trunc _).mp h.2
    exact congrArg Res.ok (Int64.toInt_ofInt_of_le hb.1 hb.2)
  · rfl

/-- The specification itself on the boundary patterns (kernel evaluation of Spec/Float.lean): 1.0 is one
unit·2^1074, the smallest subnormal is one unit; 2.5 ↦ 2; 2^63 is out of range, −2^63 is in range; +inf is rejected. -/
example :
    Spec.F64.scaled 0x3ff0000000000000 = Spec.F64.unit ∧ Spec.F64.scaled 1 = 1 ∧
    Spec.F64.trunc 0x4004000000000000 = 2 ∧ Spec.F64.trunc 0xc004000000000000 = -2 ∧
    Spec.F64.intOf 0x43e0000000000000 = .outOfRange ∧
    Spec.F64.intOf 0xc3e0000000000000 = .val (-9223372036854775808) ∧
    Spec.F64.intOf 0x7ff0000000000000 = .outOfRange := by decide +kernel

/-- The same statement in the form of Spec/Arith.lean (`Spec.intOfDecimal`: the *truncated* value lies in
the range): the two formulations coincide on doubles (`Lemmas.intOf_eq_trunc_form`). -/
theorem int_of_decimal_spec_trunc (b : UInt64) :
    mapInt (Num.intOfDecimal b) = ofIRes (Spec.intOfDecimal (Spec.F64.truncOpt b.toNat)) := by
  rw [int_of_decimal_spec, intOf_eq_trunc_form]

/-- Success case spelled out. -/
theorem int_of_decimal_ok (b : UInt64) (h : Spec.F64.isFinite b.toNat ∧ Spec.F64.inIntRange b.toNat) :
    ∃ r, Num.intOfDecimal b = .ok r ∧ r.toInt = Spec.F64.trunc b.toNat :=
  mapInt_eq_ok (by rw [int_of_decimal_spec, Spec.F64.intOf, if_pos h]; rfl)

/-- Failure case spelled out: NaN, ±infinity and every value outside [−2^63, 2^63) raise OUT_OF_RANGE. -/
theorem int_of_decimal_out_of_range (b : UInt64)
    (h : ¬ (Spec.F64.isFinite b.toNat ∧ Spec.F64.inIntRange b.toNat)) :
    Num.intOfDecimal b = .err Gen.EXC_RT_OUT_OF_RANGE := by
  rw [intOfDecimal_eq, if_neg h]

/-- The built-in `int(x)` applied to a decimal argument (builtin_int.cpp, case NUMERIC — Model/Builtins.lean
`biInt`, the function the driver runs) IS this conversion: an integer value on success, the error unchanged
otherwise. With `int_of_decimal_ok` / `int_of_decimal_out_of_range`: `int(d)` succeeds exactly when the value
of `d` lies in the integer range and raises OUT_OF_RANGE otherwise. -/
theorem builtin_int_decimal (d : UInt64) :
    biInt (m := Res) [pure (Val.num d)] = intRes (Num.intOfDecimal d) := by
  show (Num.intOfDecimal d >>= fun i => pure (Val.int i)) = _
  exact bind_intRes _

/-- `Value::toInteger`, the range-checked conversion the built-ins and members use for decimal
positions and counts (Model/Builtins.lean `castToInt`), is the same function. -/
theorem castToInt_eq (b : UInt64) : castToInt b = Num.intOfDecimal b :=
  (intOfDecimal_eq_trunc b).symm

/-- Non-vacuity on the boundary patterns: 2^63 is out of range, −2^63 and the largest double below 2^63
are in range, 2.5 and −2.5 truncate toward zero, NaN / ±inf are rejected. -/
example :
    Num.intOfDecimal 0x43e0000000000000 = .err Gen.EXC_RT_OUT_OF_RANGE ∧
    mapInt (Num.intOfDecimal 0xc3e0000000000000) = .ok (-9223372036854775808) ∧
    mapInt (Num.intOfDecimal 0x43dfffffffffffff) = .ok 9223372036854774784 ∧
    mapInt (Num.intOfDecimal 0x4004000000000000) = .ok 2 ∧
    mapInt (Num.intOfDecimal 0xc004000000000000) = .ok (-2) ∧
    Num.intOfDecimal 0x7ff8000000000000 = .err Gen.EXC_RT_OUT_OF_RANGE ∧
    Num.intOfDecimal 0xfff0000000000000 = .err Gen.EXC_RT_OUT_OF_RANGE := by decide

end BlocV.C03
