/-
  Helper lemmas for C10: Base64 (blocc/builtin/base64.cpp as modelled by `b64encode`/`b64decode`).
  The 64-entry alphabet facts are checked by kernel evaluation over all 64 indices; the round trip is an
  induction over 3-byte groups, then the unpadded or the padded tail.
-/
import BlocV.Model.Builtins
namespace BlocV.Lemmas

theorem b64_alphabet : ∀ n : Fin 64, b64index (b64char n.val) = n.val ∧ b64char n.val ≠ 61 := by decide +kernel

theorem b64char_mod (n : Nat) : b64char n = b64char (n % 64) := by simp [b64char]

theorem b64index_b64char (n : Nat) : b64index (b64char n) = n % 64 := by
  rw [b64char_mod]; exact (b64_alphabet ⟨n % 64, Nat.mod_lt _ (by decide)⟩).1

theorem b64char_ne_pad (n : Nat) : b64char n ≠ 61 := by
  rw [b64char_mod]; exact (b64_alphabet ⟨n % 64, Nat.mod_lt _ (by decide)⟩).2

/-- A 24-bit number is the sum of its four 6-bit digits. -/
theorem digits64 (n : Nat) (h : n < 2 ^ 24) :
    n / 262144 % 64 * 262144 + n / 4096 % 64 * 4096 + n / 64 % 64 * 64 + n % 64 = n := by
  have e1 : n % 4096 = n % 64 + 64 * (n / 64 % 64) := Nat.mod_mul (a := 64) (b := 64)
  have e2 : n % 262144 = n % 4096 + 4096 * (n / 4096 % 64) := Nat.mod_mul (a := 4096) (b := 64)
  have e3 : n % 16777216 = n % 262144 + 262144 * (n / 262144 % 64) := Nat.mod_mul (a := 262144) (b := 64)
  have e4 : n % 16777216 = n := Nat.mod_eq_of_lt h
  omega

/-- One full group: the four characters of three bytes decode to the three bytes. -/
theorem b64_group (a b c : UInt8) :
    let n := a.toNat * 65536 + b.toNat * 256 + c.toNat
    let n' := b64index (b64char (n / 262144)) * 262144 + b64index (b64char (n / 4096)) * 4096
              + b64index (b64char (n / 64)) * 64 + b64index (b64char n)
    UInt8.ofNat (n' / 65536) = a ∧ UInt8.ofNat (n' / 256) = b ∧ UInt8.ofNat n' = c := by
  intro n n'
  have ha := a.toNat_lt; have hb := b.toNat_lt; have hc := c.toNat_lt
  have hn : n' = n := by
    simp only [n', b64index_b64char]
    exact digits64 n (by omega)
  rw [hn]
  simp only [UInt8.ofNat_eq_iff_mod_eq_toNat]
  omega

theorem b64encode_cons3 (a b c : UInt8) (rest : Bytes) :
    b64encode (a :: b :: c :: rest) =
      let n := a.toNat * 65536 + b.toNat * 256 + c.toNat
      b64char (n / 262144) :: b64char (n / 4096) :: b64char (n / 64) :: b64char n :: b64encode rest := by
  rw [b64encode]

/-- The encoding of `3k` bytes: it splits off whatever follows, has `4k` characters none of which is `=`, and the main
loop of the decoder reads the bytes back from it whatever comes behind. -/
theorem b64encode_groups : ∀ (k : Nat) (g t : Bytes), g.length = 3 * k →
    b64encode (g ++ t) = b64encode g ++ b64encode t ∧ (b64encode g).length = 4 * k ∧ (∀ c ∈ b64encode g, c ≠ 61) ∧
      ∀ E, b64decodeGroups k (b64encode g ++ E) = g := by
  intro k
  induction k with
  | zero =>
    intro g t h
    have : g = [] := List.eq_nil_of_length_eq_zero (by omega)
    subst this; simp [b64encode, b64decodeGroups]
  | succ k ih =>
    intro g t h
    match g, h with
    | a :: b :: c :: g', h =>
      have hg' : g'.length = 3 * k := by simp at h; omega
      obtain ⟨e1, e2, e3, e4⟩ := ih g' t hg'
      obtain ⟨h1, h2, h3⟩ := b64_group a b c
      simp only [List.cons_append, b64encode_cons3]
      refine ⟨by rw [e1], by simp [e2]; omega, ?_, fun E => by simp only [b64decodeGroups]; rw [h1, h2, h3, e4 E]⟩
      simp only [List.forall_mem_cons]
      exact ⟨b64char_ne_pad _, b64char_ne_pad _, b64char_ne_pad _, b64char_ne_pad _, e3⟩

theorem b64decode_tail0 (E : Bytes) (k : Nat) (hE : E.length = 4 * k) (hne : ∀ c ∈ E, c ≠ 61) :
    b64decode E = b64decodeGroups k E := by
  unfold b64decode
  by_cases hk : k = 0
  · subst hk
    have : E = [] := List.eq_nil_of_length_eq_zero (by omega)
    subst this; simp [b64decodeGroups]
  · have hl : (E.length == 0) = false := beq_eq_false_iff_ne.mpr (by omega)
    have hlast : (E.getLast? == some 61) = false := by
      cases h : E.getLast? with
      | none => rfl
      | some c =>
        have := hne c (List.mem_of_getLast? h)
        simp [this]
    have hm : E.length % 4 = 0 := by omega
    simp only [hl, hm, hlast]
    simp
    congr 1
    omega

/-- The padded tail: after `4k` characters a last group ending in `=`. With `c2` an `=` too the group holds one
byte, otherwise two. -/
theorem b64decode_padded (E : Bytes) (k : Nat) (hE : E.length = 4 * k) (c0 c1 c2 : UInt8) :
    b64decode (E ++ [c0, c1, c2, 61]) =
      b64decodeGroups k (E ++ [c0, c1, c2, 61]) ++
        UInt8.ofNat ((b64index c0 * 262144 + b64index c1 * 4096) / 65536) ::
          if c2 = 61 then [] else [UInt8.ofNat ((b64index c0 * 262144 + b64index c1 * 4096 + b64index c2 * 64) / 256)] := by
  have hlen : (E ++ [c0, c1, c2, 61]).length = 4 * k + 4 := by rw [List.length_append, hE]; rfl
  have hl : (E ++ [c0, c1, c2, 61]).getLast? = some 61 := by
    rw [List.getLast?_append]; rfl
  have hd : (E ++ [c0, c1, c2, 61]).drop (4 * k + 4 - 2) = [c2, 61] := by
    rw [show 4 * k + 4 - 2 = E.length + 2 by omega, List.drop_length_add_append]; rfl
  -- the last group starts where `E` ends
  have hlast : (4 * k + 4 - 1) / 4 * 4 = 4 * k := by omega
  have ht : (E ++ [c0, c1, c2, 61]).drop (4 * k) = [c0, c1, c2, 61] := hE ▸ List.drop_left
  unfold b64decode
  simp only [hlen, hd, hl, show (4 * k + 4) % 4 = 0 by omega, show (4 * k + 4 == 0) = false by simp]
  simp only [bne_self_eq_false, beq_self_eq_true, Bool.false_or, Bool.true_and, if_true, hlast, ht,
    Nat.mul_div_cancel_left k (show 0 < 4 by decide), show 4 * k + 1 < 4 * k + 4 by omega,
    Bool.false_eq_true, if_false, List.head?_cons, List.getD_cons_zero, List.getD_cons_succ]
  by_cases hc : c2 = 61
  · simp [hc]
  · simp [hc]

theorem split3 (x : Bytes) : ∃ (k : Nat) (g t : Bytes), x = g ++ t ∧ g.length = 3 * k ∧ t.length < 3 := by
  refine ⟨x.length / 3, x.take (3 * (x.length / 3)), x.drop (3 * (x.length / 3)), (List.take_append_drop _ _).symm, ?_, ?_⟩
  · rw [List.length_take]; omega
  · rw [List.length_drop]; omega

theorem b64decode_b64encode (x : Bytes) : b64decode (b64encode x) = x := by
  obtain ⟨k, g, t, rfl, hg, ht⟩ := split3 x
  obtain ⟨e1, e2, e3, hgr⟩ := b64encode_groups k g t hg
  rw [e1]
  match t, ht with
  | [], _ =>
    simp only [b64encode, List.append_nil]
    have h0 := hgr []
    rw [List.append_nil] at h0
    rw [b64decode_tail0 _ k e2 e3, h0]
  | [a], _ =>
    simp only [b64encode]
    rw [b64decode_padded _ k e2, hgr, if_pos rfl]
    congr 2
    simp only [UInt8.ofNat_eq_iff_mod_eq_toNat, b64index_b64char]
    have := a.toNat_lt
    omega
  | [a, b], _ =>
    simp only [b64encode]
    rw [b64decode_padded _ k e2, hgr, if_neg (b64char_ne_pad _)]
    have := a.toNat_lt
    have := b.toNat_lt
    congr 2
    · simp only [UInt8.ofNat_eq_iff_mod_eq_toNat, b64index_b64char]
      omega
    · congr 1
      simp only [UInt8.ofNat_eq_iff_mod_eq_toNat, b64index_b64char]
      omega

end BlocV.Lemmas
