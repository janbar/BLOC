/-
  Histories in which every switch of direction goes through a seek (`Disciplined`, Model/Mod/FileAbs.lean) never
  reach the undefined region of C11 7.21.5.3 p7 — the one-step lemma `step_disciplined`: `Pend` follows the record of the
  last transfer through whatever `Dir` (Lemmas/FileSeq.lean) lets a call do to it (`approx_next`). The property theorem built
  on it is `file_refines_spec_repositioned` (Proofs/C18F.lean).
-/
import BlocV.Proofs.Lemmas.FileSeq

namespace BlocV.Proofs.FileDir
open BlocV.Mod BlocV.Mod.File

theorem approx_eof (p : Pend) {l : LastIO} (h : l = .inputEof) : Approx p l := by
  subst h; exact And.intro (fun h2 => nomatch h2) (fun h2 => nomatch h2)

/-- `Pend` keeps describing the record along a call it allows, whatever of `Dir` the call does -/
theorem approx_next {m : Nat} {op : Op} {p : Pend} {old new : LastIO} (hop : StreamOp op) (ha : Approx p old)
    (hal : p.allows op = true) (hd : Dir m (toS op) old new) : Approx (p.next m op) new := by
  have wr : p ≠ .inp → (new = old ∨ new = .output) → Approx .out new := by
    rintro hp (rfl | rfl)
    · exact ⟨fun _ => rfl, fun h => absurd (ha.2 h) hp⟩
    · exact ⟨fun _ => rfl, nofun⟩
  have rd : p ≠ .out → (new = old ∨ new = .input ∨ new = .inputEof) → Approx .inp new := by
    rintro hp (rfl | rfl | rfl)
    · exact ⟨fun h => absurd (ha.1 h) hp, fun _ => rfl⟩
    · exact ⟨nofun, fun _ => rfl⟩
    · exact ⟨nofun, fun _ => rfl⟩
  have cleared : Approx (p.next m op) .none := ⟨nofun, nofun⟩
  cases op with
  | writeS s | writeB s =>
    cases s with
    | none => exact False.elim hop
    | some d => exact wr (bne_iff_ne.mp hal) hd
  | readS n | readB n =>
    cases n with
    | none => exact False.elim hop
    | some l => exact rd (bne_iff_ne.mp hal) hd
  | readln => exact rd (bne_iff_ne.mp hal) hd
  | flush =>
    cases hd
    simp only [Pend.next]
    by_cases hl : old = .output
    · rw [if_pos hl, if_pos (ha.1 hl)]; exact ⟨nofun, nofun⟩
    · rw [if_neg hl]
      -- `p` is weakened at most from `out` to `none`, and the record is not `output`
      exact ⟨fun h2 => absurd h2 hl, fun h2 => by rw [ha.2 h2]; rfl⟩
  | seekSet n =>
    cases n with
    | none => exact False.elim hop
    | some o =>
      rcases hd with rfl | ⟨rfl, hr⟩
      · exact cleared
      · have : inRange m o = false := by simpa [inRange] using fun h0 hm => hr ⟨rfl, h0, hm⟩
        simp only [Pend.next, this]; exact ha
  | seekCur n | seekEnd n =>
    cases n with
    | none => exact False.elim hop
    | some o =>
      rcases hd with rfl | ⟨rfl, _⟩
      · exact cleared
      · exact ha
  | position => cases hd; exact ha
  | _ => exact False.elim hop

/-- ONE call of a disciplined history: no `undefinedSeq`, and `Pend` keeps describing the stream's own record -/
theorem step_disciplined {w : World} {f : OFile} {op : Op} {p : Pend} (hf : w.h.file = some f) (hop : StreamOp op)
    (ha : Approx p f.last) (hal : p.allows op = true) :
    (step w op).2 ≠ .undefinedSeq
    ∧ ∃ f', (step w op).1.h.file = some f' ∧ (step w op).1.fs.maxOff = w.fs.maxOff ∧ Approx (p.next w.fs.maxOff op) f'.last := by
  rcases step_refines hf hop with h | ⟨_, hb⟩
  · have ⟨f1, h1, h2, hd, _⟩ := h
    exact ⟨h.defined, f1, h1, h2, approx_next hop ha hal hd⟩
  · exfalso
    rcases hb with ⟨hw, d, hd⟩ | ⟨hr, _, hi⟩
    · have : f.last ≠ .input := fun h => by rw [ha.2 h, hw] at hal; cases hal
      simp [badOutput, this] at hd
    · have : f.last ≠ .output := fun h => by rw [ha.1 h, hr] at hal; cases hal
      simp [badInput, this] at hi

end BlocV.Proofs.FileDir
