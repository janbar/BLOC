/-
  Helper lemmas for C10 on the substr family (`substr`, `subraw`, `lsubstr`, `rsubstr`): the lifts and error shorthands of
  Model/Builtins.lean at `m := Res` for `simp`, the `Int64` index arithmetic against Spec/Text.lean, the bodies at `m := Res`
  as nested `if` / `>>=`.
-/
import BlocV.Model.Builtins
import BlocV.Proofs.Lemmas.Res
import BlocV.Spec.Text
namespace BlocV.Lemmas

@[simp] theorem liftR_res {α} (r : Res α) : liftR (m := Res) r = r := rfl
@[simp] theorem argTypeErr_res {α} : (argTypeErr (m := Res) : Res α) = .err Gen.EXC_RT_FUNC_ARG_TYPE_S := rfl
@[simp] theorem rerr_res {α} (c : Nat) : (rerr (m := Res) c : Res α) = .err c := rfl

theorem lenI_toInt (s : Bytes) (h : s.length < 2 ^ 63) : (lenI s).toInt = s.length :=
  Int64.toInt_ofNat_of_lt h

theorem lenI_eq_zero (s : Bytes) (h : s.length < 2 ^ 63) : (lenI s == 0) = s.isEmpty := by
  have h1 := lenI_toInt s h
  cases s with
  | nil => rfl
  | cons a l =>
    have : lenI (a :: l) ≠ 0 := by
      intro e; rw [e] at h1; simp at h1; omega
    simpa using this

theorem imin_toInt (a b : Int64) : (imin a b).toInt = min a.toInt b.toInt := by
  unfold imin
  split <;> rename_i h <;> rw [Int64.lt_iff_toInt_lt] at h <;> omega

theorem imax_toInt (a b : Int64) : (imax a b).toInt = max a.toInt b.toInt := by
  unfold imax
  split <;> rename_i h <;> rw [Int64.lt_iff_toInt_lt] at h <;> omega

theorem sadd_eq (a b : Int64) : sadd a b =
    if -2 ^ 63 ≤ a.toInt + b.toInt ∧ a.toInt + b.toInt < 2 ^ 63 then .ok (a + b) else .haz .signedOverflow := rfl
theorem ssub_eq (a b : Int64) : ssub a b =
    if -2 ^ 63 ≤ a.toInt - b.toInt ∧ a.toInt - b.toInt < 2 ^ 63 then .ok (a - b) else .haz .signedOverflow := rfl

theorem toInt_add_of_range (a b : Int64) (h : -2 ^ 63 ≤ a.toInt + b.toInt ∧ a.toInt + b.toInt < 2 ^ 63) :
    (a + b).toInt = a.toInt + b.toInt := by
  rw [Int64.toInt_add, Int.bmod_eq_of_le] <;> omega
theorem toInt_sub_of_range (a b : Int64) (h : -2 ^ 63 ≤ a.toInt - b.toInt ∧ a.toInt - b.toInt < 2 ^ 63) :
    (a - b).toInt = a.toInt - b.toInt := by
  rw [Int64.toInt_sub, Int.bmod_eq_of_le] <;> omega

theorem lt_zero_iff (a : Int64) : a < 0 ↔ a.toInt < 0 := Int64.lt_iff_toInt_lt

/-- The arithmetic tail of `substr`/`subraw` once string, position and count are in hand (`c ≠ 0`). -/
def substrTail (s : Bytes) (a0 b0 : Int64) : Res Bytes :=
  substrRange (lenI s) a0 b0 >>= fun ab =>
  if ab.1 ≥ 0 && ab.2 > 0 then .ok (sliceBytes s ab.1 ab.2) else .ok []

/-- The signed index arithmetic of builtin_substr.cpp never overflows (for a length `c ≥ 0`, as every
`size()` stored into an `int64_t` is) and computes, on mathematical integers: the adjusted position
`A = a0 < 0 ? a0 + c : a0` and the count `A < 0 ? 0 : max(min(b, c − A), 0)` — for ALL `a0`, `b`,
INT64_MIN included (the guard `a < 0 ? 0 : …` of commit 3378b71 keeps `c - a` from being computed). -/
theorem substrRange_spec (c a0 b : Int64) (hc : 0 ≤ c.toInt) :
    ∃ a b', substrRange c a0 b = .ok (a, b') ∧
      a.toInt = (if a0.toInt < 0 then a0.toInt + c.toInt else a0.toInt) ∧
      b'.toInt = (if a.toInt < 0 then 0 else max (min b.toInt (c.toInt - a.toInt)) 0) := by
  have hc2 := Int64.toInt_lt c
  have ha1 := Int64.le_toInt a0
  -- the adjusted position `a`, then the count for any `a`
  obtain ⟨a, e, hA⟩ : ∃ a, substrRange c a0 b =
        (if a < 0 then pure (a, 0) else ssub c a >>= fun d => pure (a, imax (imin b d) 0)) ∧
      a.toInt = if a0.toInt < 0 then a0.toInt + c.toInt else a0.toInt := by
    unfold substrRange
    by_cases hneg : a0 < 0
    · have hn := (lt_zero_iff a0).mp hneg
      have hr : -2 ^ 63 ≤ a0.toInt + c.toInt ∧ a0.toInt + c.toInt < 2 ^ 63 := by omega
      exact ⟨a0 + c, by simp only [hneg, if_true, sadd_eq, hr, and_self, Res.ok_bind], by
        rw [toInt_add_of_range _ _ hr, if_pos hn]⟩
    · exact ⟨a0, by simp only [hneg, if_false, Res.pure_eq, Res.ok_bind],
        (if_neg fun h => hneg ((lt_zero_iff a0).mpr h)).symm⟩
  have ha2 := Int64.toInt_lt a
  rw [e]
  by_cases hneg : a < 0
  · exact ⟨a, 0, if_pos hneg, hA, (if_pos ((lt_zero_iff a).mp hneg)).symm⟩
  · have hn : ¬ a.toInt < 0 := fun h => hneg ((lt_zero_iff a).mpr h)
    have hr : -2 ^ 63 ≤ c.toInt - a.toInt ∧ c.toInt - a.toInt < 2 ^ 63 := by omega
    refine ⟨a, imax (imin b (c - a)) 0, by rw [if_neg hneg, ssub_eq, if_pos hr]; rfl, hA, ?_⟩
    rw [if_neg hn, imax_toInt, imin_toInt, toInt_sub_of_range _ _ hr]; rfl

theorem sliceBytes_infix (s : Bytes) (a b : Int64) : sliceBytes s a b <:+: s :=
  List.IsInfix.trans (List.take_prefix _ _).isInfix (List.drop_suffix _ _).isInfix

/-- The last line of `substrLike`: its test `b > 0` can go, a count `≤ 0` takes nothing. -/
theorem slice_spec (s : Bytes) (a b : Int64) :
    (if (decide (a ≥ 0) && decide (b > 0)) = true then Res.ok (sliceBytes s a b) else Res.ok []) =
      Res.ok (if 0 ≤ a.toInt then (s.drop a.toInt.toNat).take b.toInt.toNat else []) := by
  have e1 : (a ≥ 0) ↔ 0 ≤ a.toInt := Int64.le_iff_toInt_le
  have e2 : (b > 0) ↔ 0 < b.toInt := Int64.lt_iff_toInt_lt
  simp only [Bool.and_eq_true, decide_eq_true_eq, e1, e2]
  by_cases h1 : 0 ≤ a.toInt
  · by_cases h2 : 0 < b.toInt
    · simp only [h1, h2, and_self, if_true, sliceBytes, Int64.toNatClampNeg]
    · simp [h1, h2, show b.toInt.toNat = 0 by omega]
  · simp [h1]

/-- The index arithmetic of `substr` is exactly the specification, for every string of representable
length and ALL positions and counts (negative, oversized, INT64_MIN, INT64_MAX): no exclusion. -/
theorem substrTail_spec (s : Bytes) (hlen : s.length < 2 ^ 63) (a0 b0 : Int64) :
    substrTail s a0 b0 = .ok (Spec.Text.substr s a0.toInt (some b0.toInt)) := by
  have hc := lenI_toInt s hlen
  obtain ⟨a, b', he, hA, hB⟩ := substrRange_spec (lenI s) a0 b0 (by rw [hc]; omega)
  rw [substrTail, he, Res.ok_bind, slice_spec, hB, hA, hc, Spec.Text.substr]
  -- the count's guard `a < 0 ? 0 : …` is the specification's `0 ≤ a`
  generalize (if a0.toInt < 0 then a0.toInt + (s.length : Int) else a0.toInt) = A
  by_cases h : 0 ≤ A
  · rw [if_pos h, if_pos h, if_neg (Int.not_lt.mpr h)]; rfl
  · rw [if_neg h, if_neg h]

theorem substrTail_bind (mk : Bytes → Val) (s : Bytes) (a0 b0 : Int64) :
    (substrTail s a0 b0 >>= fun r => Res.ok (mk r)) =
      (substrRange (lenI s) a0 b0 >>= fun ab =>
        if (decide (ab.1 ≥ 0) && decide (ab.2 > 0)) = true then Res.ok (mk (sliceBytes s ab.1 ab.2))
        else Res.ok (mk [])) := by
  unfold substrTail
  cases substrRange (lenI s) a0 b0 with
  | ok ab => simp only [Res.ok_bind]; split <;> rfl
  | _ => rfl

theorem substrLike_res3 (major : Major) (nullTy : Ty) (get : Val → Res Bytes) (mk : Bytes → Val) (v0 v1 v2 : Val)
    (rest : List (Res Val)) :
    substrLike (m := Res) major nullTy get mk (.ok v0 :: .ok v1 :: .ok v2 :: rest) =
      if v0.type.major == .none then .ok (.null nullTy)
      else if v0.type.major != major then .err Gen.EXC_RT_FUNC_ARG_TYPE_S
      else readPos v1 >>= fun p1 => match p1 with
        | .retVal => .ok v0
        | .pos a0 => if v0.isNull then .ok v0 else
          get v0 >>= fun s => readPos v2 >>= fun p2 => match p2 with
            | .retVal => .ok v0
            | .pos b0 => if lenI s == 0 then .ok v0 else substrTail s a0 b0 >>= fun r => .ok (mk r) := by
  simp only [substrLike, Res.ok_bind, Res.pure_eq, argTypeErr_res, Res.liftM_eq, substrTail_bind]
  rfl

theorem substrLike_res2 (major : Major) (nullTy : Ty) (get : Val → Res Bytes) (mk : Bytes → Val) (v0 v1 : Val) :
    substrLike (m := Res) major nullTy get mk [.ok v0, .ok v1] =
      if v0.type.major == .none then .ok (.null nullTy)
      else if v0.type.major != major then .err Gen.EXC_RT_FUNC_ARG_TYPE_S
      else readPos v1 >>= fun p1 => match p1 with
        | .retVal => .ok v0
        | .pos a0 => if v0.isNull then .ok v0 else
          get v0 >>= fun s => if lenI s == 0 then .ok v0 else substrTail s a0 (lenI s) >>= fun r => .ok (mk r) := by
  simp only [substrLike, Res.ok_bind, Res.pure_eq, argTypeErr_res, Res.liftM_eq, substrTail_bind]
  rfl

theorem spec_substr_nil (p : Int) (c : Option Int) : Spec.Text.substr [] p c = [] := by
  unfold Spec.Text.substr; simp

/-- The tail of `substr`/`subraw` once the first argument is known to be a non-null value `mk s` of the right type:
the empty string comes back as it is, otherwise the slice. Either way it is the specification. -/
theorem substrTail_or_self (mk : Bytes → Val) (s : Bytes) (hlen : s.length < 2 ^ 63) (a0 b0 : Int64) :
    (if lenI s == 0 then Res.ok (mk s) else substrTail s a0 b0 >>= fun r => .ok (mk r)) =
      .ok (mk (Spec.Text.substr s a0.toInt (some b0.toInt))) := by
  rw [lenI_eq_zero s hlen]
  cases s with
  | nil => rw [spec_substr_nil]; rfl
  | cons c r => rw [substrTail_spec _ hlen]; rfl

/-- `substr` / `subraw` on a non-null operand `mk s` and ANY position and count values that `readPos` reads as positions
(an integer; a decimal inside the integer range): the specification. -/
theorem substrLike_pos3 (major : Major) (nullTy : Ty) (get : Val → Res Bytes) (mk : Bytes → Val) (s : Bytes)
    (hlen : s.length < 2 ^ 63) (hm : (mk s).type.major = major) (hne : (major == .none) = false) (hnn : (mk s).isNull = false)
    (hget : get (mk s) = .ok s) {v1 v2 : Val} {a0 b0 : Int64} (h1 : readPos v1 = .ok (.pos a0))
    (h2 : readPos v2 = .ok (.pos b0)) :
    substrLike (m := Res) major nullTy get mk [.ok (mk s), .ok v1, .ok v2] =
      .ok (mk (Spec.Text.substr s a0.toInt (some b0.toInt))) := by
  rw [substrLike_res3, hm, hnn, hget, h1, h2]
  simp only [hne, bne_self_eq_false, Bool.false_eq_true, if_false]
  exact substrTail_or_self mk s hlen a0 b0

theorem substrLike_pos2 (major : Major) (nullTy : Ty) (get : Val → Res Bytes) (mk : Bytes → Val) (s : Bytes)
    (hlen : s.length < 2 ^ 63) (hm : (mk s).type.major = major) (hne : (major == .none) = false) (hnn : (mk s).isNull = false)
    (hget : get (mk s) = .ok s) {v1 : Val} {a0 : Int64} (h1 : readPos v1 = .ok (.pos a0)) :
    substrLike (m := Res) major nullTy get mk [.ok (mk s), .ok v1] =
      .ok (mk (Spec.Text.substr s a0.toInt none)) := by
  rw [substrLike_res2, hm, hnn, hget, h1]
  simp only [hne, bne_self_eq_false, Bool.false_eq_true, if_false]
  -- the absent count is read as the length, in the C++ and (`count.getD c`) in the specification
  have := substrTail_or_self mk s hlen a0 (lenI s)
  rw [lenI_toInt s hlen] at this
  exact this

theorem lrSubstr_res (left : Bool) (v0 v1 : Val) (rest : List (Res Val)) :
    lrSubstr (m := Res) left (.ok v0 :: .ok v1 :: rest) =
      if v0.type.major == .none then .ok (.null Ty.str)
      else if v0.type.major != .str then .err Gen.EXC_RT_FUNC_ARG_TYPE_S
      else readPos v1 >>= fun p1 => match p1 with
        | .retVal => .ok v0
        | .pos b => if v0.isNull then .ok v0 else
          v0.asStr >>= fun s => if lenI s == 0 then .ok v0 else
            if left then .ok (.str (s.take (imax (imin b (lenI s)) 0).toNatClampNeg))
            else .ok (.str (s.drop (lenI s - imax (imin b (lenI s)) 0).toNatClampNeg)) := by
  simp only [lrSubstr, Res.ok_bind, Res.pure_eq, argTypeErr_res, Res.liftM_eq]
  rfl

theorem clampCount_toInt (s : Bytes) (hlen : s.length < 2 ^ 63) (b : Int64) :
    (imax (imin b (lenI s)) 0).toInt = (min b.toInt.toNat s.length : Nat) := by
  rw [imax_toInt, imin_toInt, lenI_toInt s hlen]
  show max (min b.toInt s.length) 0 = _
  omega

theorem ltake_spec (s : Bytes) (hlen : s.length < 2 ^ 63) (b : Int64) :
    s.take (imax (imin b (lenI s)) 0).toNatClampNeg = Spec.Text.lsubstr s b.toInt := by
  rw [Int64.toNatClampNeg, clampCount_toInt s hlen b, Int.toNat_natCast, ← List.take_eq_take_min]; rfl

theorem rdrop_spec (s : Bytes) (hlen : s.length < 2 ^ 63) (b : Int64) :
    s.drop (lenI s - imax (imin b (lenI s)) 0).toNatClampNeg = Spec.Text.rsubstr s b.toInt := by
  have hc := clampCount_toInt s hlen b
  have hl := lenI_toInt s hlen
  rw [Int64.toNatClampNeg, toInt_sub_of_range _ _ (by omega), hc, hl]
  exact congrArg (s.drop ·) (by omega)

/-- `lsubstr` / `rsubstr` on a string and any count value that `readPos` reads as a position are the specification, for
every count. -/
theorem lrSubstr_pos (left : Bool) (s : Bytes) (hlen : s.length < 2 ^ 63) {v1 : Val} {b : Int64}
    (h1 : readPos v1 = .ok (.pos b)) :
    lrSubstr (m := Res) left [.ok (.str s), .ok v1] =
      .ok (.str (if left then Spec.Text.lsubstr s b.toInt else Spec.Text.rsubstr s b.toInt)) := by
  rw [lrSubstr_res, h1]
  show (if lenI s == 0 then Res.ok (Val.str s) else
    if left then .ok (.str (s.take _)) else .ok (.str (s.drop _))) = _
  rw [ltake_spec s hlen, rdrop_spec s hlen, lenI_eq_zero s hlen]
  cases s with
  | nil => cases left <;> simp [Spec.Text.lsubstr, Spec.Text.rsubstr]
  | cons c r => cases left <;> rfl
end BlocV.Lemmas
