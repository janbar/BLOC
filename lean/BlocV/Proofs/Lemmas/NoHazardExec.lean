/-
  For C01 (whole programs): the syntactic side conditions (`litE` …: literals are well-formed values; `FuncsOk`), the loop runners
  `whileLoop` / `forLoop` / `forallLoop` under the invariant `Inv L`, and the mutual induction `nh_all` over the eight functions of the
  interpreter: from a state satisfying `Inv L` (well-formed, every traversed table variable locked), code the parser accepts under the
  lock `L` (`lockE` / `lockS` …, Model/Interp.lean) reaches no hazard that counts and leaves a state satisfying `Inv L`. Used as black
  boxes: `sameIters_all` (control stack restored), `lock_all` (a locked table keeps its size), `member_locked_writeback` (a member call on a
  locked root writes back what the variable held). The steps are this file's own, not the shared `eval_rules` … `exec_rules` of
  Interp.lean: `NH` carries a postcondition on the values read (a leaf such as `condTaken v` is free of hazard only because `v` is
  `okVal`), which the predicate `T` of those steps cannot say.
-/
import BlocV.Proofs.Lemmas.NoHazardState
import BlocV.Proofs.Lemmas.NoHazardCalls
import BlocV.Proofs.Lemmas.Lock
namespace BlocV.NHI
open BlocV.Lemmas
variable {bad : Hazard → Bool} {sub : Bool}

mutual
  /-- every literal of the expression is a deep-well-formed value (the elaborator produces scalars and typed nulls only); with
  `sub = false` moreover: no call of `substr` / `subraw` (the two built-ins whose index arithmetic keeps a hazard in the model) -/
  def litE (sub : Bool) : Expr → Bool
    | .lit v => okVal v
    | .var _ => true
    | .errorE => true
    | .un _ a => litE sub a
    | .bin _ a b => litE sub a && litE sub b
    | .call name args => (sub || (name != "substr" && name != "subraw")) && litEs sub args
    | .fcall _ args => litEs sub args
    | .member _ recv args => litE sub recv && litEs sub args
    | .item e _ => litE sub e
  def litEs (sub : Bool) : List Expr → Bool
    | [] => true
    | a :: as => litE sub a && litEs sub as
end

mutual
  def litS (sub : Bool) : Stmt → Bool
    | .letS _ e => litE sub e
    | .doS e => litE sub e
    | .printS es => litEs sub es
    | .ifS rules => litRules sub rules
    | .whileS c body => litE sub c && litL sub body
    | .forS _ b e st _ body => litE sub b && litE sub e && (match st with | some x => litE sub x | none => true) && litL sub body
    | .forallS _ src _ body => litE sub src && litL sub body
    | .beginS body catches => litL sub body && litCatches sub catches
    | .returnS (some e) => litE sub e
    | .returnS none => true
    | .nop => true
    | .raiseS _ => true
    | .breakS => true
    | .continueS => true
    | .funcS _ _ _ body catches => litL sub body && litCatches sub catches      -- wherever the declaration stands
  def litL (sub : Bool) : List Stmt → Bool
    | [] => true
    | s :: rest => litS sub s && litL sub rest
  def litRules (sub : Bool) : List (Option Expr × List Stmt) → Bool
    | [] => true
    | (c, body) :: rest => (match c with | some x => litE sub x | none => true) && litL sub body && litRules sub rest
  def litCatches (sub : Bool) : List (String × List Stmt) → Bool
    | [] => true
    | (_, body) :: rest => litL sub body && litCatches sub rest
end

theorem litEs_eq_all (sub : Bool) (as : List Expr) : litEs sub as = as.all (litE sub) :=
  List.all_of_cons rfl (fun _ _ => rfl) as

theorem litL_eq_all (sub : Bool) (l : List Stmt) : litL sub l = l.all (litS sub) :=
  List.all_of_cons rfl (fun _ _ => rfl) l

theorem litCatches_eq_all (sub : Bool) (cs : List (String × List Stmt)) : litCatches sub cs = cs.all fun c => litL sub c.2 :=
  List.all_of_cons rfl (fun _ _ => rfl) cs

/-- what the parser guarantees of every function of the table: the body was compiled in its own context (nothing locked there) -/
def FuncsOk (sub : Bool) (funcs : List Func) : Prop :=
  ∀ f ∈ funcs, lockL [] f.body = true ∧ lockCatches [] f.catches = true ∧ litL sub f.body = true ∧ litCatches sub f.catches = true

theorem whileLoop_nh {I : St → Prop} {cond : EvalM Val} {body : EvalM Flow} (hc : NH bad I okV cond) (hb : NH bad I (fun _ => True) body) :
    ∀ k, NH bad I (fun _ => True) (whileLoop cond body k) := by
  intro k
  induction k with
  | zero => exact NH.oof
  | succ k ih =>
    unfold whileLoop
    refine NH.bind hc (fun v hv => ?_)
    -- the condition test is `condTaken v`
    refine NH.bind_lift (condTaken_nb v hv) (fun t _ => NH.ite _ (fun _ => NH.pure trivial) fun _ => NH.bind hb (fun fl _ => ?_))
    split
    · exact ih
    · exact ih
    · exact NH.pure trivial
    · exact NH.pure trivial

theorem forLoop_nh {L : List String} {body : EvalM Flow} {v : String} (hv : v ∉ L) {mn mx step : Int64}
    (hb : NH bad (Inv L) (fun _ => True) body) : ∀ k, NH bad (Inv L) (fun _ => True) (forLoop body v mn mx step k) := by
  intro k
  induction k with
  | zero => exact NH.oof
  | succ k ih =>
    unfold forLoop
    refine NH.bind hb (fun fl _ => ?_)
    split
    · exact NH.pure trivial
    · exact NH.pure trivial
    all_goals
      refine NH.bind NH.getSt (fun s hs => ?_)
      refine NH.bind_lift (nb_of_nh ?_) (fun cur _ => ?_)
      · split
        · rfl
        · exact asInt_no_hazard (tabOk_of_okVal (okVal_lookupVar hs.1 v)) (nn_of_not ‹_›)
      exact NH.ite _ (fun _ => NH.pure trivial) fun _ =>
        NH.bind (NH.modifySt (fun st hst => hst.setVar_unlocked v _ (okVal_int _) hv)) (fun _ _ => ih)

theorem forallNext_lt {desc : Bool} {i n j : Nat} (h : forallNext desc i n = some j) : j < n := by
  revert h
  fun_cases forallNext desc i n
  all_goals rintro ⟨⟩
  all_goals assumption

theorem forallLoop_nh {L : List String} (body : EvalM Flow) (it : String) (desc : Bool)
    (hb : NH bad (Inv L) (fun _ => True) body) : ∀ k, NH bad (Inv L) (fun _ => True) (forallLoop body it desc k) :=
  forallLoop_run (G := Post bad (Inv L) fun _ => True) hb (fun _ _ h => h.2.1) (fun _ _ hs h => ⟨nb_of_nh h, hs, fun _ _ => trivial⟩)
    fun _ _ _ _ hs hit hn => hs.setIdx hit (forallNext_lt hn)

def AllNH (bad : Hazard → Bool) (sub : Bool) (funcs : List Func) (fuel : Nat) : Prop :=
  (∀ L depth e, lockE L e = true → litE sub e = true → NH bad (Inv L) okV (eval funcs depth fuel e)) ∧
  (∀ L depth name args, lockEs L args = true → litEs sub args = true → NH bad (Inv L) okV (callFunc funcs depth fuel name args)) ∧
  (∀ L depth args, lockEs L args = true → litEs sub args = true → NH bad (Inv L) (fun vs => okVals vs = true) (evalArgs funcs depth fuel args)) ∧
  (∀ L depth body catches, lockL L body = true → lockCatches L catches = true → litL sub body = true → litCatches sub catches = true →
      NH bad (Inv L) (fun _ => True) (execBlock funcs depth fuel body catches)) ∧
  (∀ L depth l, lockL L l = true → litL sub l = true → NH bad (Inv L) (fun _ => True) (execList funcs depth fuel l)) ∧
  (∀ L depth st, lockS L st = true → litS sub st = true → NH bad (Inv L) (fun _ => True) (exec funcs depth fuel st)) ∧
  (∀ L depth es, lockEs L es = true → litEs sub es = true → NH bad (Inv L) (fun _ => True) (evalPrint funcs depth fuel es)) ∧
  (∀ L depth rules, lockRules L rules = true → litRules sub rules = true → NH bad (Inv L) (fun _ => True) (execIf funcs depth fuel rules))

theorem AllNH.eval {funcs : List Func} {fuel : Nat} (h : AllNH bad sub funcs fuel) :
    ∀ L depth e, lockE L e = true → litE sub e = true → NH bad (Inv L) okV (eval funcs depth fuel e) := h.1

theorem AllNH.execList {funcs : List Func} {fuel : Nat} (h : AllNH bad sub funcs fuel) :
    ∀ L depth l, lockL L l = true → litL sub l = true → NH bad (Inv L) (fun _ => True) (execList funcs depth fuel l) := h.2.2.2.2.1

theorem nargs_of_ih {funcs : List Func} {fuel depth : Nat} {L : List String}
    (ihE : ∀ L depth e, lockE L e = true → litE sub e = true → NH bad (Inv L) okV (eval funcs depth fuel e))
    {args : List Expr} (hl : lockEs L args = true) (hv : litEs sub args = true) :
    NArgs bad (Inv L) (args.map (eval funcs depth fuel)) := by
  intro t ht
  obtain ⟨a, ha, rfl⟩ := List.mem_map.1 ht
  exact ihE L depth a (lockEs_mem L _ hl a ha) (List.all_eq_true.1 (litEs_eq_all sub args ▸ hv) a ha)

theorem eval_nh_step (hb : bad .signedOverflow = false ∨ sub = false) (funcs : List Func) (fuel : Nat) (ih : AllNH bad sub funcs fuel)
    (L : List String) (depth : Nat) (e : Expr) (hl : lockE L e = true) (hv : litE sub e = true) :
    NH bad (Inv L) okV (eval funcs depth (fuel + 1) e) := by
  obtain ⟨ihE, ihC, ihA, -, -, -, -, -⟩ := ih
  unfold eval
  split
  all_goals try simp only [lockE, litE, Bool.and_eq_true] at hl hv
  · -- lit
    exact NH.pure hv
  · -- var
    exact NH.getSt_bind fun s hs => Post.lift (readVar_nhr hs _) hs
  · -- un
    exact NH.bind (ihE L _ _ hl hv) (fun v h1 => NH.lift (evalUn_nhr _ _ h1))
  · -- band
    refine NH.bind (ihE L _ _ hl.1 hv.1) (fun v1 h1 => ?_)
    dsimp only
    refine NH.ite _ (fun _ => ?_) (fun _ => ?_)
    · refine NH.bind (ihE L _ _ hl.2 hv.2) (fun v2 h2 => ?_)
      exact NH.lift (evalBin_nhr .band v1 v2 false h1 h2)
    · exact NH.lift (evalBin_nhr .band v1 (.null Ty.none) false h1 (okVal_null _))
  · -- bior
    refine NH.bind (ihE L _ _ hl.1 hv.1) (fun v1 h1 => ?_)
    dsimp only
    refine NH.ite _ (fun _ => ?_) (fun _ => ?_)
    · refine NH.bind (ihE L _ _ hl.2 hv.2) (fun v2 h2 => ?_)
      exact NH.lift (evalBin_nhr .bior v1 v2 false h1 h2)
    · exact NH.lift (evalBin_nhr .bior v1 (.null Ty.none) false h1 (okVal_null _))
  · -- bin
    refine NH.bind (ihE L _ _ hl.1 hv.1) (fun v1 h1 => ?_)
    refine NH.bind (ihE L _ _ hl.2 hv.2) (fun v2 h2 => ?_)
    exact NH.lift (evalBin_nhr _ v1 v2 _ h1 h2)
  · -- tab
    exact biTab_walk (evalWalk bad (Inv L)) _ (nargs_of_ih ihE hl hv.2)
  · -- tup
    exact biTup_walk (evalWalk bad (Inv L)) _ (nargs_of_ih ihE hl hv.2)
  · -- call
    rename_i name args _ _
    have hb' : bad .signedOverflow = false ∨ (name ≠ "substr" ∧ name ≠ "subraw") :=
      hb.imp_right fun h => by simpa only [h, Bool.false_or, Bool.and_eq_true, bne_iff_ne, ne_eq] using hv.1
    split
    · rename_i r hr
      exact evalBuiltin_nh hb' (nargs_of_ih ihE hl hv.2) hr
    · exact NH.lift NHR.unm
  · -- fcall
    exact ihC L _ _ _ hl hv
  · -- member
    rename_i e0 m recv args
    obtain ⟨⟨hmut, hrecv⟩, hargs⟩ := hl
    intro s hs
    refine Post.bind (ihE L depth recv hrecv hv.1 s hs) fun rv s1 hr hrv hs1 => ?_
    refine Post.bind (ihA L depth args hargs hv.2 s1 hs1) fun avs s2 ha havs hs2 => ?_
    refine Post.bind_lift (memberCall_nhr (bad := bad) m rv avs false hrv havs) hs2 fun p hm hp => ?_
    obtain ⟨r, rv'⟩ := p
    cases hroot : rootVar recv with
    | none => exact Post.lift (NHR.ok hp.1) hs2
    | some n =>
      refine Post.getSt_bind (Post.ite (fun _ => Post.lift NHR.unm hs2) fun hany => ?_)
      refine Post.lift (NHR.ok hp.1) (hs2.setVar n rv' hp.2 fun b hbm hsrc => ?_)
      -- `n` is being traversed: it is locked, so the receiver is the variable itself and the member does not mutate
      have hnL : n ∈ L := hs2.2 b hbm n hsrc
      obtain ⟨rfl, rfl⟩ := member_locked_writeback hnL hmut hrecv hroot hr ha hm hany
      exact (((lock_all n funcs fuel).evalArgs L depth args hnL hargs).run ha).symm
  · -- error
    exact NH.getSt_bind fun s hs => Post.lift (errorTuple_nhr _) hs
  · -- item
    exact itemAt_walk (evalWalk bad (Inv L)) _ (ihE L _ _ hl hv) _ itemAtV_nhr

theorem inv_calleeInit (f : Func) (vals : List Val) (caller : St) (hv : okVals vals = true) : Inv [] (calleeInit f vals caller) := by
  refine ⟨⟨?_, ?_, ?_, ?_, List.nodup_nil⟩, ?_⟩
  · -- the declared variables start as typed nulls; then each parameter receives its argument
    show ∀ p ∈ ((f.params.map (·.1)).zip vals).foldl (fun vs (x : String × Val) => setVar vs x.1 x.2) _, okVal p.2 = true
    refine List.foldlRecOn (motive := fun vs : List (String × Val) => ∀ p ∈ vs, okVal p.2 = true) _ _ (fun p hp => ?_)
      fun vs hvs x hx => okVars_setVar hvs x.1 ((okVals_iff vals).1 hv _ (List.of_mem_zip hx).2)
    obtain ⟨q, _, rfl⟩ := List.mem_map.1 hp
    exact okVal_null _
  · intro v h; cases h
  · intro b h; cases h
  · intro b h; cases h
  · intro b h; cases h

theorem finishCall_nh {L : List String} {caller : St} {r : Res Flow × St} (hc : Inv L caller) (hr : Post bad (Inv []) (fun _ => True) r) :
    Post bad (Inv L) okV (finishCall caller r) := by
  obtain ⟨r1, s'⟩ := r
  have hback : Inv L ({ caller with out := s'.out, budget := s'.budget } : St) := hc.frame
  unfold finishCall
  cases r1 with
  | ok fl =>
    refine Post.lift (NHR.ok ?_) hback
    cases hret : s'.returned with
    | none => exact okVal_null _
    | some v => exact hr.2.1.1.ret v hret
  | err c a => exact Post.lift NHR.err hback
  | haz x => exact Post.lift (NHR.haz (hr.1 x rfl)) hback
  | unmodelled => exact Post.lift NHR.unm hback

theorem callFunc_nh_step (funcs : List Func) (hF : FuncsOk sub funcs) (fuel : Nat) (ih : AllNH bad sub funcs fuel)
    (L : List String) (depth : Nat) (name : String) (args : List Expr) (hl : lockEs L args = true) (hv : litEs sub args = true) :
    NH bad (Inv L) okV (callFunc funcs depth (fuel + 1) name args) := by
  obtain ⟨-, -, ihA, ihB, -, -, -, -⟩ := ih
  unfold callFunc
  split
  · exact NH.lift NHR.unm
  · rename_i f hfind
    have hf := hF f (List.mem_of_find?_eq_some hfind)
    split
    · exact NH.failE _ _
    · refine NH.bind (ihA L _ _ hl hv) (fun vals hvals => ?_)
      intro caller hc
      exact finishCall_nh hc (ihB [] (depth + 1) f.body f.catches hf.1 hf.2.1 hf.2.2.1 hf.2.2.2 _ (inv_calleeInit f vals caller hvals))

theorem evalArgs_nh_step (funcs : List Func) (fuel : Nat) (ih : AllNH bad sub funcs fuel)
    (L : List String) (depth : Nat) (args : List Expr) (hl : lockEs L args = true) (hv : litEs sub args = true) :
    NH bad (Inv L) (fun vs => okVals vs = true) (evalArgs funcs depth (fuel + 1) args) := by
  obtain ⟨ihE, -, ihA, -, -, -, -, -⟩ := ih
  cases args with
  | nil => unfold evalArgs; exact NH.pure rfl
  | cons a as =>
    simp only [lockEs, litEs, Bool.and_eq_true] at hl hv
    unfold evalArgs
    refine NH.bind (ihE L _ _ hl.1 hv.1) (fun v h1 => ?_)
    refine NH.bind (ihA L _ _ hl.2 hv.2) (fun vs h2 => ?_)
    exact NH.pure (by simp [h1, h2])

theorem execBlock_nh_step (funcs : List Func) (fuel : Nat) (ih : AllNH bad sub funcs fuel)
    (L : List String) (depth : Nat) (body : List Stmt) (catches : List (String × List Stmt))
    (hb : lockL L body = true) (hc : lockCatches L catches = true) (hvb : litL sub body = true) (hvc : litCatches sub catches = true) :
    NH bad (Inv L) (fun _ => True) (execBlock funcs depth (fuel + 1) body catches) := by
  obtain ⟨-, -, -, -, ihL, -, -, -⟩ := ih
  intro s hs
  have h1 : Post bad (Inv L) (fun _ => True) _ := ihL L depth body hb hvb s hs
  refine execBlock_cases h1 fun c a s' n handler heq _ hfind => ?_
  rw [heq] at h1
  have h2 : Post bad (Inv L) (fun _ => True) _ := ihL L depth handler (lockCatches_find L _ catches _ handler hc hfind)
    (List.all_find? (q := fun c => litL sub c.2) (litCatches_eq_all sub catches ▸ hvc) hfind) { s' with lastErr := (c, a) } (h1.2.1.frame)
  unfold handlerExit
  split
  · rename_i fl s2 heq2
    rw [heq2] at h2
    exact Post.lift (NHR.ok trivial) (h2.2.1.frame)
  · exact h2

theorem execList_nh_step (funcs : List Func) (fuel : Nat) (ih : AllNH bad sub funcs fuel)
    (L : List String) (depth : Nat) (l : List Stmt) (hl : lockL L l = true) (hv : litL sub l = true) :
    NH bad (Inv L) (fun _ => True) (execList funcs depth (fuel + 1) l) := by
  obtain ⟨-, -, -, -, ihL, ihS, -, -⟩ := ih
  cases l with
  | nil => unfold execList; exact NH.pure trivial
  | cons a as =>
    simp only [lockL, litL, Bool.and_eq_true] at hl hv
    unfold execList
    refine NH.bind (ihS L _ _ hl.1 hv.1) (fun fl _ => ?_)
    split
    · exact ihL L _ _ hl.2 hv.2
    · exact NH.pure trivial

theorem evalPrint_nh_step (funcs : List Func) (fuel : Nat) (ih : AllNH bad sub funcs fuel)
    (L : List String) (depth : Nat) (l : List Expr) (hl : lockEs L l = true) (hv : litEs sub l = true) :
    NH bad (Inv L) (fun _ => True) (evalPrint funcs depth (fuel + 1) l) := by
  obtain ⟨ihE, -, -, -, -, -, ihP, -⟩ := ih
  cases l with
  | nil => unfold evalPrint; exact NH.pure trivial
  | cons a as =>
    simp only [lockEs, litEs, Bool.and_eq_true] at hl hv
    unfold evalPrint
    refine NH.bind (ihE L _ _ hl.1 hv.1) (fun v h1 => ?_)
    refine NH.bind_lift (printVal_nb v) (fun bs _ => ?_)
    refine NH.bind (NH.modifySt (fun st hst => hst.frame)) (fun _ _ => ?_)
    exact ihP L _ _ hl.2 hv.2

theorem execIf_nh_step (funcs : List Func) (fuel : Nat) (ih : AllNH bad sub funcs fuel)
    (L : List String) (depth : Nat) (l : List (Option Expr × List Stmt)) (hl : lockRules L l = true) (hv : litRules sub l = true) :
    NH bad (Inv L) (fun _ => True) (execIf funcs depth (fuel + 1) l) := by
  obtain ⟨ihE, -, -, -, ihL, -, -, ihI⟩ := ih
  cases l with
  | nil => unfold execIf; exact NH.pure trivial
  | cons a as =>
    obtain ⟨c, b⟩ := a
    cases c <;> simp only [lockRules, litRules, Bool.and_eq_true, Bool.true_and] at hl hv <;> unfold execIf
    · exact ihL L _ _ hl.1 hv.1
    · rename_i x
      refine NH.bind (ihE L _ _ hl.1.1 hv.1.1) (fun v h1 => ?_)
      refine NH.bind_lift (condTaken_nb v h1) (fun t _ => ?_)
      split
      · exact ihL L _ _ hl.1.2 hv.1.2
      · exact ihI L _ _ hl.2 hv.2

/-- `L'`, the lock set of the body: `L` and, in a `forall` over a variable, that table -/
theorem forall_run_nh {L L' : List String} (hsub : ∀ t ∈ L, t ∈ L') {it : String} (hit : it ∉ L) {b : Iter} (hbit : b.it = it)
    {body : EvalM Flow} (hb : NH bad (Inv L') (fun _ => True) body) (hbs : Pres SameIters body) {desc : Bool} {k : Nat}
    {s1 : St} (hs1 : Inv L s1) (hname : s1.iters.any (·.it == it) = false) (hpriv : okVal b.priv = true)
    (hidx : b.idx < tableSize (s1.iterTable b)) (hsrc : ∀ t, b.src = some t → t ∈ L') :
    Post bad (Inv L) (fun _ => True) (forallExit it (forallLoop body it desc k { s1 with iters := b :: s1.iters })) := by
  have hpush : Inv L' { s1 with iters := b :: s1.iters } := hs1.push hsub b (by rw [hbit]; exact hname) hpriv hidx hsrc
  have hrun := forallLoop_nh body it desc hb k _ hpush
  obtain ⟨b', rest, hi, hk⟩ := forallLoop_stack hbs it desc k { s1 with iters := b :: s1.iters } ⟨b, _, rfl, rfl⟩
  generalize forallLoop body it desc k { s1 with iters := b :: s1.iters } = r at hrun hi
  have hsrcs : ∀ x ∈ rest, ∀ t, x.src = some t → t ∈ L := by
    intro x hx t ht
    obtain ⟨y, hy, e⟩ := List.mem_map.mp (hk ▸ List.mem_map_of_mem (f := iterKey) hx)
    have : y.src = x.src := congrArg (·.2.1) e
    exact hs1.2 y hy t (this ▸ ht)
  refine ⟨?_, forallExit_inv it hit r hrun.2.1 hi hsrcs, fun _ _ => trivial⟩
  rw [forallExit_fst]; exact hrun.1

/-- the head of `exec`: one unit of the work budget -/
theorem NH.tick {I : St → Prop} {α} {Q : α → Prop} {x : EvalM α} (hx : NH bad I Q x)
    (hI : ∀ s : St, I s → I { s with budget := s.budget - 1 }) :
    NH bad I Q (fun s0 => if s0.budget == 0 then BlocV.oof s0 else (fun s => x s) { s0 with budget := s0.budget - 1 }) := by
  intro s0 hs0
  by_cases h : (s0.budget == 0) = true
  · simp only [h, if_true]
    exact Post.lift NHR.err hs0
  · simp only [h]
    exact hx _ (hI s0 hs0)

theorem exec_nh_step (funcs : List Func) (fuel : Nat) (ih : AllNH bad sub funcs fuel)
    (L : List String) (depth : Nat) (st : Stmt) (hl : lockS L st = true) (hv : litS sub st = true) :
    NH bad (Inv L) (fun _ => True) (exec funcs depth (fuel + 1) st) := by
  obtain ⟨ihE, -, -, ihB, ihL, -, ihP, ihI⟩ := ih
  unfold exec
  refine NH.tick ?_ (fun s hs => hs.frame)
  · split
    all_goals try simp only [lockS, litS, Bool.and_eq_true] at hl hv
    · exact NH.pure trivial
    · exact NH.pure trivial
    · -- letS
      rename_i n e
      refine NH.bind NH.getSt (fun s1 _ => ?_)
      cases hf : s1.iters.find? (·.it == n) with
      | none =>
        refine NH.bind (ihE L _ _ hl.2 hv) (fun v hv1 => ?_)
        exact NH.bind (NH.modifySt (fun st hst => hst.setVar_unlocked n v hv1 (not_mem_of_contains hl.1))) (fun _ _ => NH.pure trivial)
      | some b0 =>
        refine NH.ite _ (fun _ => NH.lift NHR.unm) (fun _ => ?_)
        refine NH.bind (ihE L _ _ hl.2 hv) (fun v hv1 => ?_)
        refine NH.getSt_bind (fun s2 hs2 => ?_)
        cases hf2 : s2.iters.find? (·.it == n) with
        | none => exact Post.lift NHR.unm hs2
        | some b =>
          have hbm := List.mem_of_find?_eq_some hf2
          refine Post.bind_lift (forallStep_nhr (okVal_iterTable hs2.1 hbm) hv1 (hs2.1.idx b hbm)) hs2 fun tbl' he htb => ?_
          have hsz := forallStep_size he
          cases hsrc : b.src with
          | some t' =>
            refine Post.lift (NHR.ok trivial) (hs2.setVar t' tbl' htb fun b' _ _ => ?_)
            rw [hsz, iterTable_src hsrc]
          | none =>
            refine Post.lift (NHR.ok trivial) (hs2.setPriv hbm (List.find?_some hf2 :) hsrc htb ?_)
            rw [hsz, iterTable_priv hsrc]
    · -- doS
      exact NH.bind (ihE L _ _ hl hv) (fun _ _ => NH.pure trivial)
    · -- printS
      refine NH.bind (ihP L _ _ hl hv) (fun _ _ => ?_)
      exact NH.bind (NH.modifySt (fun st hst => hst.frame)) (fun _ _ => NH.pure trivial)
    · -- ifS
      exact ihI L _ _ hl hv
    · -- whileS
      exact whileLoop_nh (ihE L _ _ hl.1 hv.1) (ihL L _ _ hl.2 hv.2) _
    · -- forS
      rename_i v b e step dir body
      obtain ⟨⟨⟨⟨hvn, hb'⟩, he⟩, hstep⟩, hbody⟩ := hl
      obtain ⟨⟨⟨hlb, hle⟩, hlstep⟩, hlbody⟩ := hv
      have hvL : v ∉ L := not_mem_of_contains hvn
      refine NH.bind (ihE L _ b hb' hlb) fun vb hvb => NH.ite _ (fun _ => NH.pure trivial) fun nvb => ?_
      refine NH.bind (ihE L _ e he hle) fun ve hve => NH.ite _ (fun _ => NH.pure trivial) fun nve => ?_
      -- the rest of the first entry is a join point of the `do` block: once for every step value
      extract_lets s jp
      have run : ∀ mn mx st, NH bad (Inv L) (fun _ => True) (forLoop (execList funcs depth fuel body) v mn mx st fuel) :=
        fun _ _ _ => forLoop_nh hvL (ihL L _ _ hbody hlbody) _
      have hjp : ∀ u s, NH bad (Inv L) (fun _ => True) (jp u s) := fun u s => by
        refine (evalWalk bad (Inv L)).asInt hvb (nn_of_not nvb) fun bi => (evalWalk bad (Inv L)).asInt hve (nn_of_not nve) fun ei => ?_
        have set := NH.modifySt (bad := bad) fun st (hst : Inv L st) => hst.setVar_unlocked v (.int bi) (okVal_int _) hvL
        exact NH.ite _ (fun _ => NH.ite _ (fun _ => NH.pure trivial) fun _ => NH.bind set fun _ _ => run _ _ _)
          fun _ => NH.ite _ (fun _ => NH.pure trivial) fun _ => NH.bind set fun _ _ => run _ _ _
      cases step with
      | none => exact hjp () s
      | some se =>
        refine NH.bind (ihE L _ se hstep hlstep) fun vs hvs => NH.ite _ (fun _ => NH.pure trivial) fun nvs => ?_
        refine (evalWalk bad (Inv L)).asInt hvs (nn_of_not nvs) fun s' => ?_
        exact NH.ite _ (fun _ => NH.bind_never fun _ => ⟨_, _, rfl⟩) fun _ => hjp () s'
    · -- forallS
      rename_i it src dir body
      obtain ⟨⟨hit, hsrc⟩, hbody⟩ := hl
      have hitL : it ∉ L := not_mem_of_contains hit
      have hbnh := ihL _ depth body hbody hv.2
      have hbs := (sameIters_all funcs fuel).execList depth body
      intro sA hsA
      refine Post.bind (ihE L depth src hsrc hv.1 sA hsA) fun tv s1 hr htv hs1 => ?_
      have done : Post bad (Inv L) (fun _ => True) (.ok Flow.norm, s1) := Post.lift (NHR.ok trivial) hs1
      refine Post.ite (fun _ => done) fun _ => Post.ite (fun _ => Post.lift NHR.unm hs1) fun _ => Post.ite (fun _ => done) fun hn0 => ?_
      have hpos : 0 < tableSize tv := Nat.pos_of_ne_zero (by simpa using hn0)
      refine Post.getSt_bind (Post.ite (fun _ => Post.lift NHR.err hs1) fun hname => ?_)
      have hfirst : (if (dir == .desc) = true then tableSize tv - 1 else 0) < tableSize tv := by
        split <;> omega
      cases src
      case var t =>
        refine Post.ite (fun _ => Post.lift NHR.unm hs1) fun hnt => ?_
        obtain ⟨rfl, hval⟩ := eval_var_run hr
        obtain rfl := hval (nn_of_not hnt)
        refine forall_run_nh (fun t' ht' => mem_forall_lock L t' it (.var t) ht') hitL rfl hbnh hbs hs1 (nn_of_not hname) (okVal_null _) hfirst ?_
        rintro _ ⟨⟩
        dsimp only
        split <;> simp
      -- `src` is no variable: a temporary, and the lock set of the body is `L`
      all_goals exact forall_run_nh (fun _ h => h) hitL rfl hbnh hbs hs1 (nn_of_not hname) htv hfirst (fun _ h => by cases h)
    · -- beginS
      exact ihB L _ _ _ hl.1 hl.2 hv.1 hv.2
    · -- raiseS
      dsimp only
      split
      · exact NH.failE _ _
      · exact NH.failE _ _
    · exact NH.pure trivial
    · -- returnS (some e)
      refine NH.bind (ihE L _ _ hl hv) (fun v hv1 => ?_)
      refine NH.bind (NH.modifySt (fun st hst => ?_)) (fun _ _ => NH.pure trivial)
      obtain ⟨⟨h1, h2, h3, h4, h5⟩, h6⟩ := hst
      exact ⟨⟨h1, fun w hw => by cases hw; exact hv1, h3, h4, h5⟩, h6⟩
    · exact NH.pure trivial
    · exact NH.pure trivial

/-- **The mutual induction**: from a well-formed state, code the parser accepts under the lock `L` never reaches a hazard that counts,
and leaves a well-formed state — for all eight functions of the interpreter. -/
theorem nh_all (hb : bad .signedOverflow = false ∨ sub = false) (funcs : List Func) (hF : FuncsOk sub funcs) : ∀ fuel, AllNH bad sub funcs fuel := by
  intro fuel
  induction fuel with
  | zero =>
    refine ⟨?_, ?_, ?_, ?_, ?_, ?_, ?_, ?_⟩
    · intro L d e _ _; unfold eval; exact NH.oof
    · intro L d n a _ _; unfold callFunc; exact NH.oof
    · intro L d a _ _; unfold evalArgs; exact NH.oof
    · intro L d b c _ _ _ _; unfold execBlock; exact NH.oof
    · intro L d l _ _; unfold execList; exact NH.oof
    · intro L d s _ _; unfold exec; exact NH.oof
    · intro L d l _ _; unfold evalPrint; exact NH.oof
    · intro L d l _ _; unfold execIf; exact NH.oof
  | succ fuel ih =>
    exact ⟨eval_nh_step hb funcs fuel ih, callFunc_nh_step funcs hF fuel ih, evalArgs_nh_step funcs fuel ih,
      execBlock_nh_step funcs fuel ih, execList_nh_step funcs fuel ih, exec_nh_step funcs fuel ih,
      evalPrint_nh_step funcs fuel ih, execIf_nh_step funcs fuel ih⟩
end BlocV.NHI
