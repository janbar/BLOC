/-
  Every built-in of Model/Builtins.lean (and `tab` / `tup` / `@N` of Model/Members.lean) is written once, for any monad `m`
  into which `Res` lifts. Here each body is walked once, for a `Walk m`: a predicate transformer `T` on the computations
  of `m` that is closed under `pure`, `>>=` and the lift of an acceptable `Res` leaf, and an invariant `W` of values. The
  facts about built-ins in `Res`, in the interpreter's monad and about the interpreter's state are instances.
-/
import BlocV.Proofs.Lemmas.Basics
import BlocV.Proofs.Lemmas.NoHazard
import BlocV.Proofs.Lemmas.MemberEqs
import BlocV.Model.Interp

namespace BlocV.NHI

/-! ## the representation invariant, deep

`okVal v`: every table value anywhere inside `v` carries a table type (level ≥ 1) — what `Val.tabOk` says of the top
level only — and every tuple value has as many items as its declaration. Every `bloc::Value` satisfies both by
construction (`Collection` / `Tuple`); `Val` does not enforce them, and the model's typed accessors reach their
null-pointer branch on a "table of level 0", its `@N` reads past the items of a short tuple.

The other notions of a well-formed value, all at the top level only: `Val.tabOk` (a table has level ≥ 1; `tabOk_of_okVal`),
`C09.WfArg` (the same as a `Prop`; `wfArg_of_okVal`), `Val.wf` (`tabOk` and no stray minor type), `Val.lenOk` (a string / byte
array shorter than 2^63) and `Lemmas.wfVal` = `tabOk` ∧ `lenOk` (`wfVal_tabOk`, `wfVal_lenOk`). Neither `okVal` nor `Val.wf`
bounds a length. -/

mutual
  def okVal : Val → Bool
    | .tab t _ es => t.level != 0 && okVals es
    | .tup d items => d.length == items.length && okVals items
    | _ => true
  def okVals : List Val → Bool
    | [] => true
    | v :: vs => okVal v && okVals vs
end

@[simp] theorem okVal_null (t : Ty) : okVal (.null t) = true := by simp [okVal]
@[simp] theorem okVal_bool (b : Bool) : okVal (.bool b) = true := by simp [okVal]
@[simp] theorem okVal_int (b : Int64) : okVal (.int b) = true := by simp [okVal]
@[simp] theorem okVal_num (b : UInt64) : okVal (.num b) = true := by simp [okVal]
@[simp] theorem okVal_imag (a b : UInt64) : okVal (.imag a b) = true := by simp [okVal]
@[simp] theorem okVal_str (b : Bytes) : okVal (.str b) = true := by simp [okVal]
@[simp] theorem okVal_raw (b : Bytes) : okVal (.raw b) = true := by simp [okVal]
@[simp] theorem okVal_obj (a b : Nat) : okVal (.obj a b) = true := by simp [okVal]
theorem okVal_tab (t : Ty) (d : List Ty) (es : List Val) : okVal (.tab t d es) = (t.level != 0 && okVals es) := by simp [okVal]
theorem okVal_tup (d : List Ty) (es : List Val) : okVal (.tup d es) = (d.length == es.length && okVals es) := by simp [okVal]
@[simp] theorem okVals_nil : okVals [] = true := by simp [okVals]
@[simp] theorem okVals_cons (v : Val) (vs : List Val) : okVals (v :: vs) = (okVal v && okVals vs) := by simp [okVals]

theorem okVals_eq_all (l : List Val) : okVals l = l.all okVal :=
  List.all_of_cons okVals_nil okVals_cons l

theorem okVals_iff (l : List Val) : okVals l = true ↔ ∀ v ∈ l, okVal v = true := by
  rw [okVals_eq_all, List.all_eq_true]

theorem okVals_append (a b : List Val) : okVals (a ++ b) = (okVals a && okVals b) := by
  simp only [okVals_eq_all, List.all_append]

theorem okVal_strs (l : List Bytes) : okVal (.tab tabStrTy [] (l.map .str)) = true := by
  rw [okVal_tab, Bool.and_eq_true, okVals_iff]
  exact ⟨rfl, fun v hv => by obtain ⟨_, _, rfl⟩ := List.mem_map.1 hv; exact okVal_str _⟩

theorem tabOk_of_okVal {v : Val} (h : okVal v = true) : v.tabOk = true := by
  cases v
  case tab =>
    rw [okVal_tab, Bool.and_eq_true, bne_iff_ne] at h
    exact decide_eq_true (Nat.pos_of_ne_zero h.1)
  all_goals rfl

/-! A null test that failed, in the forms the bodies leave it: `¬ … = true` (unprimed) or `… = false` (primed). -/
theorem nn_of_not {b : Bool} (h : ¬ b = true) : b = false := eq_false_of_ne_true h
theorem nn_of_bnot {b : Bool} (h : (!b) = true) : b = false := Bool.not_eq_true' b ▸ h
theorem nn_orL' {a b : Bool} (h : (a || b) = false) : a = false := (Bool.or_eq_false_iff.1 h).1
theorem nn_orR' {a b : Bool} (h : (a || b) = false) : b = false := (Bool.or_eq_false_iff.1 h).2
theorem nn_orL {a b : Bool} (h : ¬ (a || b) = true) : a = false := nn_orL' (eq_false_of_ne_true h)
theorem nn_orR {a b : Bool} (h : ¬ (a || b) = true) : b = false := nn_orR' (eq_false_of_ne_true h)

end BlocV.NHI

namespace BlocV
open NHI

/-- What the walk of a built-in's body needs. `T Q x`: the property of the computation `x`, with `Q` of a value it returns;
`ok r`: the `Res` leaf `r` may be lifted; `W`: what holds of every argument value and of every result. `sound` is a mode
switch, not a property of the walk: if it holds, `ok` asks for "no hazard" and `W` gives `tabOk` (which keeps the typed
accessors off their null-pointer branch); an instance with `sound := False` asks nothing of leaves. -/
structure Walk (m : Type → Type) [Monad m] [MonadLiftT Res m] where
  T : {α : Type} → (α → Prop) → m α → Prop
  ok : {α : Type} → Res α → Prop
  sound : Prop
  W : Val → Prop
  pure : ∀ {α} {Q : α → Prop} {a : α}, Q a → T Q (Pure.pure a)
  bind : ∀ {α β} {P : α → Prop} {Q : β → Prop} {x : m α} {f : α → m β}, T P x → (∀ a, P a → T Q (f a)) → T Q (x >>= f)
  lift : ∀ {α} {Q : α → Prop} {r : Res α}, ok r → (∀ a, r = .ok a → Q a) → T Q (liftM r)
  ok_nh : ∀ {α} {r : Res α}, (sound → r.isHazard = false) → ok r
  W_tab : ∀ {v}, sound → W v → v.tabOk = true
  W_ok : ∀ {v}, okVal v = true → W v
  W_mkTab : ∀ {t d es}, t.level ≠ 0 → (∀ v ∈ es, W v) → W (.tab t d es)
  W_mkTup : ∀ {d items}, d.length = items.length → (∀ v ∈ items, W v) → W (.tup d items)

namespace Walk
variable {m : Type → Type} [Monad m] [MonadLiftT Res m] (L : Walk m) {α β : Type} {Q : α → Prop} {P : β → Prop}

def Args (args : List (m Val)) : Prop := ∀ t ∈ args, L.T L.W t

variable {L}

theorem Args.head {t : m Val} {ts : List (m Val)} (h : L.Args (t :: ts)) : L.T L.W t := h t (List.mem_cons_self ..)
theorem Args.tail {t : m Val} {ts : List (m Val)} (h : L.Args (t :: ts)) : L.Args ts := fun x hx => h x (List.mem_cons_of_mem _ hx)

theorem ret {v : Val} (h : okVal v = true) : L.T L.W (Pure.pure v) := L.pure (L.W_ok h)
theorem null {t : Ty} : L.T L.W (Pure.pure (.null t)) := ret (okVal_null t)
theorem int {i : Int64} : L.T L.W (Pure.pure (.int i)) := ret (okVal_int i)
theorem num {d : Num.F64} : L.T L.W (Pure.pure (.num d)) := ret (okVal_num d)
theorem str {s : Bytes} : L.T L.W (Pure.pure (.str s)) := ret (okVal_str s)
theorem pure_bind {a : α} {f : α → m β} (h : ∀ a, L.T P (f a)) : L.T P (Pure.pure a >>= f) :=
  L.bind (L.pure (Q := fun _ => True) trivial) fun a _ => h a

theorem err {c : Nat} {a : Bytes} : L.T Q (liftM (Res.err c a : Res α)) := L.lift (L.ok_nh fun _ => rfl) (fun _ e => by cases e)
theorem argTypeErr : L.T Q (argTypeErr : m α) := L.err
theorem rerr {c : Nat} : L.T Q (rerr c : m α) := L.err
theorem unm : L.T Q (liftR .unmodelled : m α) := L.lift (L.ok_nh fun _ => rfl) (fun _ e => by cases e)
theorem bind_rerr {c : Nat} {f : α → m β} : L.T P (BlocV.rerr c >>= f) := L.bind (P := fun _ => False) L.err fun _ h => h.elim
theorem bind_argTypeErr {f : α → m β} : L.T P (BlocV.argTypeErr >>= f) := L.bind_rerr

theorem leafOk {r : Res α} {f : α → m β} (h : L.ok r) (hf : ∀ a, r = .ok a → L.T P (f a)) : L.T P (liftM r >>= f) :=
  L.bind (L.lift h fun _ e => e) hf
theorem leaf {r : Res α} {f : α → m β} (h : L.sound → r.isHazard = false) (hf : ∀ a, r = .ok a → L.T P (f a)) :
    L.T P (liftM r >>= f) := leafOk (L.ok_nh h) hf

/-! The typed accessors are reached for non-null values only. -/
variable {v : Val} (hv : L.W v) (hn : v.isNull = false)
include hv hn
theorem asInt {f : Int64 → m β} (hf : ∀ a, L.T P (f a)) : L.T P (liftM v.asInt >>= f) :=
  leaf (fun hs => asInt_no_hazard (L.W_tab hs hv) hn) fun a _ => hf a
theorem asNum {f : Num.F64 → m β} (hf : ∀ a, L.T P (f a)) : L.T P (liftM v.asNum >>= f) :=
  leaf (fun hs => asNum_no_hazard (L.W_tab hs hv) hn) fun a _ => hf a
theorem asStr {f : Bytes → m β} (hf : ∀ a, L.T P (f a)) : L.T P (liftM v.asStr >>= f) :=
  leaf (fun hs => asStr_no_hazard (L.W_tab hs hv) hn) fun a _ => hf a
theorem asRaw {f : Bytes → m β} (hf : ∀ a, L.T P (f a)) : L.T P (liftM v.asRaw >>= f) :=
  leaf (fun hs => asRaw_no_hazard (L.W_tab hs hv) hn) fun a _ => hf a
theorem asBool {f : Bool → m β} (hf : ∀ a, L.T P (f a)) : L.T P (liftM v.asBool >>= f) :=
  leaf (fun hs => asBool_no_hazard (L.W_tab hs hv) hn) fun a _ => hf a
omit hv hn

theorem cast {d : Num.F64} {f : Int64 → m β} (hf : ∀ a, L.T P (f a)) : L.T P (liftM (castToInt d) >>= f) :=
  leaf (fun _ => castToInt_no_hazard d) fun a _ => hf a

/-- The `if` of a body: mostly a null test, and what its failure says is wanted in `y`. Where `x` needs its condition, or the
condition is a proposition and not a `Bool`: `iteP`. -/
theorem ite {b : Bool} {x y : m α} (hx : L.T Q x) (hy : b = false → L.T Q y) : L.T Q (if b = true then x else y) := by
  cases b
  · exact hy rfl
  · exact hx
theorem iteP {c : Prop} [Decidable c] {x y : m α} (hx : c → L.T Q x) (hy : ¬ c → L.T Q y) : L.T Q (if c then x else y) :=
  iteInduction hx hy

end Walk

/-- The walk in `Res` itself: no hazard provided `S`, and `Q` of the value. -/
def Walk.res (S : Prop) : Walk Res where
  T Q r := (S → r.isHazard = false) ∧ ∀ a, r = .ok a → Q a
  ok r := S → r.isHazard = false
  sound := S
  W v := S → v.tabOk = true
  pure h := ⟨fun _ => rfl, fun _ e => by cases e; exact h⟩
  bind {_ _ _ _ x _} hx hf := by
    cases x with
    | ok a => exact hf a (hx.2 a rfl)
    | haz _ => exact ⟨fun hs => (nomatch hx.1 hs), fun _ e => by cases e⟩
    | _ => exact ⟨fun _ => rfl, fun _ e => by cases e⟩
  lift h hq := ⟨h, hq⟩
  ok_nh h := h
  W_tab hs h := h hs
  W_ok h _ := tabOk_of_okVal h
  W_mkTab hl _ _ := by simp [Val.tabOk]; omega
  W_mkTup _ _ _ := rfl

variable {m : Type → Type} [Monad m] [MonadLiftT Res m] (L : Walk m)

/-! ## the built-ins, each for every argument list

A `match` of a body is taken apart by `split`, an `if` by `Walk.ite`; where the do-notation made a join point (`let mut`, a
`match` that is not last), the continuation is proved once, for every value it can be entered with, before the branches. -/

/-- `substr` / `subraw`. `A` is what is known of the operand (the first argument), `B` of the position and the count, `Q`
what is asked of the result: the operand itself, a null, or `mk` of a contiguous part of the operand's bytes. `hsub`: the index
arithmetic on the operand's length is an acceptable leaf. -/
theorem substrLike_walk_operand {major : Major} {nullTy : Ty} {get : Val → Res Bytes} {mk : Bytes → Val} (A B Q : Val → Prop)
    (hB : ∀ v, B v → L.W v) (hAQ : ∀ v, A v → Q v) (hnull : Q (.null nullTy))
    (hmk : ∀ v s b, A v → get v = .ok s → b <:+: s → Q (mk b))
    (hget : ∀ v, A v → L.sound → v.isNull = false → (get v).isHazard = false)
    (hsub : ∀ v s a b, A v → get v = .ok s → L.ok (substrRange (lenI s) a b))
    (args : List (m Val)) (h0 : ∀ t ∈ args.head?, L.T A t) (h : ∀ t ∈ args.tail, L.T B t) :
    L.T Q (substrLike major nullTy get mk args) := by
  unfold substrLike
  split
  · refine L.bind (h0 _ rfl) fun val hv => ?_
    refine L.ite (L.pure hnull) fun _ => L.ite L.argTypeErr fun _ => ?_
    refine L.bind (h _ (by simp)) fun a1 h1 => L.leaf (fun hs => readPos_no_hazard (L.W_tab hs (hB _ h1))) fun p _ => ?_
    split
    · exact L.pure (hAQ _ hv)
    · refine L.ite (L.pure (hAQ _ hv)) fun hn => L.leaf (fun hs => hget _ hv hs hn) fun s hs => ?_
      extract_lets c b jp
      have hk : ∀ u b, L.T Q (jp u b) := fun u b => L.ite (L.pure (hAQ _ hv)) fun _ =>
        L.leafOk (hsub _ _ _ _ hv hs) fun _ _ => L.ite (L.pure (hmk _ _ _ hv hs (Lemmas.sliceBytes_infix ..)))
          fun _ => L.pure (hmk _ _ _ hv hs List.nil_infix)
      split
      · refine L.bind (h _ (by simp)) fun a2 h2 => L.leaf (fun hs => readPos_no_hazard (L.W_tab hs (hB _ h2))) fun p _ => ?_
        split
        · exact L.pure (hAQ _ hv)
        · exact hk () _
      · exact hk () _
  · exact L.argTypeErr

/-- `substr` / `subraw` themselves: one predicate `A` for all arguments, the operand a string or a byte array. -/
theorem substrLike_walk {major : Major} {nullTy : Ty} {get : Val → Res Bytes} {mk : Bytes → Val} (A : Val → Prop)
    (hA : ∀ v, A v → L.W v) (hmk : ∀ b, okVal (mk b) = true)
    (hget : ∀ {v}, v.tabOk = true → v.isNull = false → (get v).isHazard = false)
    (hok : ∀ {v s}, get v = .ok s → v = .str s ∨ v = .raw s)
    (hsub : ∀ v s a b, A v → v = .str s ∨ v = .raw s → L.ok (substrRange (lenI s) a b))
    (args : List (m Val)) (h : ∀ t ∈ args, L.T A t) : L.T L.W (substrLike major nullTy get mk args) :=
  substrLike_walk_operand L A A L.W hA hA (L.W_ok (okVal_null _)) (fun _ _ _ _ _ _ => L.W_ok (hmk _))
    (fun v hv hs => hget (L.W_tab hs (hA v hv))) (fun v s a b hv e => hsub v s a b hv (hok e)) args
    (fun t ht => h t (List.mem_of_mem_head? ht)) (fun t ht => h t (List.mem_of_mem_tail ht))

theorem lrSubstr_walk (left : Bool) (args : List (m Val)) (h : L.Args args) : L.T L.W (lrSubstr left args) := by
  unfold lrSubstr
  split
  · refine L.bind h.head fun val hv => ?_
    refine L.ite L.null fun _ => L.ite L.argTypeErr fun _ => ?_
    refine L.bind h.tail.head fun a1 h1 => L.leaf (fun hs => readPos_no_hazard (L.W_tab hs h1)) fun p _ => ?_
    split
    · exact L.pure hv
    · refine L.ite (L.pure hv) fun hn => L.asStr hv hn fun s => L.ite (L.pure hv) fun _ => ?_
      exact L.ite L.str fun _ => L.str
  · exact L.argTypeErr

theorem biStrpos_walk (args : List (m Val)) (h : L.Args args) : L.T L.W (biStrpos args) := by
  unfold biStrpos
  split
  · refine L.bind h.head fun val hv => L.bind h.tail.head fun a1 h1 => ?_
    split
    · exact L.null
    · refine L.ite L.null fun hn => ?_
      extract_lets s jp jp2
      have hk : ∀ u s, L.T L.W (jp u s) := fun u s =>
        L.asStr hv (nn_orL' hn) fun hay => L.asStr h1 (nn_orR' hn) fun needle => by
          split
          · exact L.int
          · exact L.null
      have hk2 : ∀ u s, L.T L.W (jp2 u s) := fun u s => L.ite L.bind_rerr fun _ => hk () s
      split
      · refine L.bind h.tail.tail.head fun a2 h2 => ?_
        split
        · exact L.null
        · exact L.iteP (fun hn2 => L.asInt h2 (nn_of_bnot hn2) fun s => hk2 () s) fun _ => hk2 () _
        · exact L.iteP (fun hn2 => L.asNum h2 (nn_of_bnot hn2) fun d => L.cast fun s => hk2 () s) fun _ => hk2 () _
        · exact L.bind_argTypeErr
      · exact hk () _
    · exact L.argTypeErr
  · exact L.argTypeErr

theorem biReplace_walk (args : List (m Val)) (h : L.Args args) : L.T L.W (biReplace args) := by
  unfold biReplace
  split
  · refine L.bind h.head fun val hv => L.bind h.tail.head fun a1 h1 => ?_
    split
    · exact L.null
    · extract_lets jp
      -- the needle is read only where it was found to be a non-null string
      have hk : a1.isNull = false → ∀ u, L.T L.W (jp u) := fun hn1 u => by
        refine L.ite (L.pure hv) fun hn => L.bind h.tail.tail.head fun a2 h2 => ?_
        extract_lets jp2
        have hk2 : ∀ u, L.T L.W (jp2 u) := fun u =>
          L.asStr hv hn fun hay => L.asStr h1 hn1 fun needle => L.ite (L.pure hv) fun _ =>
            L.ite (L.pure_bind fun _ => L.str) fun hn2 =>
              L.asStr h2 hn2 fun _ => L.str
        split
        · exact hk2 ()
        · exact hk2 ()
        · exact L.bind_argTypeErr
      split
      · exact L.pure hv
      · exact L.ite (L.pure hv) fun hn1 => hk hn1 ()
      · exact L.bind_argTypeErr
    · exact L.argTypeErr
  · exact L.argTypeErr

theorem strMap_walk (f : Bytes → Bytes) (args : List (m Val)) (h : L.Args args) : L.T L.W (strMap f args) := by
  unfold strMap
  split
  · refine L.bind h.head fun val hv => ?_
    split
    · exact L.null
    · exact L.ite (L.pure hv) fun hn => L.asStr hv hn fun _ => L.str
    · exact L.argTypeErr
  · exact L.argTypeErr

theorem biStrlen_walk (args : List (m Val)) (h : L.Args args) : L.T L.W (biStrlen args) := by
  unfold biStrlen
  split
  · refine L.bind h.head fun val hv => ?_
    split
    · exact L.null
    · exact L.ite L.null fun hn => L.asStr hv hn fun _ => L.int
    · exact L.argTypeErr
  · exact L.argTypeErr

theorem biTokenize_walk (args : List (m Val)) (h : L.Args args) : L.T L.W (biTokenize args) := by
  unfold biTokenize
  split
  · refine L.bind h.head fun val hv => ?_
    split
    · exact L.null
    · refine L.bind h.tail.head fun a1 h1 => ?_
      extract_lets trim jp
      have hk : ∀ sep, L.T L.W (jp sep) := fun sep => by
        dsimp -zeta only [jp]
        extract_lets jp2
        have hk2 : ∀ u trim, L.T L.W (jp2 u trim) := fun u trim => L.ite L.null fun hn =>
          L.asStr hv hn fun s => L.ret (okVal_strs _)
        split
        · refine L.bind h.tail.tail.head fun a2 h2 => ?_
          exact L.iteP (fun hn => L.asBool h2 (nn_of_bnot hn) fun _ => hk2 () _) fun _ => hk2 () _
        · exact hk2 () _
      split
      · exact L.pure_bind hk
      · exact L.ite (L.pure_bind hk) fun hn => L.asStr h1 hn hk
      · exact L.bind_argTypeErr
    · exact L.argTypeErr
  · exact L.argTypeErr

theorem biHex_walk (args : List (m Val)) (h : L.Args args) : L.T L.W (biHex args) := by
  unfold biHex
  split
  · refine L.bind h.head fun arg0 h0 => L.ite L.null fun hn0 => ?_
    extract_lets n jp
    have hk : ∀ u n, L.T L.W (jp u n) := fun u n => by
      dsimp -zeta only [jp]
      extract_lets jp2
      have hk2 : ∀ v, L.T L.W (jp2 v) := fun v => L.leaf (fun _ => hexStr_no_hazard v n) fun _ _ => L.str
      split
      · exact L.asInt h0 hn0 hk2
      · exact L.asNum h0 hn0 fun d => L.cast hk2
      · exact L.bind_argTypeErr
    split
    · refine L.bind h.tail.head fun arg1 h1 => L.iteP (fun hn1 => ?_) fun _ => hk () _
      split
      · exact L.asInt h1 (nn_of_bnot hn1) fun n => hk () n
      · exact L.asNum h1 (nn_of_bnot hn1) fun d => L.cast fun n => hk () n
      · exact L.bind_argTypeErr
    · exact hk () _
  · exact L.argTypeErr

theorem biHash_walk (args : List (m Val)) (h : L.Args args) : L.T L.W (biHash args) := by
  unfold biHash
  split
  · refine L.bind h.head fun val hv => ?_
    extract_lets maxSize jp
    have hk : ∀ u n, L.T L.W (jp u n) := fun u n => by
      dsimp only [jp]
      split
      · exact L.null
      · exact L.ite L.null fun hn => L.asStr hv hn fun _ => L.int
      · exact L.ite L.null fun hn => L.asRaw hv hn fun _ => L.int
      · exact L.argTypeErr
    split
    · refine L.bind h.tail.head fun a1 h1 => ?_
      split
      · exact hk () _
      · refine L.iteP (fun hn => L.asInt h1 (nn_of_bnot hn) fun i => ?_) fun _ => hk () _
        exact L.ite L.bind_rerr fun _ => hk () _
      · refine L.iteP (fun hn => L.asNum h1 (nn_of_bnot hn) fun d => ?_) fun _ => hk () _
        exact L.ite L.bind_rerr fun _ => L.cast fun i => hk () _
      · exact L.bind_argTypeErr
    · exact hk () _
  · exact L.argTypeErr

theorem biChr_walk (args : List (m Val)) (h : L.Args args) : L.T L.W (biChr args) := by
  unfold biChr
  split
  · refine L.bind h.head fun val hv => ?_
    split
    · exact L.null
    · exact L.ite L.null fun hn => L.asInt hv hn fun c =>
        L.ite L.rerr fun _ => L.str
    · exact L.ite L.null fun hn => L.asNum hv hn fun d =>
        L.ite L.rerr fun _ => L.cast fun i => L.str
    · exact L.argTypeErr
  · exact L.argTypeErr

theorem biRaw_walk (args : List (m Val)) (h : L.Args args) : L.T L.W (biRaw args) := by
  unfold biRaw
  split
  · exact L.null
  · refine L.bind h.head fun val hv => L.ite L.null fun hn => ?_
    extract_lets v jp
    have hk : ∀ n, L.T L.W (jp n) := fun n => by
      refine L.ite L.rerr fun _ => ?_
      extract_lets jp2 jp3
      have hk3 : ∀ u v, L.T L.W (jp3 u v) := fun _ _ => L.ite L.bind_rerr fun _ => L.ret (okVal_raw _)
      split
      · refine L.bind h.tail.head fun a1 h1 => ?_
        refine L.iteP (fun hn1 => ?_) fun _ => hk3 () _
        split
        · exact L.asInt h1 (nn_of_bnot hn1) fun v => hk3 () v
        · exact L.asNum h1 (nn_of_bnot hn1) fun _ => L.cast fun v => hk3 () v
        · exact L.bind_argTypeErr
      · exact L.ret (okVal_raw _)
    split
    · exact L.asStr hv hn fun _ => L.ret (okVal_raw _)
    · exact L.asInt hv hn hk
    · exact L.asNum hv hn fun _ => L.cast hk
    · exact L.pure hv
    · exact L.bind_argTypeErr

theorem biAbs_walk (args : List (m Val)) (h : L.Args args) : L.T L.W (biAbs args) := by
  unfold biAbs
  split
  · refine L.bind h.head fun val hv => ?_
    split
    · exact L.null
    · exact L.ite (L.pure hv) fun hn => L.asInt hv hn fun _ => L.int
    · exact L.ite (L.pure hv) fun hn => L.asNum hv hn fun _ => L.num
    · exact L.ite (L.pure hv) fun _ => L.unm
    · exact L.argTypeErr
  · exact L.argTypeErr

theorem biPow_walk (args : List (m Val)) (h : L.Args args) : L.T L.W (biPow args) := by
  unfold biPow
  split
  · refine L.bind h.head fun a1 h1 => L.bind h.tail.head fun a2 h2 => ?_
    split
    iterate 7 exact L.null
    · exact L.ite L.null fun hn => L.asInt h1 (nn_orR' hn) fun x => L.asInt h2 (nn_orL' hn) fun y =>
        L.leaf (fun _ => ipow_no_hazard x y) fun _ _ => L.int
    · exact L.ite L.null fun hn => L.asInt h1 (nn_orR' hn) fun _ => L.asNum h2 (nn_orL' hn) fun _ =>
        L.num
    · exact L.ite L.null fun hn => L.asNum h1 (nn_orR' hn) fun _ => L.asInt h2 (nn_orL' hn) fun _ =>
        L.num
    · exact L.ite L.null fun hn => L.asNum h1 (nn_orR' hn) fun _ => L.asNum h2 (nn_orL' hn) fun _ =>
        L.num
    iterate 5 exact L.ite L.null fun _ => L.unm
    exact L.argTypeErr
  · exact L.argTypeErr

theorem biInt_walk (args : List (m Val)) (h : L.Args args) : L.T L.W (biInt args) := by
  unfold biInt
  split
  · exact L.null
  · refine L.bind h.head fun val hv => L.ite L.null fun hn => ?_
    split
    · refine L.asStr hv hn fun s => L.ite ?_ fun _ => ?_
      all_goals split
      all_goals first | exact L.rerr | exact L.int
    · refine L.asRaw hv hn fun s => ?_
      split
      · exact L.rerr
      · exact L.rerr
      · exact L.int
    · exact L.asNum hv hn fun d => L.leaf (fun _ => intOfDecimal_no_hazard d) fun _ _ => L.int
    · exact L.pure hv
    · exact L.unm
    · exact L.asBool hv hn fun _ => L.int
    · exact L.argTypeErr

theorem biB64_walk (enc : Bool) (args : List (m Val)) (h : L.Args args) : L.T L.W (biB64 enc args) := by
  have hr : ∀ s, L.W (if enc then .str (b64encode s) else .raw (b64decode s)) := fun s => by
    cases enc
    · exact L.W_ok (okVal_raw _)
    · exact L.W_ok (okVal_str _)
  unfold biB64
  split
  · refine L.bind h.head fun a ha => L.ite L.null fun hn => ?_
    split
    · exact L.asStr ha hn fun s => L.pure (hr s)
    · exact L.asRaw ha hn fun s => L.pure (hr s)
    · exact L.argTypeErr
  · exact L.argTypeErr

theorem biStr_walk (fmt : Num.F64 → Bytes) (args : List (m Val)) (h : L.Args args) : L.T L.W (biStr fmt args) := by
  unfold biStr
  split
  · exact L.null
  · refine L.bind h.head fun val hv => L.ite L.null fun hn => ?_
    split
    · exact L.asBool hv hn fun _ => L.str
    · exact L.asInt hv hn fun _ => L.str
    · exact L.asNum hv hn fun _ => L.str
    · exact L.pure hv
    · exact L.asRaw hv hn fun _ => L.str
    · exact L.argTypeErr

theorem biNum_walk (args : List (m Val)) (h : L.Args args) : L.T L.W (biNum args) := by
  unfold biNum
  split
  · exact L.null
  · refine L.bind h.head fun val hv => L.ite L.null fun hn => ?_
    split
    · exact L.asStr hv hn fun s => L.leaf (fun _ => numOfString_no_hazard s) fun _ _ => L.num
    · exact L.asRaw hv hn fun s => L.leaf (fun _ => numOfString_no_hazard s) fun _ _ => L.num
    · exact L.asNum hv hn fun _ => L.num
    · exact L.asInt hv hn fun _ => L.num
    · exact L.unm
    · exact L.asBool hv hn fun _ => L.num
    · exact L.argTypeErr

theorem biIsnum_walk (args : List (m Val)) (h : L.Args args) : L.T L.W (biIsnum args) := by
  unfold biIsnum
  split
  · refine L.bind h.head fun val hv => L.ite (L.ret (okVal_bool _)) fun hn => ?_
    split
    · exact L.asStr hv (nn_orL' hn) fun _ => L.ret (okVal_bool _)
    · exact L.asRaw hv (nn_orL' hn) fun _ => L.ret (okVal_bool _)
    iterate 3 exact L.ret (okVal_bool _)
  · exact L.argTypeErr

theorem biBool_walk (args : List (m Val)) (h : L.Args args) : L.T L.W (biBool args) := by
  unfold biBool
  split
  · exact L.null
  · refine L.bind h.head fun val hv => L.ite L.null fun hn => ?_
    split
    · exact L.asBool hv hn fun _ => L.ret (okVal_bool _)
    · exact L.asInt hv hn fun _ => L.ret (okVal_bool _)
    · exact L.asNum hv hn fun _ => L.ret (okVal_bool _)
    · exact L.argTypeErr

theorem biIsnull_walk (args : List (m Val)) (h : L.Args args) : L.T L.W (biIsnull args) := by
  unfold biIsnull
  split
  · exact L.bind h.head fun _ _ => L.ret (okVal_bool _)
  · exact L.argTypeErr

theorem biTypeof_walk (args : List (m Val)) (h : L.Args args) : L.T L.W (biTypeof args) := by
  unfold biTypeof
  split
  · exact L.bind h.head fun _ _ => L.iteP (fun _ => L.str) fun _ => L.str
  · exact L.argTypeErr

theorem biSign_walk (args : List (m Val)) (h : L.Args args) : L.T L.W (biSign args) := by
  unfold biSign
  split
  · refine L.bind h.head fun val hv => ?_
    split
    · exact L.null
    · exact L.ite L.null fun hn => L.asInt hv hn fun _ => L.int
    · exact L.ite L.null fun hn => L.asNum hv hn fun _ => L.num
    · exact L.argTypeErr
  · exact L.argTypeErr

theorem mathMap_walk (fn : Float → Float) (args : List (m Val)) (h : L.Args args) : L.T L.W (mathMap fn args) := by
  unfold mathMap
  split
  · refine L.bind h.head fun val hv => ?_
    split
    · exact L.null
    · exact L.ite (L.pure hv) fun hn => L.asInt hv hn fun _ => L.num
    · exact L.ite (L.pure hv) fun hn => L.asNum hv hn fun _ => L.num
    · exact L.ite (L.pure hv) fun _ => L.unm
    · exact L.argTypeErr
  · exact L.argTypeErr

theorem biRound_walk (args : List (m Val)) (h : L.Args args) : L.T L.W (biRound args) := by
  unfold biRound
  split
  · refine L.bind h.head fun val hv => ?_
    split
    · exact L.ite L.null fun hn => L.asInt hv hn fun _ => L.num
    · exact L.ite (L.pure hv) fun hn => L.asNum hv hn fun _ => L.num
    · exact L.ite (L.pure hv) fun _ => L.unm
    · exact L.argTypeErr
  · refine L.bind h.head fun val hv => L.bind h.tail.head fun a1 h1 => ?_
    extract_lets jp
    have hk : ∀ d, L.T L.W (jp d) := fun d => by
      dsimp only [jp]
      split
      · exact L.null
      · exact L.ite L.null fun hn => L.asInt hv hn fun _ => L.num
      · exact L.ite (L.pure hv) fun hn => L.asNum hv hn fun _ => L.num
      · exact L.ite (L.pure hv) fun _ => L.unm
      · exact L.argTypeErr
    split
    · exact L.pure_bind hk
    · exact L.iteP (fun hn => L.asInt h1 (nn_of_bnot hn) fun _ => L.pure_bind hk) fun _ => L.pure_bind hk
    · exact L.iteP (fun hn => L.asNum h1 (nn_of_bnot hn) fun _ => L.cast fun _ => L.pure_bind hk) fun _ => L.pure_bind hk
    · exact L.bind_argTypeErr
  · exact L.argTypeErr

/-! max / min / mod / atan2: the prologue `numPair` is a computation of `Res`; it is walked once, for any `Walk Res`, and
reaches the other monads as one leaf through the instance `Walk.res`. -/

/-- The typed accessors of max / min / mod / atan2 are reached only for two non-null numbers: the combined null test of
the prologue covers every cell that dereferences. What comes back without arithmetic is a null. -/
theorem numPair_walk (L : Walk Res) (ty : Ty) {a0 a1 : Val} (h0 : L.W a0) (h1 : L.W a1) :
    L.T (fun p : NumPair => ∀ v, p = .ret v → okVal v = true) (numPair ty a0 a1) := by
  have hret : ∀ t, L.T (fun p : NumPair => ∀ v, p = .ret v → okVal v = true) (Res.ok (.ret (.null t))) := fun t =>
    L.pure fun v e => by cases e; exact okVal_null t
  unfold numPair
  refine L.ite L.argTypeErr fun _ => L.ite (hret _) fun hn => ?_
  have nn : isNumMajor a0 = true → isNumMajor a1 = true → a0.isNull = false ∧ a1.isNull = false :=
    fun i0 i1 => by simpa [i0, i1] using hn
  split
  · exact hret _
  · rename_i hm0
    have i0 : isNumMajor a0 = true := by simp [isNumMajor, hm0]
    split
    · exact hret _
    · rename_i hm1
      obtain ⟨n0, n1⟩ := nn i0 (by simp [isNumMajor, hm1])
      exact L.asInt h0 n0 fun _ => L.asInt h1 n1 fun _ => L.pure nofun
    · rename_i hm1
      obtain ⟨n0, n1⟩ := nn i0 (by simp [isNumMajor, hm1])
      exact L.asInt h0 n0 fun _ => L.asNum h1 n1 fun _ => L.pure nofun
    · exact L.argTypeErr
  · rename_i hm0
    have i0 : isNumMajor a0 = true := by simp [isNumMajor, hm0]
    split
    · exact hret _
    · rename_i hm1
      obtain ⟨n0, n1⟩ := nn i0 (by simp [isNumMajor, hm1])
      exact L.asNum h0 n0 fun _ => L.asInt h1 n1 fun _ => L.pure nofun
    · rename_i hm1
      obtain ⟨n0, n1⟩ := nn i0 (by simp [isNumMajor, hm1])
      exact L.asNum h0 n0 fun _ => L.asNum h1 n1 fun _ => L.pure nofun
    · exact L.argTypeErr
  · exact L.argTypeErr

theorem numPair_no_hazard (ty : Ty) {a0 a1 : Val} (w0 : a0.tabOk = true) (w1 : a1.tabOk = true) :
    (numPair ty a0 a1).isHazard = false :=
  (numPair_walk (Walk.res True) ty (fun _ => w0) (fun _ => w1)).1 trivial

theorem Walk.numPair {β : Type} {P : β → Prop} {ty : Ty} {a0 a1 : Val} {k : NumPair → m β} (h0 : L.W a0) (h1 : L.W a1)
    (hk : ∀ p, (∀ v, p = .ret v → okVal v = true) → L.T P (k p)) : L.T P (liftR (numPair ty a0 a1) >>= k) :=
  have h := numPair_walk (Walk.res L.sound) ty (fun hs => L.W_tab hs h0) (fun hs => L.W_tab hs h1)
  L.leafOk (L.ok_nh h.1) fun p hp => hk p (h.2 p hp)

theorem biMinMax_walk (isMax : Bool) (args : List (m Val)) (h : L.Args args) : L.T L.W (biMinMax isMax args) := by
  unfold biMinMax
  split
  · refine L.bind h.head fun a0 h0 => L.bind h.tail.head fun a1 h1 => ?_
    refine L.numPair h0 h1 fun p hp => ?_
    split
    · exact L.ret (hp _ rfl)
    · exact L.int
    iterate 3 exact L.num
  · exact L.argTypeErr

theorem biMod_walk (args : List (m Val)) (h : L.Args args) : L.T L.W (biMod args) := by
  unfold biMod
  split
  · refine L.bind h.head fun a0 h0 => L.bind h.tail.head fun a1 h1 => ?_
    refine L.numPair h0 h1 fun p hp => ?_
    split
    · exact L.ret (hp _ rfl)
    · exact L.leaf (fun _ => imod_no_hazard _ _) fun _ _ => L.int
    iterate 3 exact L.ite L.rerr fun _ => L.num
  · exact L.argTypeErr

theorem biAtan2_walk (args : List (m Val)) (h : L.Args args) : L.T L.W (biAtan2 args) := by
  unfold biAtan2
  split
  · refine L.bind h.head fun a0 h0 => L.bind h.tail.head fun a1 h1 => ?_
    refine L.numPair h0 h1 fun p hp => ?_
    split
    · exact L.ret (hp _ rfl)
    iterate 4 exact L.num
  · exact L.argTypeErr

theorem clamp_nonnull {a0 a1 a2 : Val} (h : (a0.isNull || a1.isNull || a2.isNull) = false) :
    a0.isNull = false ∧ a1.isNull = false ∧ a2.isNull = false :=
  ⟨nn_orL' (nn_orL' h), nn_orR' (nn_orL' h), nn_orR' h⟩

theorem biClamp_walk (args : List (m Val)) (h : L.Args args) : L.T L.W (biClamp args) := by
  unfold biClamp
  split
  · refine L.bind h.head fun a0 h0 => L.bind h.tail.head fun a1 h1 => L.bind h.tail.tail.head fun a2 h2 => ?_
    split
    · exact L.null
    · refine L.ite (L.pure h0) fun hn => ?_
      obtain ⟨n0, n1, n2⟩ := clamp_nonnull hn
      exact L.asInt h0 n0 fun _ => L.asInt h1 n1 fun _ => L.asInt h2 n2 fun _ => L.int
    · refine L.ite (L.pure h0) fun hn => ?_
      obtain ⟨n0, n1, n2⟩ := clamp_nonnull hn
      exact L.asNum h0 n0 fun _ => L.asNum h1 n1 fun _ => L.asNum h2 n2 fun _ => L.num
    · exact L.argTypeErr
  · exact L.argTypeErr

theorem tabHeader_no_hazard (a : Val) : (tabHeader a).isHazard = false := by
  fun_cases tabHeader a
  all_goals rfl

theorem tabFill_walk (t1 : m Val) (ht : L.T L.W t1) (ty : Ty) : ∀ k acc, (∀ v ∈ acc, L.W v) →
    L.T (fun l => ∀ v ∈ l, L.W v) (tabFill t1 ty k acc)
  | 0, _, ha => L.pure ha
  | k + 1, acc, ha => by
    unfold tabFill
    exact L.bind ht fun a hv => L.ite L.rerr fun _ => tabFill_walk t1 ht ty k _
      (List.forall_mem_append.2 ⟨ha, List.forall_mem_singleton.2 hv⟩)

theorem biTab_walk (args : List (m Val)) (h : L.Args args) : L.T L.W (biTab args) := by
  unfold biTab
  split
  · exact L.null
  · have ht1 := h.tail.head
    refine L.bind h.head fun a0 h0 => L.ite ?_ fun hn => ?_
    · exact L.bind ht1 fun a1 _ => L.iteP (fun _ => L.bind_rerr) fun _ => L.null
    · refine L.asInt h0 hn fun n => ?_
      refine L.ite L.rerr fun _ => L.ite L.unm fun _ => ?_
      refine L.bind ht1 fun a1 h1 => L.leaf (fun _ => tabHeader_no_hazard a1) fun p hp => ?_
      obtain ⟨t, decl⟩ := p
      -- the header is one dimension above the element (`tabHeader_ok`): level ≥ 1, so the new table value is well-formed
      have hl : t.level ≠ 0 := by rw [(tabHeader_ok hp).2.2]; omega
      refine L.ite (L.pure (L.W_mkTab hl (by simp))) fun _ => ?_
      exact L.bind (tabFill_walk L _ ht1 _ _ _ (by simpa using h1)) fun es hes => L.pure (L.W_mkTab hl hes)
  · exact L.argTypeErr

theorem tupItems_walk : ∀ (args : List (m Val)), L.Args args → ∀ acc, (∀ v ∈ acc, L.W v) →
    L.T (fun l => ∀ v ∈ l, L.W v) (tupItems args acc)
  | [], _, _, ha => L.pure ha
  | t :: ts, h, acc, ha => by
    unfold tupItems
    exact L.bind h.head fun a hv => L.ite L.rerr fun _ => L.ite L.rerr fun _ =>
      tupItems_walk ts h.tail _ (List.forall_mem_append.2 ⟨ha, List.forall_mem_singleton.2 hv⟩)

theorem biTup_walk (args : List (m Val)) (h : L.Args args) : L.T L.W (biTup args) := by
  unfold biTup
  split
  · exact L.null
  · exact L.bind (tupItems_walk L _ h [] (by simp)) fun items hi => L.pure (L.W_mkTup (List.length_map ..) hi)

/-- `hit`: reading an item of a value that satisfies `W` is an acceptable leaf, and the item satisfies `W`. -/
theorem itemAt_walk (recv : m Val) (h : L.T L.W recv) (n : Nat)
    (hit : ∀ v i, L.W v → L.ok (itemAtV v i) ∧ ∀ x, itemAtV v i = .ok x → L.W x) : L.T L.W (itemAt recv n) := by
  unfold itemAt
  have h1 : (itemNo n).isHazard = false := by unfold itemNo; split <;> rfl
  exact L.leaf (fun _ => h1) fun no _ => L.bind h fun v hv => L.lift (hit v _ hv).1 (hit v _ hv).2

theorem evalBuiltinX_walk (name : String) (args : List (m Val)) (h : L.Args args) (r : m Val)
    (hr : evalBuiltinX name args = some r) : L.T L.W r := by
  revert hr
  fun_cases evalBuiltinX name args
  all_goals rintro ⟨⟩
  · exact biNum_walk L args h
  · exact biIsnum_walk L args h
  · exact biBool_walk L args h
  · exact biIsnull_walk L args h
  · exact biTypeof_walk L args h
  · exact biSign_walk L args h
  iterate 15 exact mathMap_walk L _ args h   -- floor … tanh
  · exact biRound_walk L args h
  · exact biMinMax_walk L _ args h
  · exact biMinMax_walk L _ args h
  · exact biMod_walk L args h
  · exact biAtan2_walk L args h
  · exact biClamp_walk L args h
  iterate 3 exact L.num   -- pi, ee, phi

/-- Every modelled built-in. `substr` / `subraw` need more than `W` of their arguments: a predicate `A` under which the index
arithmetic on the operand's length is an acceptable leaf. -/
theorem evalBuiltin_walk (fmt : Num.F64 → Bytes) (name : String) (args : List (m Val)) (h : L.Args args)
    (A : Val → Prop) (hA : ∀ v, A v → L.W v)
    (hsub : name = "substr" ∨ name = "subraw" →
      (∀ t ∈ args, L.T A t) ∧ ∀ v s a b, A v → v = .str s ∨ v = .raw s → L.ok (substrRange (lenI s) a b))
    (r : m Val) (hr : evalBuiltin fmt name args = some r) : L.T L.W r := by
  revert hr
  fun_cases evalBuiltin fmt name args
  rotate_right
  · exact evalBuiltinX_walk L _ args h r   -- the fall-through: the names of the second table
  all_goals rintro ⟨⟩
  · exact substrLike_walk L A hA okVal_str asStr_no_hazard (fun e => .inl (Lemmas.asStr_ok e))
      (hsub (.inl rfl)).2 args (hsub (.inl rfl)).1
  · exact substrLike_walk L A hA okVal_raw asRaw_no_hazard (fun e => .inr (Lemmas.asRaw_ok e))
      (hsub (.inr rfl)).2 args (hsub (.inr rfl)).1
  · exact lrSubstr_walk L _ args h
  · exact lrSubstr_walk L _ args h
  · exact biStrpos_walk L args h
  · exact biReplace_walk L args h
  iterate 5 exact strMap_walk L _ args h
  · exact biStrlen_walk L args h
  · exact biTokenize_walk L args h
  · exact biHex_walk L args h
  · exact biHash_walk L args h
  · exact biChr_walk L args h
  · exact biRaw_walk L args h
  · exact biInt_walk L args h
  · exact biB64_walk L _ args h
  · exact biB64_walk L _ args h
  · exact biStr_walk L fmt args h
  · exact biAbs_walk L args h
  · exact biPow_walk L args h

end BlocV
