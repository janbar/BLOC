/-
  For every operator family of Model/Ops.lean: the (major, major) operand cells in which the model's `value()` transcription
  has a case, as a boolean cell function (`arithCell`, `addCell`, `bitCell`, `boolCell`, `eqCell`; `handCell` per
  operator; the unary cells are `unCell` of OpsCases), and the proof that outside them (or above level 0) the answer is
  EXC_RT_INV_EXPRESSION and inside them it is not: for the twelve operators of `eagerSwitch` from the table of OpsCases
  (`binAct_inv`: the table has a case exactly in `handCell`; `evalBin_inv_iff`; `evalBin_eager_errP`: inside the cells only the
  scalar function's error), `LazyShape.inv_iff`, `evalUn_inv_iff`; for the orderings, when a typed accessor throws
  (`ordered_accErr_iff`); for the member methods, the receiver test (`acceptMember_notImpl_iff`).
  Proofs/C02G.lean proves the cell functions equal to the case labels extracted from the C++ (`Gen.Op.*_pairs`).
-/
import BlocV.Model.GenEval
import BlocV.Proofs.Lemmas.OpsCases
namespace BlocV.GenOps
open Num Gen

/-- no EXC_RT_INV_EXPRESSION among the errors of `r` -/
abbrev NotInv {α} (r : Res α) : Prop := Res.errP (· ≠ EXC_RT_INV_EXPRESSION) r

theorem ne_inv_of {α} {r : Res α} (h : NotInv r) : r ≠ inv := by
  intro e; exact h EXC_RT_INV_EXPRESSION [] e rfl

/-! ### the cells of the switch-form operators (tied to the table `binAct` of OpsCases by `binAct_inv`) -/

def arithCell (imagOk : Bool) : Major → Major → Bool
  | .none, .none | .none, .int | .none, .num | .int, .none | .num, .none
  | .int, .int | .int, .num | .num, .int | .num, .num => true
  | .none, .imag | .imag, .none | .imag, .int | .imag, .num | .imag, .imag | .int, .imag | .num, .imag => imagOk
  | _, _ => false

def addCell : Major → Major → Bool
  | .none, .str | .str, .none | .str, .str => true
  | m1, m2 => arithCell true m1 m2

/-- these are the cells of `+` as `C02.acceptGap` names them (`BlocV.addCell`, OpsCases) -/
theorem addCell_eq (m1 m2 : Major) : addCell m1 m2 = BlocV.addCell m1 m2 := by
  cases m1 <;> cases m2 <;> rfl

def bitCell : Major → Major → Bool
  | .none, .none | .none, .int | .int, .none | .int, .int => true
  | _, _ => false

def boolCell : Major → Major → Bool
  | .none, .none | .none, .bool | .bool, .none | .bool, .bool => true
  | _, _ => false

theorem evalUn_inv_iff (op : UnOp) (a : Val) :
    evalUn op a = inv ↔ (a.type.level == 0 && unCell op a.type.major) = false := by
  by_cases h1 : a.type.level = 0
  case neg => exact iff_of_true (if_pos (by simp [h1])) (by simp [h1])
  cases hc : unCell op a.type.major
  · refine iff_of_true ?_ (by simp)
    unfold evalUn
    simp only [h1, bne_self_eq_false, Bool.false_eq_true, ↓reduceIte]
    split
    all_goals first
      | rfl
      | (rw [‹a.type.major = _›] at hc
         cases hc)
  · exact iff_of_false (ne_inv_of (evalUn_errP _ op a h1 hc)) (by simp [h1])

/-! ### `and`, `or`: the second operand is looked at only when the first does not decide -/

theorem logical_cell (a1 a2 : Val) :
    a1.Logical ∧ a2.Logical ↔ (a1.type.level == 0 && a2.type.level == 0 && boolCell a1.type.major a2.type.major) = true := by
  simp only [Bool.and_eq_true, beq_iff_eq]
  constructor
  · rintro ⟨⟨l1, m1 | m1⟩, ⟨l2, m2 | m2⟩⟩ <;> rw [m1, m2] <;> exact ⟨⟨l1, l2⟩, rfl⟩
  · rintro ⟨⟨l1, l2⟩, hc⟩
    unfold boolCell at hc
    split at hc
    · exact ⟨⟨l1, .inl ‹_›⟩, ⟨l2, .inl ‹_›⟩⟩
    · exact ⟨⟨l1, .inl ‹_›⟩, ⟨l2, .inr ‹_›⟩⟩
    · exact ⟨⟨l1, .inr ‹_›⟩, ⟨l2, .inl ‹_›⟩⟩
    · exact ⟨⟨l1, .inr ‹_›⟩, ⟨l2, .inr ‹_›⟩⟩
    · cases hc

/-- With a second operand that is a value: EXC_RT_INV_EXPRESSION unless the first operand decides or the two are in a cell. -/
theorem _root_.BlocV.LazyShape.inv_iff {d : Bool} {op : Val → (Unit → Res Val) → Res Val} (h : LazyShape d op) (a1 a2 : Val) :
    op a1 (fun _ => .ok a2) = inv ↔
      ¬(a1 = .bool d ∨ (a1.type.level == 0 && a2.type.level == 0 && boolCell a1.type.major a2.type.major) = true) := by
  rw [← logical_cell]
  rcases h a1 (fun _ => .ok a2) with ⟨n, e⟩ | ⟨hd, e⟩ | ⟨l1, hd, f, e, hf⟩ <;> rw [e]
  · exact iff_of_true rfl fun hc => hc.elim (fun e => n (e ▸ ⟨rfl, .inr rfl⟩)) fun hc => n hc.1
  · exact iff_of_false nofun fun hc => hc (.inl hd)
  · rcases hf a2 with ⟨n, e2⟩ | ⟨l2, v, e2, _⟩ <;> rw [Res.bind_ok, e2]
    · exact iff_of_true rfl fun hc => hc.elim hd fun hc => n hc.2
    · exact iff_of_false nofun fun hc => hc (.inr ⟨l1, l2⟩)

/-! ### `==`, `!=`: never an error; outside the extracted (t1, t2) tests the answer is the constant the chain ends with -/

def eqCell : Major → Major → Bool
  | .bool, .bool | .int, .int | .int, .num | .num, .int | .num, .num | .str, .str | .raw, .raw | .obj, .obj | .tup, .tup => true
  | _, _ => false

theorem eqCore_const (same : Bool) (a1 a2 : Val)
    (h1 : a1.type.level = 0) (h2 : a2.type.level = 0) (hi1 : a1.type.major ≠ .imag) (hi2 : a2.type.major ≠ .imag)
    (hc : eqCell a1.type.major a2.type.major = false) :
    eqCore same a1 a2 = .ok false ∧ neCore same a1 a2 = .ok true := by
  unfold eqCore neCore
  simp only [h1, h2, Nat.lt_irrefl, ↓reduceIte]
  -- a payload comparison or a complex operand contradicts `hc`, `hi1`, `hi2`; what is left is the end of the chain
  constructor <;> split
  all_goals first
    | rfl
    | exact absurd rfl hi1
    | exact absurd rfl hi2
    | (simp only [Val.type, makeTupleTy_major] at hc
       cases hc)

/-- The operand cells in which `evalBin op` does not answer EXC_RT_INV_EXPRESSION (switch-form operators; lazy `and` / `or`: when the first
operand does not decide), resp. in which `==` / `!=` compare payloads. The orderings: `ordRow`, `ordCell` below. -/
def handCell : BinOp → Major → Major → Bool
  | .add => addCell
  | .sub | .mul | .div | .exp => arithCell true
  | .mod => arithCell false
  | .and | .ior | .xor | .pop | .pus => bitCell
  | .band | .bior | .bxor => boolCell
  | .eq | .ne => eqCell
  | _ => fun _ _ => false

theorem asInt_notInv (a : Val) : NotInv a.asInt := by
  unfold Val.asInt; split
  · exact errP_err (by decide)
  · split <;> first | exact errP_ok | exact errP_haz
theorem asNum_notInv (a : Val) : NotInv a.asNum := by
  unfold Val.asNum; split
  · exact errP_err (by decide)
  · split <;> first | exact errP_ok | exact errP_haz
theorem asStr_notInv (a : Val) : NotInv a.asStr := by
  unfold Val.asStr; split
  · exact errP_err (by decide)
  · split <;> first | exact errP_ok | exact errP_haz

/-- the scalar functions raise DIVIDE_BY_ZERO only (OpsCases), which is another code -/
theorem notInv_of_dbz {α} {r : Res α} (h : r.dbzOnly = true) : NotInv r :=
  fun c x e hc => absurd ((dbzOnly_errP h c x e).symm.trans hc) (by decide)

/-- Whatever the operands: a case does not answer EXC_RT_INV_EXPRESSION unless it is `nocase` (an accessor that throws has a code of its own). -/
theorem _root_.BlocV.Act.run_notInv {ii : Int64 → Int64 → Res Int64} {ff : F64 → F64 → Res F64} {a1 a2 : Val} (hii : ∀ x y, NotInv (ii x y))
    (hff : ∀ x y, NotInv (ff x y)) {act : Act} (hact : act ≠ .nocase) : NotInv (act.run ii ff a1 a2) := by
  have num := @numCell NotInv (fun _ => errP_ok) errP_bind
  cases act with
  | nocase => exact absurd rfl hact
  | unm => exact errP_unm
  | int => exact num (fun _ => asInt_notInv _) (fun _ => asInt_notInv _) hii
  | dec c1 c2 =>
    cases c1 <;> cases c2
    · exact num (fun _ => asNum_notInv _) (fun _ => asNum_notInv _) hff
    · exact num (fun _ => asNum_notInv _) (fun _ => asInt_notInv _) fun _ _ => hff _ _
    · exact num (fun _ => asInt_notInv _) (fun _ => asNum_notInv _) fun _ _ => hff _ _
    · exact num (fun _ => asInt_notInv _) (fun _ => asInt_notInv _) fun _ _ => hff _ _
  | cat => simp only [Act.run]; split <;> exact errP_ok
  | xor => simp only [Act.run]; split <;> exact errP_ok
  | _ => exact errP_ok

/-- a case that is there (`nocase`: the `default:` that throws) -/
def hasCase : Act → Bool
  | .nocase => false
  | _ => true

/-- The table has a case exactly in the cells of `handCell`. -/
theorem binAct_inv : ∀ op ∈ switchOps, ∀ m1 ∈ allMajors, ∀ m2 ∈ allMajors, hasCase (binAct op m1 m2) = handCell op m1 m2 := by
  decide +kernel

theorem binAct_nocase_iff (op : BinOp) (hop : eagerSwitch op = true) (m1 m2 : Major) :
    binAct op m1 m2 = .nocase ↔ handCell op m1 m2 = false := by
  rw [← binAct_inv op (mem_switchOps hop) m1 (mem_allMajors m1) m2 (mem_allMajors m2)]
  cases binAct op m1 m2 <;> simp [hasCase]

theorem evalBin_inv_iff (op : BinOp) (hop : eagerSwitch op = true) (a b : Val) (same : Bool) :
    evalBin op a b same = inv ↔ (a.type.level == 0 && b.type.level == 0 && handCell op a.type.major b.type.major) = false := by
  rw [evalBin_eq op hop, switchOn]
  split
  · rename_i hg
    refine iff_of_true rfl ?_
    cases h1 : a.type.level == 0 <;> cases h2 : b.type.level == 0 <;> simp_all
  · rename_i hg
    simp only [bne_iff_ne, ne_eq, Bool.or_eq_true, not_or, Decidable.not_not] at hg
    simp only [hg.1, hg.2, beq_self_eq_true, Bool.true_and]
    rw [← binAct_nocase_iff op hop]
    by_cases hn : binAct op a.type.major b.type.major = .nocase
    · rw [hn]; exact iff_of_true rfl rfl
    · exact iff_of_false (ne_inv_of (Act.run_notInv (fun _ _ => notInv_of_dbz (intFn_dbzOnly op _ _))
        (fun _ _ => notInv_of_dbz (fop_dbzOnly op _ _)) hn)) hn

/-- Inside its cells, on well-formed operands of level 0, a switch-form operator raises DIVIDE_BY_ZERO or nothing: in particular no
type error. -/
theorem evalBin_eager_errP (op : BinOp) (hop : eagerSwitch op = true) (a b : Val) (same : Bool)
    (ha : a.tabOk = true) (hb : b.tabOk = true) (hl1 : a.type.level = 0) (hl2 : b.type.level = 0)
    (hc : handCell op a.type.major b.type.major = true) : Res.errP isDbz (evalBin op a b same) := by
  rw [evalBin_eq op hop, switchOn, if_neg (by simp [hl1, hl2])]
  refine Act.run_errP (fun x y => dbzOnly_errP (intFn_dbzOnly op x y)) (fun x y => dbzOnly_errP (fop_dbzOnly op x y)) (fun h => ?_)
    ha hb hl1 hl2 (binAct_kind op (mem_switchOps hop) _ (mem_allMajors _) _ (mem_allMajors _)).1
  rw [(binAct_nocase_iff op hop _ _).1 h] at hc
  cases hc

/-- The majors of a level-0 operand that the check of an operator's production lets through (parse_expression.cpp: NUMERIC for
`- * / ** %`, uniform INTEGER for the bitwise operators, BOOLEAN for the logical ones; `typeChecking_num`, `typeUniform_int`,
`typeChecking_bool`). -/
def checkM : BinOp → Major → Bool
  | .sub | .mul | .div | .exp | .mod => numish
  | .and | .ior | .xor | .pop | .pus => fun m => m == .none || m == .int
  | .band | .bior | .bxor => fun m => m == .none || m == .bool
  | _ => fun _ => true

/-- What the checks let through lies in the operator's cells — a complex operand of `%` aside. (`+` checks its second operand against
the first: no such list.) -/
theorem handCell_of_checks : ∀ op ∈ switchOps, ∀ m1 ∈ allMajors, ∀ m2 ∈ allMajors, op ≠ .add →
    checkM op m1 = true → checkM op m2 = true → (op = .mod → (m1 == .imag || m2 == .imag) = false) → handCell op m1 m2 = true := by
  decide +kernel

/-- An accepted pair of operand types (no opaque tables): both are of level 0 with majors the checks let through. -/
theorem checks_of_accept (op : BinOp) (hop : eagerSwitch op = true) (hne : op ≠ .add) {t1 t2 : Ty} (hacc : acceptBin op t1 t2 = true)
    (hp1 : t1.noOpaqueTable = true) (hp2 : t2.noOpaqueTable = true) :
    (t1.level = 0 ∧ checkM op t1.major = true) ∧ t2.level = 0 ∧ checkM op t2.major = true := by
  cases op <;> first | (cases hop; done) | simp only [acceptBin, Bool.and_eq_true] at hacc
  case add => exact absurd rfl hne
  case sub | mul | div | exp | mod => exact ⟨typeChecking_num hacc.2 hp1, typeChecking_num hacc.1 hp2⟩
  case and | ior | xor | pop | pus => exact ⟨typeUniform_int hacc.2 hp1, typeUniform_int hacc.1 hp2⟩
  case bxor => exact ⟨typeChecking_bool hacc.2 hp1, typeChecking_bool hacc.1 hp2⟩

/-! ### `< <= > >=`: one switch on the first operand, the second read through a typed accessor -/

/-- the first-operand majors the switch has a case for; any other is answered `false` without an accessor -/
def ordRow : Major → Bool
  | .int | .num | .str => true
  | _ => false

/-- the cells of a row of `ordRow` in which neither accessor throws (`BlocV.ordCell` of OpsCases lets every other row through) -/
def ordCell (m1 m2 : Major) : Bool := ordRow m1 && BlocV.ordCell m1 m2

/-- a typed accessor of `bloc::Value` threw (value.h: EXC_RT_NOT_INTEGER / NOT_NUMERIC / NOT_LITERAL) -/
def IsAccErr (r : Res Val) : Prop :=
  ∃ c, r = .err c [] ∧ (c = Gen.EXC_RT_NOT_INTEGER ∨ c = Gen.EXC_RT_NOT_NUMERIC ∨ c = Gen.EXC_RT_NOT_LITERAL)

theorem isAccErr_ok (v : Val) : ¬IsAccErr (.ok v) := by rintro ⟨c, h, _⟩; cases h
theorem isAccErr_int : IsAccErr (.err Gen.EXC_RT_NOT_INTEGER) := ⟨_, rfl, Or.inl rfl⟩
theorem isAccErr_num : IsAccErr (.err Gen.EXC_RT_NOT_NUMERIC) := ⟨_, rfl, Or.inr (Or.inl rfl)⟩
theorem isAccErr_str : IsAccErr (.err Gen.EXC_RT_NOT_LITERAL) := ⟨_, rfl, Or.inr (Or.inr rfl)⟩

theorem asInt_cases {a : Val} (hw : a.tabOk = true) (hn : a.isNull = false) :
    ((a.type.level = 0 ∧ a.type.major = .int) ∧ ∃ i, a.asInt = .ok i) ∨
    (¬(a.type.level = 0 ∧ a.type.major = .int) ∧ a.asInt = .err Gen.EXC_RT_NOT_INTEGER) := by
  by_cases h : a.type.level = 0 ∧ a.type.major = .int
  · obtain ⟨i, rfl⟩ := eq_int_of hw h.1 h.2 hn
    exact Or.inl ⟨h, i, rfl⟩
  · refine Or.inr ⟨h, if_pos ?_⟩
    simpa [Classical.or_iff_not_imp_left, imp_not_comm] using h

theorem asNum_cases {a : Val} (hw : a.tabOk = true) (hn : a.isNull = false) :
    ((a.type.level = 0 ∧ a.type.major = .num) ∧ ∃ i, a.asNum = .ok i) ∨
    (¬(a.type.level = 0 ∧ a.type.major = .num) ∧ a.asNum = .err Gen.EXC_RT_NOT_NUMERIC) := by
  by_cases h : a.type.level = 0 ∧ a.type.major = .num
  · obtain ⟨i, rfl⟩ := eq_num_of hw h.1 h.2 hn
    exact Or.inl ⟨h, i, rfl⟩
  · refine Or.inr ⟨h, if_pos ?_⟩
    simpa [Classical.or_iff_not_imp_left, imp_not_comm] using h

theorem asStr_cases {a : Val} (hw : a.tabOk = true) (hn : a.isNull = false) :
    ((a.type.level = 0 ∧ a.type.major = .str) ∧ ∃ i, a.asStr = .ok i) ∨
    (¬(a.type.level = 0 ∧ a.type.major = .str) ∧ a.asStr = .err Gen.EXC_RT_NOT_LITERAL) := by
  by_cases h : a.type.level = 0 ∧ a.type.major = .str
  · obtain ⟨i, rfl⟩ := eq_str_of hw h.1 h.2 hn
    exact Or.inl ⟨h, i, rfl⟩
  · refine Or.inr ⟨h, if_pos ?_⟩
    simpa [Classical.or_iff_not_imp_left, imp_not_comm] using h

/-- Two typed accessors, then a comparison: an accessor throws unless each operand is what its accessor wants. -/
theorem accErr_seq {α β} {ra : Res α} {rb : Res β} {pa pb : Prop} {ca cb : Nat} (f : α → β → Bool)
    (ha : (pa ∧ ∃ x, ra = .ok x) ∨ (¬pa ∧ ra = .err ca)) (hb : (pb ∧ ∃ y, rb = .ok y) ∨ (¬pb ∧ rb = .err cb))
    (hca : IsAccErr (.err ca)) (hcb : IsAccErr (.err cb)) :
    IsAccErr (boolRes (do let x ← ra; let y ← rb; pure (f x y))) ↔ ¬(pa ∧ pb) := by
  rcases ha with ⟨hpa, x, rfl⟩ | ⟨hpa, rfl⟩
  · rcases hb with ⟨hpb, y, rfl⟩ | ⟨hpb, rfl⟩
    · exact iff_of_false (isAccErr_ok _) (fun h => h ⟨hpa, hpb⟩)
    · exact iff_of_true hcb (fun h => hpb h.2)
  · exact iff_of_true hca (fun h => hpa h.1)

theorem ordered_accErr_iff {ci : Int64 → Int64 → Bool} {cf : F64 → F64 → Bool} {cs : Ordering → Bool} {a b : Val}
    (hw1 : a.tabOk = true) (hw2 : b.tabOk = true) (hn1 : a.isNull = false) (hn2 : b.isNull = false) :
    IsAccErr (ordered ci cf cs a b) ↔
      (ordRow a.type.major = true ∧ (a.type.level == 0 && b.type.level == 0 && ordCell a.type.major b.type.major) = false) := by
  unfold ordered
  simp only [hn1, hn2, Bool.or_self, Bool.false_eq_true, ↓reduceIte]
  unfold ordCore
  split
  · rename_i hm
    split
    · rename_i e2
      rw [accErr_seq _ (asInt_cases hw1 hn1) (asNum_cases hw2 hn2) isAccErr_int isAccErr_num]
      simp [hm, beq_iff_eq.1 e2, ordRow, ordCell, BlocV.ordCell]
    · rename_i e2
      rw [accErr_seq _ (asInt_cases hw1 hn1) (asInt_cases hw2 hn2) isAccErr_int isAccErr_int]
      simp [hm, e2, ordRow, ordCell, BlocV.ordCell]
  · rename_i hm
    split
    · rename_i e2
      rw [accErr_seq _ (asNum_cases hw1 hn1) (asInt_cases hw2 hn2) isAccErr_num isAccErr_int]
      simp [hm, beq_iff_eq.1 e2, ordRow, ordCell, BlocV.ordCell]
    · rename_i e2
      rw [accErr_seq _ (asNum_cases hw1 hn1) (asNum_cases hw2 hn2) isAccErr_num isAccErr_num]
      simp [hm, e2, ordRow, ordCell, BlocV.ordCell]
  · rename_i hm
    rw [accErr_seq _ (asStr_cases hw1 hn1) (asStr_cases hw2 hn2) isAccErr_str isAccErr_str]
    simp [hm, ordRow, ordCell, BlocV.ordCell]
  · have : ordRow a.type.major = false := by
      unfold ordRow
      split <;> first | rfl | exact absurd ‹_› ‹_›
    simp [this, boolRes, isAccErr_ok]

open GenEval in
/-- The receiver labels of the six `parse()` switches are the receiver test of the hand-written `acceptMember`. -/
theorem recvOk_eq (m : Member) (exp : Ty) :
    recvOk m exp = (if m = .count then (level0Seq exp || exp.major == .tup) else level0Seq exp) :=
  have table : ∀ m ∈ [Member.concat, .at, .put, .count, .delete, .insert], ∀ mj ∈ allMajors, ∀ b ∈ [true, false],
      (b || (recvOf m).receivers.contains mj) =
        (if m = .count then (b || mj == .none || mj == .str || mj == .raw || mj == .tup)
         else (b || mj == .none || mj == .str || mj == .raw)) := by
    decide +kernel
  table m (by cases m <;> decide) exp.major (mem_allMajors _) (exp.level != 0) (by cases (exp.level != 0) <;> decide)

theorem ite_ne {c : Prop} [Decidable c] {a b x : Option Nat} (ha : a ≠ x) (hb : b ≠ x) : (if c then a else b) ≠ x := by
  split <;> assumption

/-- The hand-written `acceptMember` answers MEMB_NOT_IMPL exactly when its receiver test fails. -/
theorem acceptMember_notImpl_iff (m : Member) (exp : Ty) (args : List Ty) (hd : memberDispatch exp = none)
    (harg : m = .at → ∃ a0 rest, args = a0 :: rest ∧ typeChecking a0 Ty.int = true) :
    acceptMember m exp args false = some Gen.EXC_PARSE_MEMB_NOT_IMPL_S ↔
      (if m = .count then (level0Seq exp || exp.major == .tup) else level0Seq exp) = false := by
  have pass : ∀ {t : Bool} {rest : Option Nat}, rest ≠ some EXC_PARSE_MEMB_NOT_IMPL_S →
      ((if (!t) = true then some EXC_PARSE_MEMB_NOT_IMPL_S else rest) = some EXC_PARSE_MEMB_NOT_IMPL_S ↔ t = false) := by
    intro t rest h
    cases t
    · exact iff_of_true rfl rfl
    · exact iff_of_false h nofun
  cases m
  case «at» =>
    obtain ⟨a0, rest, rfl, ha⟩ := harg rfl
    simp only [acceptMember, hd, ha, Bool.not_true, Bool.false_eq_true, ↓reduceIte, reduceCtorEq]
    exact pass (ite_ne (by decide) (by decide))
  all_goals
    simp only [acceptMember, hd, reduceCtorEq, ↓reduceIte, Bool.false_eq_true]
    refine pass ?_
    -- no later test answers MEMB_NOT_IMPL
    rcases args with _ | ⟨a0, _ | ⟨a1, rest2⟩⟩ <;> try dsimp only
    repeat' first
      | decide
      | refine ite_ne ?_ ?_
      | (generalize hb : (if (exp.level == 0) = true then _ else _ : Option Nat) = bad
         cases bad <;> dsimp only <;> try (rintro ⟨⟩; revert hb))
end BlocV.GenOps
