/-
  Equations and characterisations of single definitions of Model/Interp.lean that several property files use: one step of the loop
  runners, of `return` and of a call, the trace of values a `for` re-entry loop gives its control variable (both directions at once),
  which errors a `when` clause matches, the text of `error`, `execList` statement by statement and `runProgram` as `execList` from the
  state the parser leaves.
-/
import BlocV.Proofs.Lemmas.Interp
import BlocV.Proofs.Lemmas.Loops
import BlocV.Proofs.Lemmas.Int64
namespace BlocV.Lemmas

theorem condTaken_bool (b : Bool) : condTaken (.bool b) = .ok b := rfl

/- Not closed by a bare `rfl`: `simp` would then use them as definitional unfoldings, rewrite the condition of an `if` under its
`Decidable` instance and leave the `if` stuck. -/
theorem isNull_int (x : Int64) : (Val.int x).isNull = false := by unfold Val.isNull; rfl
theorem asInt_int (x : Int64) : (Val.int x).asInt = .ok x := by unfold Val.asInt; rfl

/-- The exit test of `FORStatement::doit`'s re-entry branch on a (mathematical) next value. -/
def forStop (min max step : Int64) (x : Int) : Bool :=
  (step > 0 && x > max.toInt) || (step < 0 && x < min.toInt)

/-- `x, x+step, …` while the exit test lets them through, at most `fuel` values: `Spec.upFrom` for a positive step,
`Spec.downFrom` for a negative one. -/
def forTrace (min max step : Int64) : Nat → Int → List Int
  | 0, _ => []
  | k + 1, x => if forStop min max step x then [] else x :: forTrace min max step k (x + step.toInt)

theorem forStop_of_pos {min max step : Int64} (h : 0 < step.toInt) (x : Int) :
    forStop min max step x = decide (x > max.toInt) := by
  have h1 : step > 0 := Int64.lt_iff_toInt_lt.mpr h
  have h2 : ¬ step < 0 := fun h' => by have := Int64.lt_iff_toInt_lt.mp h'; change step.toInt < 0 at this; omega
  simp [forStop, h1, h2]

theorem forStop_of_neg {min max step : Int64} (h : step.toInt < 0) (x : Int) :
    forStop min max step x = decide (x < min.toInt) := by
  have h1 : step < 0 := Int64.lt_iff_toInt_lt.mpr h
  have h2 : ¬ step > 0 := fun h' => by have := Int64.lt_iff_toInt_lt.mp h'; change 0 < step.toInt at this; omega
  simp [forStop, h1, h2]

theorem upFrom_eq_forTrace (min max step : Int64) (h : 0 < step.toInt) :
    ∀ (k : Nat) (x : Int), Spec.upFrom k x max.toInt step.toInt = forTrace min max step k x
  | 0, _ => rfl
  | k + 1, x => by simp only [Spec.upFrom, forTrace, forStop_of_pos h, decide_eq_true_eq, upFrom_eq_forTrace min max step h k]

theorem downFrom_eq_forTrace (min max step : Int64) (h : step.toInt < 0) :
    ∀ (k : Nat) (x : Int), Spec.downFrom k x min.toInt (-step.toInt) = forTrace min max step k x
  | 0, _ => rfl
  | k + 1, x => by
    simp only [Spec.downFrom, forTrace, forStop_of_neg h, decide_eq_true_eq, Int.sub_neg, downFrom_eq_forTrace min max step h k]

/-- With fuel above the iteration count, an ascending `Spec.forRange` is the trace of the re-entry loop run in `[first, limit]`. -/
theorem forRange_eq_forTrace_up (bi ei st : Int64) (dir : Spec.Direction) (k : Nat) (h : ei.toInt > bi.toInt) (hd : dir ≠ .desc)
    (hst : 1 ≤ st.toInt) (hk : Spec.forCount bi.toInt ei.toInt st.toInt dir < k) :
    Spec.forRange bi.toInt ei.toInt st.toInt dir = forTrace bi ei st k bi.toInt := by
  rw [← upFrom_eq_forTrace bi ei st (by omega)]
  simp only [Spec.forRange, Spec.forCount, h, if_true, hd, if_false] at hk ⊢
  exact upFrom_fuel (by omega) (upCount_le (by omega) (by omega)) (by unfold upCount; split <;> omega)

/-- … and a descending one the trace of the loop run in `[limit, first]` with the step negated. -/
theorem forRange_eq_forTrace_down (bi ei st : Int64) (dir : Spec.Direction) (k : Nat) (h : ¬ ei.toInt > bi.toInt)
    (hd : ¬ (dir = .asc ∧ ei.toInt ≠ bi.toInt)) (hst : 1 ≤ st.toInt) (hk : Spec.forCount bi.toInt ei.toInt st.toInt dir < k) :
    Spec.forRange bi.toInt ei.toInt st.toInt dir = forTrace ei bi (0 - st) k bi.toInt := by
  have hneg : (0 - st).toInt = -st.toInt := toInt_zero_sub st (by omega)
  have hb := downFrom_eq_forTrace ei bi (0 - st) (by omega) k bi.toInt
  rw [hneg, Int.neg_neg] at hb
  rw [← hb]
  simp only [Spec.forRange, Spec.forCount, h, if_false, hd] at hk ⊢
  exact downFrom_fuel (by omega) (downCount_le (by omega) (by omega)) (by unfold downCount; split <;> omega)

/-- A next value that passes the exit test has not wrapped around: it lies between the current value and the limit. -/
theorem toInt_add_of_not_forStop {min max step a : Int64} (h : forStop min max step (a.toInt + step.toInt) = false) :
    (a + step).toInt = a.toInt + step.toInt := by
  have ha1 := Int64.le_toInt a; have ha2 := Int64.toInt_lt a
  have hx1 := Int64.le_toInt min; have hx2 := Int64.toInt_lt max
  rw [Int64.toInt_add]
  rcases Int.lt_trichotomy step.toInt 0 with hs | hs | hs
  · rw [forStop_of_neg hs, decide_eq_false_iff_not] at h
    exact Int.bmod_eq_of_le (by omega) (by omega)
  · exact Int.bmod_eq_of_le (by omega) (by omega)
  · rw [forStop_of_pos hs, decide_eq_false_iff_not] at h
    exact Int.bmod_eq_of_le (by omega) (by omega)

/-- **One re-entry of FORStatement::doit, for any body** (also one that assigns the control variable): after a body run that ends
normally or with `continue`, with the control variable then holding `cur`, the loop ends iff `cur + step` — computed on
mathematical integers — leaves `[min, max]` in the direction of the step; otherwise the variable becomes `cur + step` (which then
cannot have wrapped: `toInt_add_of_not_forStop`) and the loop re-enters. -/
theorem forLoop_iteration {body : EvalM Flow} {v : String} (min max step : Int64) (k : Nat) {s s1 : St} {r : Flow}
    {cur : Int64} (hb : body s = (.ok r, s1)) (hr : r = .norm ∨ r = .cont) (hv : lookupVar s1.vars v = .int cur) :
    forLoop body v min max step (k + 1) s =
      if forStop min max step (cur.toInt + step.toInt) then (.ok .norm, s1)
      else forLoop body v min max step k { s1 with vars := setVar s1.vars v (.int (cur + step)) } := by
  rw [forLoop, bind_app, hb]
  rcases hr with rfl | rfl
  all_goals
    simp only [bind_app, getSt_app, liftM_app, hv, isNull_int, asInt_int, Bool.false_eq_true, if_false, evalM_ite_app, pure_app, modifySt_app]
    rfl

theorem whileLoop_cond_false (cond : EvalM Val) (body : EvalM Flow) (k : Nat) (s s1 : St) (v : Val)
    (hc : cond s = (.ok v, s1)) (ht : (if v.isNull then Res.ok false else v.asBool) = .ok false) :
    whileLoop cond body (k + 1) s = (.ok .norm, s1) := by
  simp only [whileLoop, bind_app, hc, liftM_app, ht, Bool.not_false, if_true, pure_app]

theorem whileLoop_cond_true {cond : EvalM Val} {body : EvalM Flow} {k : Nat} {s s1 : St} {v : Val}
    (hc : cond s = (.ok v, s1)) (ht : (if v.isNull then Res.ok false else v.asBool) = .ok true) :
    whileLoop cond body (k + 1) s =
      (body >>= fun fl => match fl with
        | .norm | .cont => whileLoop cond body k
        | .brk => pure .norm
        | .ret => pure .ret) s1 := by
  simp only [whileLoop, bind_app, hc, liftM_app, ht, Bool.not_true, Bool.false_eq_true, if_false]
  rfl

theorem execList_return (funcs : List Func) (depth fuel : Nat) {s : St} (h : s.budget ≠ 0) (e : Expr) (rest : List Stmt) :
    execList funcs depth (fuel + 2) (.returnS (some e) :: rest) s =
      (do
        let v ← eval funcs depth fuel e
        modifySt fun s => { s with returned := some v }
        pure .ret : EvalM Flow) (tick s) := by
  rw [execList, bind_app, exec_returnS funcs depth fuel h, bind_app]
  rcases eval funcs depth fuel e (tick s) with ⟨r, s'⟩
  cases r <;> rfl

/-- a call whose body ends with `return e` has the outcome of `e`: its value, or its error -/
theorem finishCall_return_fst (c : St) (x : EvalM Val) (s : St) :
    (finishCall c ((do
      let v ← x
      modifySt fun s => { s with returned := some v }
      pure .ret : EvalM Flow) s)).1 = (x s).1 := by
  rw [bind_app]
  rcases x s with ⟨r, s'⟩
  cases r <;> rfl

theorem callFunc_limit {funcs : List Func} {fuel : Nat} {name : String} {args : List Expr} {s : St} {f : Func}
    (hf : funcs.find? (fun f => f.name == name && f.params.length == args.length) = some f) :
    callFunc funcs Gen.RECURSION_LIMIT (fuel + 1) name args s = (.err Gen.EXC_RT_RECURSION_LIMIT, s) := by
  simp [callFunc, hf, failE]

/-- One level of `function nm() begin return nxt(); end`: an error of the inner call that no clause matches is the outcome of the
outer call; the inner call runs at the next depth, after the `return` statement has taken its unit of budget. -/
theorem callFunc_return_call_error {funcs : List Func} {d m : Nat} {nm nxt : String} {f : Func} {s r : St} {c : Nat} {a : Bytes}
    (hf : funcs.find? (fun g => g.name == nm && g.params.length == 0) = some f)
    (hbody : f.body = [.returnS (some (.fcall nxt []))])
    (hd : d ≠ Gen.RECURSION_LIMIT) (hbud : s.budget ≠ 0)
    (hr : callFunc funcs (d + 1) m nxt [] (tick (calleeInit f [] s)) = (.err c a, r))
    (hcm : ∀ n, catchMatches n c a = false) :
    callFunc funcs d (m + 5) nm [] s = (.err c a, { s with out := r.out, budget := r.budget }) := by
  have hb : (calleeInit f [] s).budget ≠ 0 := by simpa [calleeInit] using hbud
  have hl : execList funcs (d + 1) (m + 3) f.body (calleeInit f [] s) = (.err c a, r) := by
    rw [hbody, execList_return funcs (d + 1) (m + 1) hb, bind_app, eval_fcall, hr]
  have hcm' : f.catches.find? (fun cl => catchMatches cl.1 c a) = none := List.find?_eq_none.mpr fun cl _ => by simp [hcm]
  rw [callFunc_unfold (args := []) hf (beq_eq_false_iff_ne.mpr hd) (evalArgs_nil ..)]
  simp only [execBlock, hl, hcm', ite_self]
  rfl

theorem isThrowable_iff (code : Nat) :
    isThrowable code = true ↔ code = Gen.EXC_RT_OUT_OF_RANGE ∨ code = Gen.EXC_RT_DIVIDE_BY_ZERO := by
  simp only [isThrowable, Gen.throwables, Gen.EXC_RT_OUT_OF_RANGE, Gen.EXC_RT_DIVIDE_BY_ZERO, List.any_cons, List.any_nil,
    Bool.or_false, Bool.or_eq_true, beq_iff_eq]
  omega

theorem findThrowable_cases (n : String) :
    findThrowable n = Gen.EXC_RT_USER_S ∨ findThrowable n = Gen.EXC_RT_OUT_OF_RANGE ∨ findThrowable n = Gen.EXC_RT_DIVIDE_BY_ZERO := by
  simp only [findThrowable, Gen.throwables, List.find?]
  cases "OUT_OF_RANGE" == n
  · cases "DIVIDE_BY_ZERO" == n
    · exact Or.inl rfl
    · exact Or.inr (Or.inr rfl)
  · exact Or.inr (Or.inl rfl)

theorem catchMatches_builtin (cl : String) (c : Nat) (hcl : (cl == "OTHERS") = false) (hft : findThrowable cl = c)
    (hc : c ≠ Gen.EXC_RT_USER_S) (code : Nat) (arg : Bytes) : catchMatches cl code arg = true ↔ code = c := by
  simp only [catchMatches, hcl, hft, Bool.false_and, Bool.false_or, bne_iff_ne.mpr hc, Bool.true_or, Bool.and_true, beq_iff_eq]
  exact eq_comm

/-- a message format without `%` (byte 37) is printed as it is, whatever the argument of the error -/
theorem fmtS_plain : ∀ (fmt arg : Bytes), (∀ b ∈ fmt, b ≠ 37) → fmtS fmt arg = fmt
  | [], _, _ => rfl
  | [c], _, _ => rfl
  | c :: d :: rest, arg, h => by
    have hc : (c == 37) = false := beq_eq_false_iff_ne.mpr (h c (by simp))
    rw [fmtS, hc, Bool.false_and, if_neg Bool.false_ne_true, fmtS_plain (d :: rest) arg fun b hb => h b (List.mem_cons_of_mem _ hb)]

theorem errWhat_plain (c : Nat) (a : Bytes) (fmt : String) (h : Gen.rtMessages[c]? = some fmt)
    (hp : ∀ b ∈ fmt.toUTF8.toList, b ≠ 37) : errWhat (c, a) = errWhat (c, []) := by
  simp only [errWhat, h, fmtS_plain _ _ hp]

theorem execList_zero (funcs : List Func) (depth : Nat) (l : List Stmt) (s : St) :
    execList funcs depth 0 l s = (.err oofCode [], s) := by
  rw [execList]; rfl

theorem execList_nil (funcs : List Func) (depth fuel : Nat) (s : St) :
    execList funcs depth (fuel + 1) [] s = (.ok .norm, s) := by
  rw [execList]
  · rfl
  · simp

theorem execList_cons (funcs : List Func) (depth fuel : Nat) (st : Stmt) (rest : List Stmt) (s : St) :
    execList funcs depth (fuel + 1) (st :: rest) s =
      match exec funcs depth fuel st s with
      | (.ok fl, s') => if fl == .norm then execList funcs depth fuel rest s' else (.ok fl, s')
      | (.err c a, s') => (.err c a, s')
      | (.haz h, s') => (.haz h, s')
      | (.unmodelled, s') => (.unmodelled, s') := by
  rw [execList, bind_app]
  cases h : exec funcs depth fuel st s with
  | mk r s' =>
    cases r with
    | ok fl => dsimp only; split <;> rfl
    | _ => rfl

theorem execList_cons_norm {funcs : List Func} {depth fuel : Nat} {st : Stmt} {s s' : St} (rest : List Stmt)
    (h : exec funcs depth fuel st s = (.ok .norm, s')) :
    execList funcs depth (fuel + 1) (st :: rest) s = execList funcs depth fuel rest s' := by
  rw [execList_cons, h]
  rfl

theorem execList_cons_stop {funcs : List Func} {depth fuel : Nat} {st : Stmt} {s : St} (rest : List Stmt)
    (h : ∀ s', exec funcs depth fuel st s ≠ (.ok .norm, s')) :
    execList funcs depth (fuel + 1) (st :: rest) s = exec funcs depth fuel st s := by
  rw [execList_cons]
  rcases he : exec funcs depth fuel st s with ⟨r, s'⟩
  cases r with
  | ok fl =>
    cases fl with
    | norm => exact absurd he (h s')
    | _ => rfl
  | _ => rfl

/-- what `bloc_execute2` + `bloc_drop_returned` hand to the host for a finished statement list -/
def outcomeOf (r : Res Flow × St) : Res (Option Val) :=
  match r.1 with
  | .ok _ => .ok r.2.returned
  | .err c a => .err c a
  | .haz h => .haz h
  | .unmodelled => .unmodelled

/-- the state `runProgram` starts from: every symbol the parser registered, as a typed null -/
def progInit (prog : List Stmt) (init : St) : St :=
  let vars0 := (mainDecls (collectFuncs prog) prog).foldl (fun vs (n, t) => if vs.any (·.1 == n) then vs else vs ++ [(n, Val.null t)]) init.vars
  { init with vars := vars0 }

theorem runProgram_eq_execList (fuel : Nat) (prog : List Stmt) (init : St) :
    (runProgram fuel prog init).outcome = outcomeOf (execList (collectFuncs prog) 0 fuel prog (progInit prog init)) ∧
    (runProgram fuel prog init).st = (execList (collectFuncs prog) 0 fuel prog (progInit prog init)).2 := by
  unfold runProgram progInit
  dsimp only
  split <;> (rename_i h; rw [h]; exact ⟨rfl, rfl⟩)

end BlocV.Lemmas
