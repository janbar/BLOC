/-
  The scanner seen whole and in chunks (C13). `matchLens r s` lists the lengths of the prefixes of `s` in the language of `r`
  (`Matches`, `mem_matchLens`) and `longest r s` is the greatest of them (`le_longest`, `longest_le_of`), so two texts with a
  common prefix that no match outgrows have the same longest match (`longest_local`). A pattern none of whose classes and
  literals contains a byte matches no text containing it (`Matches.free`, `longest_free`); every rule of tokenizer.lex is such
  a pattern for '\n', a one-byte class, or an alternative of these (`rulesOf_local`), so the rule choice does not look beyond
  the next '\n' (`pick_nl`). When no rule matches across the end of a buffer at any of its token starts (`noCross`), scanning
  it and then the rest in the start condition it leaves, at the beginning of a line iff it ends with '\n', is scanning the
  whole (`lex_append`). A NEW buffer is always at the beginning of a line, which must not change its first token
  (`lex_bol_irrelevant`): hence the chunk theorem `lexChunksFrom_safe`, of which the line-aligned fragmentations are a case
  (`noCross_nl`). Then the line reader: one induction over its loop (`lineSplitAux_spec`), and the removal of CR against
  `crlfToLf`.
-/
import BlocV.Spec.Lex
import BlocV.Model.LexReaders
namespace BlocV.Scan
open BlocV.Lex

/-- no class and no literal of `r` contains the byte `x`: `r` cannot match a text containing `x` -/
def freeOf (x : UInt8) : Re → Bool
  | .cls p => !p x
  | .lit l => l.all (· != x)
  | .seq a b => freeOf x a && freeOf x b
  | .alt a b => freeOf x a && freeOf x b
  | .opt a => freeOf x a
  | .star p => !p x
  | .plus p => !p x

end BlocV.Scan

namespace BlocV.Lex
open Scan (freeOf)

/-- Patterns whose matches never extend over a '\n' that is not the first byte: newline-free
patterns, one-byte classes (whatever the class), and alternatives of such. -/
def lineLocal : Re → Bool
  | .cls _ => true
  | .alt a b => (freeOf 10 a && freeOf 10 b) || (lineLocal a && lineLocal b)
  | r => freeOf 10 r

/-- `w` is in the language of `r` -/
def Matches : Re → Bytes → Prop
  | .cls p, w => ∃ c, w = [c] ∧ p c = true
  | .lit l, w => w = l
  | .seq a b, w => ∃ u v, w = u ++ v ∧ Matches a u ∧ Matches b v
  | .alt a b, w => Matches a w ∨ Matches b w
  | .opt a, w => w = [] ∨ Matches a w
  | .star p, w => w.all p = true
  | .plus p, w => w ≠ [] ∧ w.all p = true

theorem mem_starLens (p : UInt8 → Bool) : ∀ (s : Bytes) (n : Nat),
    n ∈ starLens p s ↔ n ≤ s.length ∧ (s.take n).all p = true := by
  intro s
  induction s with
  | nil => intro n; simp [starLens]
  | cons c t ih =>
    intro n
    simp only [starLens]
    cases n with
    | zero => split <;> simp
    | succ k => split <;> simp [*]

theorem isPre_iff (l s : Bytes) : isPre l s = true ↔ l <+: s := by
  induction l generalizing s with
  | nil => simp [isPre]
  | cons a l ih =>
    cases s with
    | nil => simp [isPre]
    | cons b s => simp [isPre, ih, List.cons_prefix_cons]

theorem take_eq_iff {α : Type} {s w : List α} {n : Nat} : n ≤ s.length ∧ s.take n = w ↔ w <+: s ∧ n = w.length := by
  constructor
  · rintro ⟨h, rfl⟩; exact ⟨List.take_prefix n s, by rw [List.length_take, Nat.min_eq_left h]⟩
  · rintro ⟨⟨v, rfl⟩, rfl⟩; simp

theorem mem_matchLens : ∀ (r : Re) (s : Bytes) (n : Nat),
    n ∈ matchLens r s ↔ n ≤ s.length ∧ Matches r (s.take n) := by
  intro r
  induction r with
  | cls p =>
    intro s n
    cases s with
    | nil => simp [matchLens, Matches]
    | cons c t =>
      simp only [matchLens, Matches, List.mem_ite_nil_right, List.mem_singleton]
      constructor
      · rintro ⟨hp, rfl⟩; exact ⟨by simp, c, rfl, hp⟩
      · rintro ⟨hn, c', hc', hp⟩
        obtain ⟨hpre, rfl⟩ := take_eq_iff.mp ⟨hn, hc'⟩
        cases (List.cons_prefix_cons.mp hpre).1
        exact ⟨hp, rfl⟩
  | lit l => intro s n; simp only [matchLens, Matches, isPre_iff, List.mem_ite_nil_right, List.mem_singleton, take_eq_iff]
  | seq a b iha ihb =>
    intro s n
    simp only [matchLens, Matches, List.mem_flatMap, List.mem_map, iha, ihb, List.length_drop]
    constructor
    · rintro ⟨n1, ⟨h1, ha⟩, n2, ⟨h2, hb⟩, rfl⟩
      exact ⟨by omega, _, _, List.take_add, ha, hb⟩
    · rintro ⟨hn, u, v, huv, ha, hb⟩
      -- `s` is `u ++ v ++ w` and `n` the length of `u ++ v`
      obtain ⟨⟨w, rfl⟩, rfl⟩ := take_eq_iff.mp ⟨hn, huv⟩
      refine ⟨u.length, ⟨by simp, ?_⟩, v.length, ⟨by simp, ?_⟩, by simp⟩
      · rwa [List.append_assoc, List.take_left]
      · rwa [List.append_assoc, List.drop_left, List.take_left]
  | alt a b iha ihb => intro s n; simp only [matchLens, Matches, List.mem_append, iha, ihb, and_or_left]
  | opt a iha =>
    intro s n
    simp only [matchLens, Matches, List.mem_cons, iha, and_or_left, take_eq_iff, List.nil_prefix, true_and, List.length_nil]
  | star p => intro s n; exact mem_starLens p s n
  | plus p =>
    intro s n
    cases s with
    | nil => simp [matchLens, Matches]
    | cons c t =>
      simp only [matchLens, Matches]
      cases n with
      | zero => split <;> simp
      | succ k => split <;> simp [mem_starLens, *]

theorem maxL_le (l : List Nat) (k : Nat) (h : ∀ n ∈ l, n ≤ k) : maxL l ≤ k := by
  induction l with
  | nil => exact Nat.zero_le _
  | cons x l ih =>
    have := h x (by simp)
    have := ih fun n hn => h n (by simp [hn])
    simp only [maxL]; omega

theorem le_maxL {l : List Nat} {n : Nat} (h : n ∈ l) : n ≤ maxL l := by
  induction l with
  | nil => cases h
  | cons x l ih =>
    simp only [maxL]
    rcases List.mem_cons.mp h with rfl | h
    · omega
    · have := ih h; omega

theorem le_longest {r : Re} {s : Bytes} {n : Nat} (hn : n ≤ s.length) (h : Matches r (s.take n)) : n ≤ longest r s :=
  le_maxL ((mem_matchLens r s n).mpr ⟨hn, h⟩)

theorem longest_le_of {r : Re} {s : Bytes} {k : Nat} (h : ∀ n, n ≤ s.length → Matches r (s.take n) → n ≤ k) :
    longest r s ≤ k :=
  maxL_le _ _ fun n hn => h n ((mem_matchLens r s n).mp hn).1 ((mem_matchLens r s n).mp hn).2

theorem longest_le (r : Re) (s : Bytes) : longest r s ≤ s.length :=
  longest_le_of fun _ hl _ => hl

theorem longest_full {r : Re} {s : Bytes} (h : Matches r s) : longest r s = s.length :=
  Nat.le_antisymm (longest_le r s) (le_longest (Nat.le_refl _) (by rwa [List.take_length]))

theorem longest_local {r : Re} {s s' : Bytes} (k : Nat) (h : s.take k = s'.take k)
    (hb : ∀ n, n ≤ s.length → Matches r (s.take n) → n ≤ k) (hb' : ∀ n, n ≤ s'.length → Matches r (s'.take n) → n ≤ k) :
    longest r s = longest r s' := by
  have key : ∀ t t' : Bytes, t.take k = t'.take k → (∀ n, n ≤ t.length → Matches r (t.take n) → n ≤ k) →
      longest r t ≤ longest r t' := by
    intro t t' ht hbt
    refine longest_le_of fun n hl hm => ?_
    have hk := hbt n hl hm
    have e : t.take n = t'.take n := by
      rw [← Nat.min_eq_left hk, ← List.take_take, ← List.take_take, ht]
    refine le_longest ?_ (e ▸ hm)
    have := congrArg List.length e
    simp only [List.length_take] at this
    omega
  exact Nat.le_antisymm (key s s' h hb) (key s' s h.symm hb')

theorem Matches.free {x : UInt8} : ∀ {r : Re} {w : Bytes}, freeOf x r = true → Matches r w → x ∉ w := by
  intro r
  induction r with
  | cls p => rintro w h ⟨c, rfl, hc⟩ hx; cases List.mem_singleton.mp hx; simp [freeOf, hc] at h
  | lit l => rintro w h rfl hx; simpa using List.all_eq_true.mp h x hx
  | seq a b iha ihb =>
    rintro w h ⟨u, v, rfl, ha, hb⟩ hx
    simp only [freeOf, Bool.and_eq_true] at h
    rcases List.mem_append.mp hx with hx | hx
    · exact iha h.1 ha hx
    · exact ihb h.2 hb hx
  | alt a b iha ihb =>
    intro w h m
    simp only [freeOf, Bool.and_eq_true] at h
    exact m.elim (iha h.1) (ihb h.2)
  | opt a iha =>
    rintro w h (rfl | m)
    · simp
    · exact iha h m
  | star p => rintro w h m hx; simp [freeOf, List.all_eq_true.mp m x hx] at h
  | plus p => rintro w h ⟨_, m⟩ hx; simp [freeOf, List.all_eq_true.mp m x hx] at h

theorem take_le_of_not_mem {x : UInt8} {a q : Bytes} {n : Nat} (h : x ∉ (a ++ x :: q).take n) : n ≤ a.length := by
  apply Nat.le_of_not_lt
  intro hn
  refine h (List.mem_of_getElem? (i := a.length) ?_)
  rw [List.getElem?_take, if_pos hn, List.getElem?_append_right (Nat.le_refl _)]
  simp

theorem longest_free {x : UInt8} {r : Re} (h : freeOf x r = true) (a q : Bytes) :
    longest r (a ++ x :: q) = longest r a :=
  longest_local a.length (by simp) (fun _ _ hm => take_le_of_not_mem (hm.free h)) (fun _ hl _ => hl)

theorem Matches.lineLocal : ∀ {r : Re} {w : Bytes}, lineLocal r = true → Matches r w → 10 ∉ w ∨ w.length = 1 := by
  intro r
  induction r with
  | cls p => rintro w _ ⟨c, rfl, _⟩; exact Or.inr rfl
  | alt a b iha ihb =>
    intro w h m
    simp only [Lex.lineLocal, Bool.or_eq_true, Bool.and_eq_true] at h
    rcases h with h | h
    · exact Or.inl (m.free (r := .alt a b) (by simp only [freeOf, h.1, h.2, Bool.and_self]))
    · rcases m with m | m
      · exact iha h.1 m
      · exact ihb h.2 m
  | _ => intro w h m; exact Or.inl (m.free h)

theorem longest_nl {r : Re} (h : lineLocal r = true) (a q : Bytes) :
    longest r (a ++ 10 :: q) = longest r (a ++ [10]) := by
  have hb : ∀ q' n, n ≤ (a ++ 10 :: q').length → Matches r ((a ++ 10 :: q').take n) → n ≤ a.length + 1 := fun q' n hl hm => by
    rcases hm.lineLocal h with h1 | h1
    · exact Nat.le_succ_of_le (take_le_of_not_mem h1)
    · rw [List.length_take] at h1; omega
  exact longest_local (a.length + 1) (by simp [List.take_append]) (hb q) (hb [])

theorem longest_before_nl {r : Re} (h : lineLocal r = true) (a : Bytes) (ha : a ≠ []) :
    longest r (a ++ [10]) = longest r a := by
  refine longest_local a.length (by simp) (fun n hl hm => ?_) (fun _ hl _ => hl)
  rcases hm.lineLocal h with h1 | h1
  · exact take_le_of_not_mem h1
  · rw [List.length_take] at h1
    have := List.length_pos_iff.mpr ha
    omega

theorem cand_le_longest (r : Rule) (bol : Bool) (s : Bytes) : cand r bol s ≤ longest r.re s := by
  unfold cand
  split
  · exact Nat.zero_le _
  · exact Nat.le_refl _

theorem pick_le (rules : List Rule) (bol : Bool) (s : Bytes) : (pick rules bol s).2 ≤ s.length := by
  induction rules with
  | nil => simp [pick]
  | cons r rs ih =>
    simp only [pick]
    split
    · exact Nat.le_trans (cand_le_longest r bol s) (longest_le _ _)
    · exact ih

theorem cand_le_pick {rules : List Rule} {bol : Bool} {s : Bytes} {r : Rule} (hr : r ∈ rules) :
    cand r bol s ≤ (pick rules bol s).2 := by
  induction rules with
  | nil => cases hr
  | cons r0 rs ih =>
    rw [pick]
    split
    · rename_i hc
      rcases List.mem_cons.mp hr with rfl | hr
      · exact Nat.le_refl _
      · exact Nat.le_trans (ih hr) hc.1
    · rename_i hno
      rcases List.mem_cons.mp hr with rfl | hr
      · omega
      · exact ih hr

theorem pick_congr (rules : List Rule) (bol : Bool) (s1 s2 : Bytes) (h : ∀ r ∈ rules, cand r bol s1 = cand r bol s2) :
    pick rules bol s1 = pick rules bol s2 := by
  induction rules with
  | nil => rfl
  | cons r rs ih =>
    have h1 := h r (by simp)
    have h2 := ih (fun x hx => h x (by simp [hx]))
    simp only [pick, h1, h2]

theorem rulesOf_local (st : St) : ∀ r ∈ rulesOf st, lineLocal r.re = true := by
  have h : (rulesOf st).all (fun r => lineLocal r.re) = true := by cases st <;> decide
  exact List.all_eq_true.mp h

theorem pick_nl (st : St) (bol : Bool) (a q : Bytes) :
    pick (rulesOf st) bol (a ++ 10 :: q) = pick (rulesOf st) bol (a ++ [10]) :=
  pick_congr _ bol _ _ fun r hr => by simp only [cand, longest_nl (rulesOf_local st r hr) a q]

theorem pick_before_nl (st : St) (bol : Bool) (a : Bytes) (ha : a ≠ []) :
    pick (rulesOf st) bol (a ++ [10]) = pick (rulesOf st) bol a :=
  pick_congr _ bol _ _ fun r hr => by simp only [cand, longest_before_nl (rulesOf_local st r hr) a ha]

theorem longest_any (c : UInt8) (t : Bytes) : longest (.cls anyByte) (c :: t) = 1 := by
  simp [longest, matchLens, anyByte, maxL]

/-- The last rule of each start condition is un-anchored and accepts any single byte (flex's default rule,
`<COMMENT>.|\n`, `<LITERAL>.|\n|…`). -/
theorem default_rule (st : St) : ∃ r ∈ rulesOf st, r.bol = false ∧ ∀ c : UInt8, Matches r.re [c] := by
  cases st
  · exact ⟨_, List.mem_of_getLast? (l := rulesInitial) rfl, rfl, fun c => ⟨c, rfl, rfl⟩⟩
  · exact ⟨_, List.mem_of_getLast? (l := rulesComment) rfl, rfl, fun c => ⟨c, rfl, rfl⟩⟩
  · exact ⟨_, List.mem_of_getLast? (l := rulesLiteral) rfl, rfl, fun c => Or.inl ⟨c, rfl, rfl⟩⟩

theorem pick_rulesOf_pos (st : St) (bol : Bool) (c : UInt8) (t : Bytes) : 1 ≤ (pick (rulesOf st) bol (c :: t)).2 := by
  obtain ⟨r, hr, hb, hm⟩ := default_rule st
  exact Nat.le_trans (by rw [cand, hb]; exact le_longest (n := 1) (Nat.le_add_left 1 _) (hm c)) (cand_le_pick hr)

theorem lexAll_nil (fuel : Nat) (st : St) (bol : Bool) : lexAll fuel st bol [] = ([], st) := by
  cases fuel <;> rfl

theorem length_drop_cons_le {c : UInt8} {t : Bytes} {n : Nat} (h : n ≠ 0) : ((c :: t).drop n).length ≤ t.length := by
  simp only [List.length_drop, List.length_cons]; omega

theorem lexAll_fuel : ∀ (f1 f2 : Nat) (st : St) (bol : Bool) (s : Bytes), s.length ≤ f1 → s.length ≤ f2 →
    lexAll f1 st bol s = lexAll f2 st bol s := by
  intro f1
  induction f1 with
  | zero =>
    intro f2 st bol s h1 _
    have : s = [] := List.eq_nil_of_length_eq_zero (by omega)
    subst this
    rw [lexAll_nil, lexAll_nil]
  | succ f1 ih =>
    intro f2 st bol s h1 h2
    cases s with
    | nil => rw [lexAll_nil, lexAll_nil]
    | cons c t =>
      cases f2 with
      | zero => simp at h2
      | succ f2 =>
        simp only [lexAll]
        split
        · rfl
        · rename_i hm
          have hd := length_drop_cons_le (c := c) (t := t) hm
          simp only [List.length_cons] at h1 h2
          rw [ih f2 _ _ _ (by omega) (by omega)]

/-- One step of `lex` on a non-empty buffer, `m` being the rule choice (a match is never empty: `pick_rulesOf_pos`). -/
theorem lex_cons (st : St) (bol : Bool) (c : UInt8) (t : Bytes) {m : Option Nat × Nat}
    (hm : pick (rulesOf st) bol (c :: t) = m) :
    lex st bol (c :: t) =
      (emit m.1 ((c :: t).take m.2) ++ (lex (nextSt st m.1) (endsNl ((c :: t).take m.2)) ((c :: t).drop m.2)).1,
       (lex (nextSt st m.1) (endsNl ((c :: t).take m.2)) ((c :: t).drop m.2)).2) := by
  subst hm
  have hm := Nat.ne_of_gt (pick_rulesOf_pos st bol c t)
  simp only [lex, List.length_cons, lexAll, hm, if_false]
  rw [lexAll_fuel t.length _ _ _ _ (length_drop_cons_le hm) (Nat.le_refl _)]

theorem lex_nil (st : St) (bol : Bool) : lex st bol [] = ([], st) := rfl

theorem lex_token (st : St) (bol : Bool) (c : UInt8) (t rest : Bytes) (code : Option Nat)
    (hp : pick (rulesOf st) bol (c :: t ++ rest) = (code, (c :: t).length)) :
    lex st bol (c :: t ++ rest) =
      (emit code (c :: t) ++ (lex (nextSt st code) (endsNl (c :: t)) rest).1, (lex (nextSt st code) (endsNl (c :: t)) rest).2) := by
  rw [List.cons_append] at hp
  rw [List.cons_append, lex_cons _ _ _ _ hp, ← List.cons_append, List.take_left' rfl, List.drop_left' rfl]

theorem lex_cons_append (st : St) (bol : Bool) (c : UInt8) (t b : Bytes) {m : Option Nat × Nat}
    (hp : pick (rulesOf st) bol (c :: (t ++ b)) = m) (hm : pick (rulesOf st) bol (c :: t) = m) :
    lex st bol (c :: (t ++ b)) =
      (emit m.1 ((c :: t).take m.2) ++ (lex (nextSt st m.1) (endsNl ((c :: t).take m.2)) ((c :: t).drop m.2 ++ b)).1,
       (lex (nextSt st m.1) (endsNl ((c :: t).take m.2)) ((c :: t).drop m.2 ++ b)).2) := by
  have h2 := hm ▸ pick_le (rulesOf st) bol (c :: t)
  rw [lex_cons _ _ _ _ hp, ← List.cons_append, List.take_append_of_le_length h2, List.drop_append_of_le_length h2]

theorem noNul_iff {s : Bytes} : noNul s = true ↔ ∀ x ∈ s, x ≠ 0 := by
  simp only [noNul, List.all_eq_true, bne_iff_ne]

theorem noNul_cons (c : UInt8) (t : Bytes) (h : noNul (c :: t) = true) : c ≠ 0 ∧ noNul t = true :=
  ⟨noNul_iff.mp h c List.mem_cons_self, noNul_iff.mpr fun x hx => noNul_iff.mp h x (List.mem_cons_of_mem c hx)⟩

theorem noNul_of_flatten (cs : List Bytes) (h : noNul cs.flatten = true) : ∀ c ∈ cs, noNul c = true :=
  fun c hc => noNul_iff.mpr fun x hx => noNul_iff.mp h x (List.mem_flatten.mpr ⟨c, hc, hx⟩)

theorem noNul_stripCr (t : Bytes) (h : noNul t = true) : noNul (stripCr t) = true :=
  noNul_iff.mpr fun x hx => noNul_iff.mp h x (List.mem_filter.mp hx).1

theorem truncNul_noNul : ∀ (c : Bytes), noNul c = true → truncNul c = c := by
  intro c
  induction c with
  | nil => intro _; rfl
  | cons x t ih =>
    intro h
    obtain ⟨hx, ht⟩ := noNul_cons x t h
    simp [truncNul, hx, ih ht]

theorem endsWithNl_split (c : Bytes) (h : endsWithNl c = true) : ∃ a, c = a ++ [10] := by
  simpa [endsWithNl, List.getLast?_eq_some_iff] using h

theorem mem_of_endsWithNl {c : Bytes} (h : endsWithNl c = true) : 10 ∈ c := by
  obtain ⟨a, rfl⟩ := endsWithNl_split c h
  simp

theorem endsWithNl_drop (l : Bytes) (n : Nat) (h : n < l.length) : endsWithNl (l.drop n) = endsWithNl l := by
  unfold endsWithNl
  rw [List.getLast?_drop]
  have : ¬ l.length ≤ n := by omega
  simp [this]

theorem lex_append {b : Bytes} {k : Nat} {r : Bytes} (hr : r.length ≤ k) (hne : r ≠ []) {st : St} {bol : Bool}
    (hnc : noCross b k st bol r = true) :
    lex st bol (r ++ b) = ((lex st bol r).1 ++ (lex (lex st bol r).2 (endsWithNl r) b).1,
                           (lex (lex st bol r).2 (endsWithNl r) b).2) := by
  fun_induction noCross b k st bol r with
  | case1 => exact absurd (List.eq_nil_of_length_eq_zero (by omega)) hne
  | case2 => exact absurd rfl hne
  | case3 k st bol c t m ih =>
    simp only [Bool.and_eq_true, beq_iff_eq, Bool.or_eq_true] at hnc
    obtain ⟨hp, hrest⟩ := hnc
    have h1 : 1 ≤ m.2 := pick_rulesOf_pos st bol c t
    rw [List.cons_append, lex_cons_append st bol c t b hp rfl, lex_cons st bol c t (m := m) rfl]
    by_cases hlt : m.2 < (c :: t).length
    · rw [ih (by simp only [List.length_drop]; omega) (mt List.drop_eq_nil_iff.mp (Nat.not_le_of_lt hlt))
        (hrest.resolve_left (by omega)), endsWithNl_drop _ _ hlt]
      simp [List.append_assoc]
    · -- the match is all that is left of the buffer
      rw [List.drop_of_length_le (Nat.le_of_not_lt hlt), List.take_of_length_le (Nat.le_of_not_lt hlt)]
      simp [lex_nil, endsNl, endsWithNl]

theorem lex_bol_irrelevant {st : St} {bol : Bool} {b : Bytes}
    (h : bol = true ∨ pick (rulesOf st) true b = pick (rulesOf st) false b) : lex st bol b = lex st true b := by
  cases bol with
  | true => rfl
  | false =>
    cases b with
    | nil => rfl
    | cons x u => rw [lex_cons st true x u (h.resolve_left Bool.false_ne_true), lex_cons st false x u rfl]

theorem lexChunksFrom_cons (st : St) {a : Bytes} (cs : List Bytes) (ha : a ≠ []) (na : noNul a = true) :
    lexChunksFrom st (a :: cs) = (lex st true a).1 ++ lexChunksFrom (lex st true a).2 cs := by
  cases a with
  | nil => exact absurd rfl ha
  | cons c t => simp only [lexChunksFrom, truncNul_noNul _ na]

/-- **The chunk theorem**, with the start condition made explicit: every cut safe with respect to all that follows. -/
theorem lexChunksFrom_safe : ∀ (frags : List Bytes) (st : St), safeCutsFrom st frags = true →
    lexChunksFrom st frags = (lex st true frags.flatten).1 := by
  intro frags
  induction frags with
  | nil => intro st _; rfl
  | cons a rest ih =>
    intro st h
    cases rest with
    | nil =>
      rw [List.flatten_cons, List.flatten_nil, List.append_nil]
      cases a with
      | nil => rfl
      | cons c t => rw [lexChunksFrom_cons st [] (List.cons_ne_nil c t) h, lexChunksFrom, List.append_nil]
    | cons b cs =>
      simp only [safeCutsFrom, Bool.and_eq_true, Bool.not_eq_true', List.isEmpty_eq_false_iff] at h
      obtain ⟨⟨⟨⟨na, hane⟩, hnc⟩, hbol⟩, hrec⟩ := h
      rw [lexChunksFrom_cons st _ hane na, ih _ hrec, List.flatten_cons (l := a)]
      generalize (b :: cs).flatten = R at hnc hbol
      rw [lex_append (Nat.le_refl _) hane hnc]
      simp only [bolOkFrom, Bool.or_eq_true, beq_iff_eq] at hbol
      rw [lex_bol_irrelevant hbol]

/-- No rule matches across a '\n' that ends the buffer: at every token start what remains of the buffer ends with it
(`pick_nl`). -/
theorem noCross_nl (q : Bytes) {f : Nat} {st : St} {bol : Bool} {r : Bytes} (h : r = [] ∨ endsWithNl r = true) :
    noCross q f st bol r = true := by
  fun_induction noCross q f st bol r with
  | case1 => rfl
  | case2 => rfl
  | case3 f st bol c t m ih =>
    have hnl := h.resolve_left (List.cons_ne_nil c t)
    obtain ⟨a, ha⟩ := endsWithNl_split _ hnl
    have hp : pick (rulesOf st) bol (c :: t ++ q) = m := by
      rw [ha, List.append_assoc, List.singleton_append, pick_nl, ← ha]
    simp only [hp, beq_self_eq_true, Bool.true_and, Bool.or_eq_true, beq_iff_eq]
    -- what is left of the buffer after the match is empty or still ends with the '\n'
    refine Or.inr (ih ?_)
    by_cases hm : m.2 < (c :: t).length
    · exact Or.inr (by rw [endsWithNl_drop _ _ hm, hnl])
    · exact Or.inl (List.drop_of_length_le (by omega))

theorem safeCutsFrom_aligned : ∀ (frags : List Bytes) (st : St), aligned frags = true →
    (∀ c ∈ frags, noNul c = true) → safeCutsFrom st frags = true := by
  intro frags
  induction frags with
  | nil => intro _ _ _; rfl
  | cons c cs ih =>
    intro st hal hnn
    cases cs with
    | nil => exact hnn c (by simp)
    | cons c2 cs =>
      simp only [aligned, Bool.and_eq_true] at hal
      simp only [safeCutsFrom, bolOkFrom, hal.1, Bool.true_or, Bool.and_true, Bool.and_eq_true, Bool.not_eq_true',
        List.isEmpty_eq_false_iff]
      exact ⟨⟨⟨hnn _ (by simp), List.ne_nil_of_mem (mem_of_endsWithNl hal.1)⟩, noCross_nl _ (Or.inr hal.1)⟩,
        ih _ hal.2 fun x hx => hnn x (by simp [hx])⟩

theorem lexChunksFrom_aligned (frags : List Bytes) (st : St) (hal : aligned frags = true)
    (hnn : ∀ c ∈ frags, noNul c = true) : lexChunksFrom st frags = (lex st true frags.flatten).1 :=
  lexChunksFrom_safe frags st (safeCutsFrom_aligned frags st hal hnn)

def NlFree (p : Bytes) : Prop := ∀ x ∈ p, x ≠ 10

theorem NlFree.nil : NlFree [] := fun _ h => nomatch h

theorem NlFree.reverse {p : Bytes} (h : NlFree p) : NlFree p.reverse :=
  fun x hx => h x (List.mem_reverse.mp hx)

theorem NlFree.cons {x : UInt8} {p : Bytes} (hx : x ≠ 10) (h : NlFree p) : NlFree (x :: p) :=
  List.forall_mem_cons.mpr ⟨hx, h⟩

theorem splitLines_cons {c : UInt8} (h : c ≠ 10) (t : Bytes) :
    splitLines (c :: t) = match splitLines t with
      | [] => [[c]]
      | l :: ls => (c :: l) :: ls := by
  rw [splitLines, if_neg (mt beq_iff_eq.mp h)]
  rfl

theorem splitLines_nlfree_nl (t : Bytes) : ∀ p : Bytes, NlFree p →
    splitLines (p ++ 10 :: t) = (p ++ [10]) :: splitLines t := by
  intro p
  induction p with
  | nil => intro _; simp [splitLines]
  | cons x p ih =>
    intro h
    obtain ⟨hx, hp⟩ := List.forall_mem_cons.mp h
    rw [List.cons_append, splitLines_cons hx, ih hp, List.cons_append]

theorem splitLines_nlfree : ∀ p : Bytes, NlFree p → p ≠ [] → splitLines p = [p] := by
  intro p
  induction p with
  | nil => intro _ h; exact absurd rfl h
  | cons x p ih =>
    intro h _
    obtain ⟨hx, hp⟩ := List.forall_mem_cons.mp h
    rw [splitLines_cons hx]
    cases p with
    | nil => rfl
    | cons y p => rw [ih hp (List.cons_ne_nil y p)]

theorem splitLines_first_long (d : UInt8) (t : Bytes) : ∀ p : Bytes, NlFree p →
    ∃ l ls, splitLines (p ++ d :: t) = l :: ls ∧ p.length + 1 ≤ l.length := by
  intro p
  induction p with
  | nil =>
    intro _
    simp only [List.nil_append, splitLines]
    split
    · exact ⟨_, _, rfl, by simp⟩
    · split
      · exact ⟨_, _, rfl, by simp⟩
      · exact ⟨_, _, rfl, by simp⟩
  | cons x p ih =>
    intro h
    obtain ⟨hx, hp⟩ := List.forall_mem_cons.mp h
    obtain ⟨l, ls, e, hl⟩ := ih hp
    rw [List.cons_append, splitLines_cons hx, e]
    exact ⟨_, _, rfl, Nat.succ_le_succ hl⟩

theorem aligned_cons_iff {c : Bytes} {cs : List Bytes} :
    aligned (c :: cs) = true ↔ (cs = [] ∨ endsWithNl c = true) ∧ aligned cs = true := by
  cases cs <;> simp [aligned]

/-- Shape of a reader chunk: newline-free bytes, then possibly one '\n'. -/
def LineChunk (c : Bytes) : Prop := ∃ p, NlFree p ∧ (c = p ++ [10] ∨ (c = p ∧ p ≠ []))

theorem lineSplitAux_cons (max : Nat) (cur : Bytes) (c : UInt8) (t : Bytes) :
    lineSplitAux max cur (c :: t) =
      if c = 10 ∨ cur.length + 1 = max then (c :: cur).reverse :: lineSplitAux max [] t
      else lineSplitAux max (c :: cur) t := by
  simp only [lineSplitAux, Bool.or_eq_true, beq_iff_eq, List.length_cons]

theorem lineSplitAux_nl (max : Nat) (b : Bytes) : ∀ (a cur : Bytes),
    lineSplitAux max cur (a ++ 10 :: b) = lineSplitAux max cur (a ++ [10]) ++ lineSplitAux max [] b := by
  intro a
  induction a with
  | nil => intro cur; simp [lineSplitAux]
  | cons c t ih =>
    intro cur
    simp only [List.cons_append, lineSplitAux]
    split
    · simp [ih]
    · exact ih _

/-- One induction for all that is needed of the line discipline, `cur` (newline-free, room left) being the buffer. The
third clause: when every line fits, a chunk closed because it holds `max` bytes without a '\n' is the end of the text.
(`max = 0`: never closed by size.) -/
theorem lineSplitAux_spec (max : Nat) : ∀ (s cur : Bytes), NlFree cur → (max = 0 ∨ cur.length < max) →
    (lineSplitAux max cur s).flatten = cur.reverse ++ s ∧
    (∀ c ∈ lineSplitAux max cur s, LineChunk c ∧ (max = 0 ∨ c.length ≤ max)) ∧
    (LinesFit max (cur.reverse ++ s) → aligned (lineSplitAux max cur s) = true) := by
  intro s
  induction s with
  | nil =>
    intro cur hc hm
    simp only [lineSplitAux]
    split
    · next he => exact ⟨by simpa using he, nofun, fun _ => rfl⟩
    · next hne =>
      refine ⟨by simp, fun c h => ?_, fun _ => rfl⟩
      cases List.mem_singleton.mp h
      exact ⟨⟨cur.reverse, hc.reverse, Or.inr ⟨rfl, by simpa using hne⟩⟩, by rw [List.length_reverse]; omega⟩
  | cons x t ih =>
    intro cur hc hm
    rw [lineSplitAux_cons]
    by_cases hx : x = 10 ∨ cur.length + 1 = max
    · rw [if_pos hx]
      -- the chunk `(x :: cur).reverse` is closed and the rest of the text is served from an empty buffer
      obtain ⟨i1, i2, i3⟩ := ih [] NlFree.nil (by simp only [List.length_nil]; omega)
      refine ⟨by simp [i1], fun c h => ?_, fun hfit => ?_⟩
      · rcases List.mem_cons.mp h with rfl | h
        · refine ⟨?_, by rw [List.length_reverse, List.length_cons]; omega⟩
          by_cases h10 : x = 10
          · exact ⟨cur.reverse, hc.reverse, Or.inl (by simp [h10])⟩
          · exact ⟨(x :: cur).reverse, (hc.cons h10).reverse, Or.inr ⟨rfl, by simp⟩⟩
        · exact i2 c h
      · by_cases h10 : x = 10
        · subst h10
          refine aligned_cons_iff.mpr ⟨.inr (by simp [endsWithNl]), i3 fun l hl => hfit l ?_⟩
          rw [splitLines_nlfree_nl t cur.reverse hc.reverse]
          exact List.mem_cons_of_mem _ hl
        · cases t with
          | nil => rfl
          | cons d t' =>
            -- the line already holds `max` bytes and goes on: it does not fit
            exfalso
            obtain ⟨l, ls, e, hl⟩ := splitLines_first_long d t' (x :: cur).reverse (hc.cons h10).reverse
            have := hfit l (by rw [show cur.reverse ++ x :: d :: t' = (x :: cur).reverse ++ d :: t' by simp, e]; simp)
            have := hx.resolve_left h10
            rw [List.length_reverse, List.length_cons] at hl
            omega
    · rw [if_neg hx]
      have e : (x :: cur).reverse ++ t = cur.reverse ++ x :: t := by simp
      have := ih (x :: cur) (hc.cons (not_or.mp hx).1) (by simp only [List.length_cons]; omega)
      rwa [e] at this

theorem lineSplit_spec (max : Nat) (s : Bytes) :
    (lineSplit max s).flatten = s ∧ (∀ c ∈ lineSplit max s, LineChunk c ∧ (max = 0 ∨ c.length ≤ max)) ∧
    (LinesFit max s → aligned (lineSplit max s) = true) :=
  lineSplitAux_spec max s [] NlFree.nil (by simp only [List.length_nil]; omega)

theorem lineSplit_delivers (max : Nat) (hmax : 1 ≤ max) (s : Bytes) : Delivers max (lineSplit max s) s := by
  obtain ⟨hfl, hch, _⟩ := lineSplit_spec max s
  refine ⟨hfl, fun c hc => ⟨?_, (hch c hc).2.resolve_left (by omega)⟩⟩
  obtain ⟨p, _, rfl | ⟨rfl, hp⟩⟩ := (hch c hc).1
  · simp
  · exact hp

theorem chunkMax_pos : 1 ≤ chunkMax := by decide

theorem splitLines_flatten : ∀ (cs : List Bytes), (∀ c ∈ cs, LineChunk c) → aligned cs = true →
    splitLines cs.flatten = cs := by
  intro cs
  induction cs with
  | nil => intro _ _; rfl
  | cons c cs ih =>
    intro hch hal
    obtain ⟨hnl, hcs⟩ := aligned_cons_iff.mp hal
    obtain ⟨p, hp, rfl | ⟨rfl, hne⟩⟩ := hch c (by simp)
    · rw [List.flatten_cons, List.append_assoc, List.singleton_append, splitLines_nlfree_nl _ p hp,
        ih (fun x hx => hch x (List.mem_cons_of_mem _ hx)) hcs]
    · rcases hnl with rfl | hnl
      · rw [List.flatten_cons, List.flatten_nil, List.append_nil]; exact splitLines_nlfree c hp hne
      · -- a newline-free chunk cannot end with '\n'
        exact absurd rfl (hp 10 (mem_of_endsWithNl hnl))

theorem lineSplit_lines {max : Nat} {s : Bytes} (h : aligned (lineSplit max s) = true) : lineSplit max s = splitLines s := by
  obtain ⟨hfl, hch, _⟩ := lineSplit_spec max s
  rw [← splitLines_flatten _ (fun c hc => (hch c hc).1) h, hfl]

theorem stripCr_crlfToLf (t : Bytes) : stripCr (crlfToLf t) = stripCr t := by
  fun_induction crlfToLf t with
  | case1 => rfl
  | case2 c => rfl
  | case3 c d t h ih =>
    simp only [Bool.and_eq_true, beq_iff_eq] at h
    obtain ⟨rfl, rfl⟩ := h
    simp only [stripCr] at ih ⊢
    simp [ih]
  | case4 c d t h ih =>
    simp only [stripCr] at ih ⊢
    simp only [List.filter_cons, ih]

theorem stripCr_lfToCrlf (t : Bytes) : stripCr (lfToCrlf t) = stripCr t := by
  induction t with
  | nil => rfl
  | cons c t ih =>
    simp only [lfToCrlf]
    simp only [stripCr] at ih ⊢
    split
    · rename_i h
      have : c = 10 := by simpa using h
      subst this
      simp [ih]
    · simp only [List.filter_cons, ih]

theorem loneCr_tail {c : UInt8} {t : Bytes} (h : loneCr (c :: t) = false) : loneCr t = false := by
  cases t with
  | nil => rfl
  | cons d t => simp only [loneCr, Bool.or_eq_false_iff] at h; exact h.2

theorem stripCr_eq_crlfToLf (t : Bytes) (h : loneCr t = false) : stripCr t = crlfToLf t := by
  fun_induction crlfToLf t with
  | case1 => rfl
  | case2 c =>
    have : ¬ c = 13 := by simpa [loneCr] using h
    simp [stripCr, this]
  | case3 c d t hc ih =>
    simp only [Bool.and_eq_true, beq_iff_eq] at hc
    obtain ⟨rfl, rfl⟩ := hc
    simp only [stripCr] at ih ⊢
    simp [ih (loneCr_tail (loneCr_tail h))]
  | case4 c d t hc ih =>
    simp only [Bool.and_eq_true, beq_iff_eq] at hc
    simp only [loneCr, Bool.or_eq_false_iff] at h
    -- a CR here would be followed by LF (`h.1`): the previous case
    have hc13 : c ≠ 13 := fun e => hc ⟨e, by simpa [e] using h.1⟩
    simp only [stripCr] at ih ⊢
    simp only [List.filter_cons, bne_iff_ne, ne_eq, hc13, not_false_eq_true, if_true, ih h.2]

end BlocV.Lex
