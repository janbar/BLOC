/-
  The run-time safety flag machine of Model/Safety.lean (`FlagSt`, `step`, `run`, `unwindTo`): unwinding to the depth a piece
  of a run started at restores flags and stack (`restored_by_unwinding`), and a flag that is set and remembered set by every
  running loop over its variable stays set whatever happens (`held_run`).
-/
import BlocV.Model.Safety

namespace BlocV.Safety

theorem setFlag_self (f : String → Bool) (v : String) : setFlag f v (f v) = f := by
  funext n; unfold setFlag; split <;> simp_all

theorem setFlag_setFlag (f : String → Bool) (v : String) (a b : Bool) : setFlag (setFlag f v a) v b = setFlag f v b := by
  funext n; unfold setFlag; split <;> simp_all

theorem unwindTo_of_le {d : Nat} {f : String → Bool} {c : List Ctl} (h : c.length ≤ d) : unwindTo d f c = ⟨f, c⟩ := by
  cases c with
  | nil => rfl
  | cons x r => simp only [List.length_cons] at h; simp [unwindTo, h]

theorem unwindTo_push {d : Nat} {f : String → Bool} {c : Ctl} {r : List Ctl} (h : d ≤ r.length) :
    unwindTo d f (c :: r) = unwindTo d (finalize f c) r := by
  have : ¬(r.length + 1 ≤ d) := by omega
  simp [unwindTo, this]

theorem unwindTo_length_le (d : Nat) (f : String → Bool) (c : List Ctl) : (unwindTo d f c).ctl.length ≤ c.length := by
  induction c generalizing f with
  | nil => simp [unwindTo]
  | cons x r ih =>
    unfold unwindTo
    split
    · simp
    · exact Nat.le_succ_of_le (ih _)

theorem unwindTo_unwindTo {d k : Nat} {f : String → Bool} {c : List Ctl} (h : d ≤ (unwindTo k f c).ctl.length) :
    unwindTo d (unwindTo k f c).flags (unwindTo k f c).ctl = unwindTo d f c := by
  induction c generalizing f with
  | nil => rfl
  | cons x r ih =>
    by_cases hk : r.length + 1 ≤ k
    · simp [unwindTo, hk]
    · rw [unwindTo_push (d := k) (r := r) (Nat.le_of_lt_succ (Nat.not_le.1 hk))] at h ⊢
      rw [ih h]
      exact (unwindTo_push (Nat.le_trans h (unwindTo_length_le ..))).symm

/-- key invariant: unwinding to the depth the events started at forgets them -/
theorem unwind_step {d : Nat} {s : FlagSt} {e : Ev} (hs : d ≤ s.ctl.length) (h : d ≤ (step s e).ctl.length) :
    unwindTo d (step s e).flags (step s e).ctl = unwindTo d s.flags s.ctl := by
  cases e with
  | enterFor v | enterForall v => simp only [step]; rw [unwindTo_push hs]; simp [finalize, setFlag_setFlag, setFlag_self]
  | enterWhile => simp only [step]; rw [unwindTo_push hs]; simp [finalize]
  | unstack =>
    cases hc : s.ctl with
    | nil => simp [step, hc]
    | cons c r =>
      simp only [step, hc] at h ⊢
      rw [unwindTo_push h]
  | error k => simp only [step] at h ⊢; exact unwindTo_unwindTo h

theorem unwind_run {d : Nat} {s : FlagSt} {evs : List Ev} (hs : d ≤ s.ctl.length) (h : depthOk d s evs = true) :
    unwindTo d (run s evs).flags (run s evs).ctl = unwindTo d s.flags s.ctl := by
  induction evs generalizing s with
  | nil => rfl
  | cons e r ih =>
    simp only [depthOk, Bool.and_eq_true, decide_eq_true_eq] at h
    simp only [run]
    rw [ih h.1 h.2, unwind_step hs h.1]

/-- **Every exit route restores the flag.** Whatever loops a piece of a run enters and leaves (normal end, break, a return
travelling outwards: `unstack`; a runtime error: `error`), as long as it does not pop frames that were there before it:
unwinding to the depth it started at gives back the state it started in — flags and stack. -/
theorem restored_by_unwinding (s : FlagSt) (evs : List Ev) (h : depthOk s.ctl.length s evs = true) :
    unwindTo s.ctl.length (run s evs).flags (run s evs).ctl = s := by
  rw [unwind_run (Nat.le_refl _) h, unwindTo_of_le (Nat.le_refl _)]

/-- … in particular when the piece has closed its loops itself (depth back to where it started). -/
theorem restored_when_closed (s : FlagSt) (evs : List Ev) (h : depthOk s.ctl.length s evs = true)
    (hc : (run s evs).ctl.length = s.ctl.length) : run s evs = s :=
  (unwindTo_of_le (Nat.le_of_eq hc)).symm.trans (restored_by_unwinding s evs h)

/-- the flag of `v` is set and every frame over `v` remembers it set -/
def Held (v : String) (s : FlagSt) : Prop := s.flags v = true ∧ ∀ c ∈ s.ctl, ∀ b, c = Ctl.loop v b → b = true

theorem held_push {v : String} {f f' : String → Bool} {c : Ctl} {r : List Ctl} (h : Held v ⟨f, r⟩) (hf : f' v = true)
    (hc : ∀ b, c = .loop v b → b = true) : Held v ⟨f', c :: r⟩ := by
  refine ⟨hf, fun c' hc' b e => ?_⟩
  rcases List.mem_cons.1 hc' with rfl | hm
  · exact hc b e
  · exact h.2 c' hm b e

theorem held_pop {v : String} {f : String → Bool} {c : Ctl} {r : List Ctl} (h : Held v ⟨f, c :: r⟩) :
    Held v ⟨finalize f c, r⟩ := by
  refine ⟨?_, fun c' hc b e => h.2 c' (List.mem_cons_of_mem _ hc) b e⟩
  cases c with
  | plain => exact h.1
  | loop w b =>
    simp only [finalize, setFlag]
    split
    · rename_i e; subst e; exact h.2 _ (List.mem_cons_self ..) b rfl
    · exact h.1

theorem held_unwindTo (v : String) (d : Nat) (f : String → Bool) (c : List Ctl) (h : Held v ⟨f, c⟩) : Held v (unwindTo d f c) := by
  induction c generalizing f with
  | nil => exact h
  | cons x r ih =>
    unfold unwindTo
    split
    · exact h
    · exact ih _ (held_pop h)

theorem held_step (v : String) (s : FlagSt) (e : Ev) (h : Held v s) : Held v (step s e) := by
  obtain ⟨f, ctl⟩ := s
  cases e with
  | enterFor w | enterForall w =>
    refine held_push h ?_ (fun b e => ?_)
    · simp only [setFlag]; split
      · rfl
      · exact h.1
    · injection e with e1 e2; subst e1; exact e2 ▸ h.1
  | enterWhile => exact held_push h h.1 nofun
  | unstack =>
    cases ctl with
    | nil => exact h
    | cons x r => exact held_pop h
  | error d => exact held_unwindTo v d f ctl h

/-- **The constraint of a `$` variable survives every loop over it.** From a state in which the flag of `v` is set (and the
running loops over `v`, if any, remember it set), NO sequence of loop events — loops over `v` itself, nested, left by any
route, errors unwinding to any depth — ever shows the flag of `v` unset, at any point. -/
theorem held_run (v : String) (s : FlagSt) (evs : List Ev) (h : Held v s) : Held v (run s evs) := by
  induction evs generalizing s with
  | nil => exact h
  | cons e r ih => exact ih _ (held_step v s e h)

theorem depthOk_zero (s : FlagSt) (evs : List Ev) : depthOk 0 s evs = true := by
  induction evs generalizing s with
  | nil => rfl
  | cons e r ih => simp [depthOk, ih]

theorem run_append (s : FlagSt) (a b : List Ev) : run s (a ++ b) = run (run s a) b := by
  induction a generalizing s with
  | nil => rfl
  | cons e r ih => simp [run, ih]

end BlocV.Safety
