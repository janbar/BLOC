/-
  What C10 assumes of argument values (`wfVal`: a table has a table type, a string or byte array is shorter than 2^63; it implies
  `Val.tabOk`) and macros that open a list of such arguments (`nh_args1/2/3`, `nh_unfold`). Then the `Res` leaves of the
  built-ins of Model/Builtins.lean: what a successful `asStr` / `asRaw` was applied to, and that no leaf reaches a C-level hazard —
  the range-checked casts, the reading of a position, the index arithmetic of `substr` / `subraw` (for a length that fits
  `int64_t`), the digit loop of `hex`, `numOfString`. Where a leaf has a specification (`intOfDecimal_eq`, `substrRange_spec`,
  `hexStr_spec`) the fact is read off it.
-/
import BlocV.Proofs.Lemmas.Text
import BlocV.Proofs.Lemmas.Float
import BlocV.Proofs.Lemmas.OpsCases
namespace BlocV.Lemmas

/-- Well-formed values: a table carries a table type (level ≥ 1), as every `Collection` does, and a string / byte array is
shorter than 2^63 (its `size()` fits `int64_t`). -/
def wfVal : Val → Bool
  | .tab t _ _ => t.level != 0
  | .str s => decide (s.length < 2 ^ 63)
  | .raw s => decide (s.length < 2 ^ 63)
  | _ => true

theorem wfVal_tabOk {v : Val} (h : wfVal v = true) : v.tabOk = true := by
  cases v
  case tab => exact decide_eq_true (Nat.pos_of_ne_zero (bne_iff_ne.1 h))
  all_goals rfl

/-- `nh_args1 args hwf`, for `hwf : ∀ v ∈ args, …`: the cases `args = []` and `args = v0 :: rest`, with `w0 := hwf v0 _` where
there is a `v0`; `nh_args2` and `nh_args3` do the same for two and three leading elements (`w1`, `w2`). -/
macro "nh_args1" args:ident hwf:ident : tactic => `(tactic|
  (rcases $args:ident with _ | ⟨v0, rest⟩
   all_goals (try have w0 := $hwf:ident v0 (by simp))))
macro "nh_args2" args:ident hwf:ident : tactic => `(tactic|
  (rcases $args:ident with _ | ⟨v0, _ | ⟨v1, rest⟩⟩
   all_goals (try have w0 := $hwf:ident v0 (by simp))
   all_goals (try have w1 := $hwf:ident v1 (by simp))))
macro "nh_args3" args:ident hwf:ident : tactic => `(tactic|
  (rcases $args:ident with _ | ⟨v0, _ | ⟨v1, _ | ⟨v2, rest⟩⟩⟩
   all_goals (try have w0 := $hwf:ident v0 (by simp))
   all_goals (try have w1 := $hwf:ident v1 (by simp))
   all_goals (try have w2 := $hwf:ident v2 (by simp))))

/-- `nh_unfold d`: unfolds the built-in `d` in a goal about `d` on a literal list of `.ok` arguments and computes the `Res`
binds, `pure`, lifts and error shorthands away. -/
macro "nh_unfold" d:ident : tactic => `(tactic|
  simp only [$d:ident, List.map, Res.ok_bind, Res.pure_eq, argTypeErr_res, Res.liftM_eq, rerr_res])

theorem asStr_ok {v : Val} {s : Bytes} (h : v.asStr = .ok s) : v = .str s := by
  revert h
  fun_cases Val.asStr v
  all_goals rintro ⟨⟩
  rfl
theorem asRaw_ok {v : Val} {s : Bytes} (h : v.asRaw = .ok s) : v = .raw s := by
  revert h
  fun_cases Val.asRaw v
  all_goals rintro ⟨⟩
  rfl

end BlocV.Lemmas

namespace BlocV
open Num

theorem castToInt_no_hazard (d : F64) : (castToInt d).isHazard = false := by
  unfold castToInt; repeat' split
  all_goals rfl

/-- `int(decimal)`: the range test lets no infinity or NaN through to the cast. -/
theorem intOfDecimal_no_hazard (b : F64) : (intOfDecimal b).isHazard = false := by
  rw [Lemmas.intOfDecimal_eq]
  split <;> rfl

theorem readPos_no_hazard {a : Val} (hw : a.tabOk = true) : (readPos a).isHazard = false := by
  unfold readPos
  split
  · rfl
  · split
    · rfl
    · rename_i hn; exact isHazard_bind _ _ (asInt_no_hazard hw (eq_false_of_ne_true hn)) (fun _ _ => rfl)
  · split
    · rfl
    · rename_i hn
      exact isHazard_bind _ _ (asNum_no_hazard hw (eq_false_of_ne_true hn)) (fun _ _ => isHazard_bind _ _ (castToInt_no_hazard _) (fun _ _ => rfl))
  · rfl

/-- The signed index arithmetic of `substr`/`subraw` (`a + c`, `c - a`) cannot overflow for a length
`c ≥ 0`, whatever the position and the count — INT64_MIN included (guard `a < 0 ? 0 : …`). -/
theorem substrRange_no_hazard (c a0 b : Int64) (hc : 0 ≤ c.toInt) : (substrRange c a0 b).isHazard = false := by
  obtain ⟨a, b', h, _⟩ := Lemmas.substrRange_spec c a0 b hc
  rw [h]; rfl

/-- `HEXExpression::hex` never overflows its pad counter, for EVERY value and pad count: `if (n > 16) n = 16;`
(commit 126118b) leaves at most 16 to the digit loop (`hexLoop_spec`). -/
theorem hexStr_no_hazard (v n : Int64) : (hexStr v n).isHazard = false := by
  rw [Lemmas.hexStr_spec]; rfl

theorem numOfString_no_hazard (s : Bytes) : (numOfString s).isHazard = false := by
  unfold numOfString; split <;> rfl

end BlocV
