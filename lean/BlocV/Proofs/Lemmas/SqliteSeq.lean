/-
  Histories of calls on a prepared INSERT — the invariant `Ready` over the client's calls `InsCall`
  (Model/Mod/SqliteAbs.lean: their translation to the model's `Op` and to the specification's `Call`), and the one-step
  refinement lemma `ins_step`; `bind_execute`: what `bind(tuple); execute()` leaves. The property theorems built on them
  are in Proofs/C18F.lean (`sqlite_history_refines_spec`, `sqlite_stepfail_rebind`, …).
-/
import BlocV.Model.Mod.SqliteAbs

namespace BlocV.Proofs.SqliteSeq
open BlocV.Mod BlocV.Mod.Sqlite BlocV.Mod.SqliteAbs
open BlocV.Spec.Sqlite (Call St)

/-- open connection, table present with rows `rows`, an INSERT prepared whose parameter holds `cur` (any status) -/
def Ready (w : World) (cur : SVal) (rows : List SVal) : Prop :=
  w.h.isOpen = true ∧ w.table = some rows ∧ ∃ s, w.h.stmt = some s ∧ s.kind = .insert ∧ s.binding = cur ∧ s.cursor = []

theorem sqlite_run_cons (w : Sqlite.World) (op : Sqlite.Op) (ops : List Sqlite.Op) :
    Sqlite.run w (op :: ops)
      = ((Sqlite.run (Sqlite.step w op).1 ops).1, (Sqlite.step w op).2 :: (Sqlite.run (Sqlite.step w op).1 ops).2) := rfl

theorem bindArgs_eq (eb : Bool) (old : SVal) (a : List BVal) : bindArgs eb old a = (firstBound eb a).getD old := by
  cases a <;> rfl

/-- `bind(tup(v)); execute()` on a prepared INSERT stores what `v` is bound to, unless the table refuses it -/
theorem bind_execute {w : World} {s : Stmt} {rows : List SVal} {v : BVal} {x : SVal} (temp : Bool)
    (ho : w.h.isOpen = true) (hs : w.h.stmt = some s) (hk : s.kind = .insert) (ht : w.table = some rows)
    (hb : bindOf w.emptyBuf v = some x) (hx : ¬ (w.notNull = true ∧ x = .null)) :
    Sqlite.run w [.bind (some [v]) temp, .execute]
      = ({ w with table := some (rows ++ [x]),
                  h := { w.h with stmt := some { kind := .insert, binding := x, cursor := [] }, status := .done } },
         [.bool true, .bool true]) := by
  let w2 : World := { w with h := { w.h with stmt := some { kind := .insert, binding := x, cursor := [] }, status := .new } }
  -- `step.eq_def` here and below: one unfolding to the `match`; the per-constructor equations of `step` are slow to generate
  have e1 : Sqlite.step w (.bind (some [v]) temp) = (w2, .bool true) := by
    simp [Sqlite.step.eq_def, ho, hs, hk, bindArgs, hb, w2]
  have e2 : Sqlite.step w2 .execute = ({ w2 with table := some (rows ++ [x]), h := { w2.h with status := .done } }, .bool true) := by
    simp [Sqlite.step.eq_def, ho, ht, hx, w2]
  rw [sqlite_run_cons, e1, sqlite_run_cons, e2]
  rfl

theorem okNN_true (nn : Bool) (s : SVal) : okNN nn s = true ↔ ¬ (nn = true ∧ s = .null) := by
  cases nn <;> simp [okNN]

theorem spec_step_bind {α : Type} (ok : α → Bool) (s : St α) (v : Option α) :
    BlocV.Spec.Sqlite.step ok s (.bind v) = ({ s with slot := v.getD s.slot }, none) := by
  cases v <;> rfl

theorem ins_step {w : World} {cur : SVal} {rows : List SVal} (c : InsCall) (h : Ready w cur rows) :
    let r := BlocV.Spec.Sqlite.step (okNN w.notNull) ⟨cur, rows⟩ (c.toCall w.emptyBuf)
    Ready (Sqlite.step w c.toOp).1 r.1.slot r.1.rows
    ∧ (Sqlite.step w c.toOp).1.notNull = w.notNull ∧ (Sqlite.step w c.toOp).1.emptyBuf = w.emptyBuf
    ∧ c.ans (Sqlite.step w c.toOp).2 = r.2 := by
  have ⟨ho, ht, s, hs, hk, hb, hc⟩ := h
  -- six of the calls leave the world alone, are `.other` to the specification and have no answer it fixes
  have keep : ∀ op, (Sqlite.step w op).1 = w →
      Ready (Sqlite.step w op).1 cur rows ∧ (Sqlite.step w op).1.notNull = w.notNull
      ∧ (Sqlite.step w op).1.emptyBuf = w.emptyBuf ∧ (none : BlocV.Spec.Sqlite.Ans) = none := by
    intro op e; rw [e]; exact ⟨h, rfl, rfl, rfl⟩
  -- `execute` and `exec` alike are refused with the world unchanged, or append the value `v` they would store
  -- (stated with `.exec v` and `execute.ans`: `.execute` and `exec.ans` unfold to the same)
  have store : ∀ (v : SVal) (w' : World) (x : World × Res),
      x = (if w.notNull = true ∧ v = .null then (w, .sqlErr) else (w', .bool true)) →
      Ready w' cur (rows ++ [v]) → w'.notNull = w.notNull → w'.emptyBuf = w.emptyBuf →
      let r := BlocV.Spec.Sqlite.step (okNN w.notNull) ⟨cur, rows⟩ (.exec v)
      Ready x.1 r.1.slot r.1.rows ∧ x.1.notNull = w.notNull ∧ x.1.emptyBuf = w.emptyBuf
      ∧ InsCall.execute.ans x.2 = r.2 := by
    intro v w' x e h' hn he
    simp only [BlocV.Spec.Sqlite.step, InsCall.ans]
    by_cases hr : w.notNull = true ∧ v = .null
    · rw [e, if_pos hr, if_neg (fun h => (okNN_true _ _).mp h hr)]
      exact ⟨h, rfl, rfl, rfl⟩
    · rw [e, if_neg hr, if_pos ((okNN_true _ _).mpr hr)]
      exact ⟨h', hn, he, rfl⟩
  cases c with
  | bind a t =>
    have e : Sqlite.step w (.bind (some a) t)
        = ({ w with h := { w.h with stmt := some { s with binding := bindArgs w.emptyBuf s.binding a, cursor := [] }, status := .new } },
            .bool true) := by
      simp [Sqlite.step.eq_def, ho, hs, hk]
    simp only [InsCall.toOp, InsCall.toCall, InsCall.ans, spec_step_bind]
    rw [e, bindArgs_eq, hb]
    exact ⟨⟨ho, ht, _, rfl, hk, rfl, rfl⟩, rfl, rfl, trivial⟩
  | bindNull t => exact keep (.bind none t) (by simp [Sqlite.step.eq_def, ho])
  | execute =>
    exact store cur { w with table := some (rows ++ [cur]), h := { w.h with status := .done } } (Sqlite.step w .execute)
      (by simp [Sqlite.step.eq_def, ho, hs, hk, ht, hb]) ⟨ho, rfl, s, hs, hk, hb, hc⟩ rfl rfl
  | exec a =>
    have hca : w.h.cursorActive = false := by simp [Handle.cursorActive, hs, hk]
    exact store ((firstBound w.emptyBuf a).getD .null)
      { w with table := some (rows ++ [(firstBound w.emptyBuf a).getD .null]) } (Sqlite.step w (.insert (some a)))
      (by simp [Sqlite.step.eq_def, ho, ht, hca, bindArgs_eq]) ⟨ho, rfl, s, hs, hk, hb, hc⟩ rfl rfl
  | fetch => exact keep .fetch (by cases hst : w.h.status <;> simp [Sqlite.step.eq_def, ho, hs, hc, hst])
  | header => exact keep .header (by simp only [Sqlite.step.eq_def, ho, hs, hk]; cases w.h.status <;> simp)
  | isOpen => exact keep .isOpen rfl
  | queryAll => exact keep .queryAll (by simp only [Sqlite.step.eq_def, ho, ht]; cases rows <;> simp)
  | queryParam a => exact keep (.queryParam a) (by cases a <;> simp [Sqlite.step.eq_def, ho])

theorem run_rows {α : Type} (ok : α → Bool) : ∀ (cs : List (Call α)) (s : St α),
    (BlocV.Spec.Sqlite.run ok s cs).1.rows = s.rows ++ BlocV.Spec.Sqlite.stored ok s.slot cs := by
  intro cs
  induction cs with
  | nil => intro s; simp [BlocV.Spec.Sqlite.run, BlocV.Spec.Sqlite.stored]
  | cons c cs ih =>
    intro s
    simp only [BlocV.Spec.Sqlite.run]
    rw [ih]
    cases c with
    | bind v => cases v <;> simp [BlocV.Spec.Sqlite.step, BlocV.Spec.Sqlite.stored]
    | execute | exec v =>
      simp only [BlocV.Spec.Sqlite.step, BlocV.Spec.Sqlite.stored]
      split <;> simp
    | other => simp [BlocV.Spec.Sqlite.step, BlocV.Spec.Sqlite.stored]

end BlocV.Proofs.SqliteSeq
