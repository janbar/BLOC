/-
  `int(decimal)` (Model/Num.lean `intOfDecimal`) against Spec/Float.lean: the model's bit-field accessors on `UInt64`
  patterns (`sign`, `expo`, `mant`, `truncInt`) equal the arithmetic fields of the specification; power-of-two arithmetic
  with the denominator 2^1074 (never evaluated: handled by `Nat.pow_add`); the range analysis by exponent field; and
  `intOfDecimal_eq`, what the conversion returns as one equation, from which C03's statements, `castToInt` and the
  no-hazard fact follow.
-/
import BlocV.Model.Num
import BlocV.Spec.Float

namespace BlocV.Lemmas
open BlocV.Spec

theorem expo_eq (b : UInt64) : Num.expo b = F64.expField b.toNat := by
  unfold Num.expo F64.expField
  rw [UInt64.toNat_and, UInt64.toNat_shiftRight]
  show b.toNat >>> (52 % 64) &&& (2 ^ 11 - 1) = _
  rw [Nat.and_two_pow_sub_one_eq_mod, Nat.shiftRight_eq_div_pow]

theorem mant_eq (b : UInt64) : Num.mant b = F64.fracField b.toNat := by
  unfold Num.mant F64.fracField
  rw [UInt64.toNat_and]
  show b.toNat &&& (2 ^ 52 - 1) = _
  rw [Nat.and_two_pow_sub_one_eq_mod]

theorem isFinite_iff (b : UInt64) : F64.isFinite b.toNat ↔ Num.expo b ≠ 2047 := by rw [F64.isFinite, expo_eq]

theorem sign_eq (b : UInt64) : Num.sign b = decide (F64.signField b.toNat = 1) := by
  rw [Bool.eq_iff_iff, decide_eq_true_iff, Num.sign, beq_iff_eq, ← UInt64.toNat_inj, UInt64.toNat_shiftRight,
    F64.signField]
  show b.toNat >>> 63 = 1 ↔ _
  -- the pattern has 64 bits, so the quotient is the sign bit itself
  rw [Nat.shiftRight_eq_div_pow, Nat.mod_eq_of_lt (Nat.div_lt_of_lt_mul b.toNat_lt)]

/-- The three fields determine the pattern. -/
theorem pattern_fields (n : Nat) (h : n < 2 ^ 64) :
    n = F64.signField n * 2 ^ 63 + F64.expField n * 2 ^ 52 + F64.fracField n := by
  unfold F64.signField F64.expField F64.fracField; omega

theorem frac_lt (n : Nat) : F64.fracField n < 2 ^ 52 := by unfold F64.fracField; omega
theorem exp_lt (n : Nat) : F64.expField n < 2048 := by unfold F64.expField; omega

/-- `(m · 2^(E−1)) / 2^1074`, the magnitude of the truncation, as the model computes it. -/
theorem mag_div (m E : Nat) (hE : 1 ≤ E) :
    (if ((E : Int) - 1075) ≥ 0 then m * 2 ^ ((E : Int) - 1075).toNat else m / 2 ^ (-((E : Int) - 1075)).toNat) =
      m * 2 ^ (E - 1) / 2 ^ 1074 := by
  by_cases h : 1075 ≤ E
  · -- `E = 1075 + a`
    obtain ⟨a, rfl⟩ := Nat.exists_eq_add_of_le h
    rw [if_pos (by omega), show (((1075 + a : Nat) : Int) - 1075).toNat = a by omega, show 1075 + a - 1 = a + 1074 by omega,
      Nat.pow_add, ← Nat.mul_assoc, Nat.mul_div_cancel _ (Nat.two_pow_pos 1074)]
  · -- `E - 1 + k = 1074`
    obtain ⟨k, hk⟩ := Nat.exists_eq_add_of_le (show E - 1 ≤ 1074 by omega)
    rw [if_neg (by omega), show (-((E : Int) - 1075)).toNat = k by omega, hk, Nat.add_comm, Nat.pow_add,
      Nat.mul_div_mul_right _ _ (Nat.two_pow_pos _)]

theorem unit_eq_cast : F64.unit = ((2 ^ 1074 : Nat) : Int) := by
  unfold F64.unit; rw [Int.natCast_pow]; rfl

theorem unit_pos : 0 < F64.unit := by
  rw [unit_eq_cast]; exact Int.natCast_pos.mpr (Nat.two_pow_pos 1074)

/-- Magnitude of `scaled`. -/
def smag (n : Nat) : Nat := F64.significand n * 2 ^ F64.scaleExp n

theorem scaled_eq (n : Nat) : F64.scaled n = if F64.signField n = 1 then -((smag n : Nat) : Int) else (smag n : Nat) := rfl

theorem trunc_eq (n : Nat) :
    F64.trunc n = if F64.signField n = 1 then -((smag n / 2 ^ 1074 : Nat) : Int) else ((smag n / 2 ^ 1074 : Nat) : Int) := by
  unfold F64.trunc
  rw [scaled_eq, unit_eq_cast]
  split
  · rw [Int.neg_tdiv, ← Int.ofNat_tdiv]
  · rw [← Int.ofNat_tdiv]

theorem truncInt_eq (b : UInt64) (h : Num.expo b ≠ 2047) :
    Num.truncInt b = some (F64.trunc b.toNat) := by
  have h' : (Num.expo b == 2047) = false := by simpa using h
  rw [Num.truncInt, h', trunc_eq, sign_eq]
  simp only [Bool.false_eq_true, if_false, decide_eq_true_eq]
  -- the sign is the same test on both sides: compare the magnitudes
  refine congrArg (fun x : Nat => some (if F64.signField b.toNat = 1 then -(x : Int) else (x : Int))) ?_
  unfold smag F64.significand F64.scaleExp
  rw [← expo_eq, ← mant_eq]
  by_cases h0 : Num.expo b = 0
  · simp [h0]
  · have hb : (Num.expo b == 0) = false := by simpa using h0
    simp only [h0, hb, if_false, Bool.false_eq_true]
    rw [Nat.add_comm (2 ^ 52)]
    exact mag_div _ _ (by omega)

/-! ### Range analysis by exponent field

2^63 has exponent field 1086 = 1023 + 63 and fraction 0. A smaller field means |value| < 2^63 (`scaleExp ≤ 1084`); field
1086 with a non-zero fraction, or a larger field (`scaleExp ≥ 1085`), means |value| > 2^63. -/

/-- `2^63 · 2^1074` as a natural number; `(2:Int)^63 * unit` is its cast. -/
def rangeBound : Nat := 2 ^ 63 * 2 ^ 1074

theorem rangeBound_cast : (2 : Int) ^ 63 * F64.unit = (rangeBound : Int) := by
  unfold rangeBound; rw [unit_eq_cast, Int.natCast_mul, Int.natCast_pow]; rfl

theorem significand_lt (n : Nat) : F64.significand n < 2 ^ 53 := by
  unfold F64.significand; have := frac_lt n; split <;> omega

theorem smag_lt (n : Nat) (he : F64.expField n < 1086) : smag n < rangeBound := by
  unfold smag rangeBound
  have h1 : F64.scaleExp n ≤ 1084 := by unfold F64.scaleExp; split <;> omega
  have h2 : 2 ^ F64.scaleExp n ≤ 2 ^ 1084 := Nat.pow_le_pow_right (by omega) h1
  have h3 : (2 : Nat) ^ 63 * 2 ^ 1074 = 2 ^ 53 * 2 ^ 1084 := by
    rw [← Nat.pow_add, ← Nat.pow_add]
  rw [h3]
  exact Nat.mul_lt_mul_of_lt_of_le (significand_lt n) h2 (Nat.two_pow_pos _)

theorem smag_eq (n : Nat) (he : F64.expField n = 1086) (hf : F64.fracField n = 0) : smag n = rangeBound := by
  unfold smag rangeBound F64.significand F64.scaleExp
  rw [he, hf]
  simp only [show (1086 : Nat) ≠ 0 by omega, if_false, Nat.add_zero]
  rw [← Nat.pow_add, ← Nat.pow_add]

theorem smag_gt (n : Nat) (he : 1086 ≤ F64.expField n) (hne : ¬ (F64.expField n = 1086 ∧ F64.fracField n = 0)) :
    rangeBound < smag n := by
  have h0 : F64.expField n ≠ 0 := by omega
  have h3 : (2 : Nat) ^ 63 * 2 ^ 1074 = 2 ^ 52 * 2 ^ 1085 := by
    rw [← Nat.pow_add, ← Nat.pow_add]
  unfold smag rangeBound F64.significand F64.scaleExp
  rw [if_neg h0, if_neg h0, h3]
  by_cases h6 : F64.expField n = 1086
  · have hf : 0 < F64.fracField n := by omega
    rw [h6]
    exact Nat.mul_lt_mul_of_lt_of_le (by omega) (Nat.le_refl _) (Nat.two_pow_pos _)
  · have h1 : 1085 < F64.expField n - 1 := by omega
    have h2 : 2 ^ 1085 < 2 ^ (F64.expField n - 1) := Nat.pow_lt_pow_right (by omega) h1
    exact Nat.mul_lt_mul_of_le_of_lt (by omega) h2 (by omega)

/-- "The value lies in [−2^63, 2^63)" compares the magnitude with 2^63·2^1074: `≤` for a negative number, `<` otherwise. -/
theorem inIntRange_smag (n : Nat) :
    F64.inIntRange n ↔ if F64.signField n = 1 then smag n ≤ rangeBound else smag n < rangeBound := by
  unfold F64.inIntRange
  rw [Int.neg_mul, rangeBound_cast, scaled_eq]
  have hpos : 0 < rangeBound := Nat.mul_pos (Nat.two_pow_pos 63) (Nat.two_pow_pos 1074)
  generalize smag n = m
  generalize rangeBound = r at *
  split <;> omega

/-- For a finite double, "the value lies in [−2^63, 2^63)" by fields: exponent below 1023+63, or exactly −2^63. -/
theorem inIntRange_iff (n : Nat) :
    F64.inIntRange n ↔
      (F64.expField n < 1086 ∨ (F64.signField n = 1 ∧ F64.expField n = 1086 ∧ F64.fracField n = 0)) := by
  rw [inIntRange_smag]
  -- the magnitude against 2^63·2^1074, by exponent field: below, equal (exactly 2^63), above
  have h3 : (F64.expField n < 1086 ∧ smag n < rangeBound) ∨
      (F64.expField n = 1086 ∧ F64.fracField n = 0 ∧ smag n = rangeBound) ∨
      (1086 ≤ F64.expField n ∧ ¬ (F64.expField n = 1086 ∧ F64.fracField n = 0) ∧ rangeBound < smag n) := by
    by_cases he : F64.expField n < 1086
    · exact .inl ⟨he, smag_lt n he⟩
    · by_cases hx : F64.expField n = 1086 ∧ F64.fracField n = 0
      · exact .inr (.inl ⟨hx.1, hx.2, smag_eq n hx.1 hx.2⟩)
      · exact .inr (.inr ⟨by omega, hx, smag_gt n (by omega) hx⟩)
  generalize smag n = m at h3 ⊢
  generalize rangeBound = r at h3 ⊢
  split <;> omega

/-- Above the range every double is an integer: a multiple of the unit. -/
theorem smag_div_mul (n : Nat) (he : 1086 ≤ F64.expField n) : smag n / 2 ^ 1074 * 2 ^ 1074 = smag n := by
  have h0 : F64.expField n ≠ 0 := by omega
  have hS : F64.scaleExp n = (F64.scaleExp n - 1074) + 1074 := by
    unfold F64.scaleExp; rw [if_neg h0]; omega
  unfold smag
  rw [hS, Nat.pow_add, ← Nat.mul_assoc, Nat.mul_div_cancel _ (Nat.two_pow_pos 1074)]

/-- "The value lies in the integer range" and "the truncated value fits `int64_t`" agree on doubles. -/
theorem inIntRange_iff_trunc (n : Nat) : F64.inIntRange n ↔ -2 ^ 63 ≤ F64.trunc n ∧ F64.trunc n < 2 ^ 63 := by
  rw [inIntRange_smag, trunc_eq]
  have hP : 0 < 2 ^ 1074 := Nat.two_pow_pos 1074
  have hlt : smag n < rangeBound ↔ smag n / 2 ^ 1074 < 2 ^ 63 := (Nat.div_lt_iff_lt_mul hP).symm
  -- `≤` goes down to the quotients as well: below exponent field 1086 it holds anyway, from there on `smag` is a
  -- multiple of the unit (doubles beyond 2^53 have no fraction)
  have hle : smag n ≤ rangeBound ↔ smag n / 2 ^ 1074 ≤ 2 ^ 63 := by
    refine ⟨fun h => ?_, fun h => ?_⟩
    · have := Nat.div_le_div_right (c := 2 ^ 1074) h
      rwa [rangeBound, Nat.mul_div_cancel _ hP] at this
    · by_cases he : F64.expField n < 1086
      · exact Nat.le_of_lt (smag_lt n he)
      · rw [← smag_div_mul n (by omega), rangeBound]
        exact Nat.mul_le_mul_right _ h
  clear hP
  generalize smag n / 2 ^ 1074 = q at *
  generalize smag n = m at *
  generalize rangeBound = r at *
  split <;> omega

/-- The value-range formulation (Spec/Float.lean `intOf`) and the truncation-range formulation
(Spec/Arith.lean `intOfDecimal`) of `int(d)` are the same function of the bit pattern. -/
theorem intOf_eq_trunc_form (n : Nat) : F64.intOf n = Spec.intOfDecimal (F64.truncOpt n) := by
  unfold F64.intOf F64.truncOpt Spec.intOfDecimal
  by_cases hf : F64.isFinite n <;> simp [hf, inIntRange_iff_trunc]

/-- The one negative pattern with exponent field 1086 that is in range: −2^63. -/
theorem beq_minTwo63 (b : UInt64) :
    (b == 0xc3e0000000000000) =
      decide (F64.signField b.toNat = 1 ∧ F64.expField b.toNat = 1086 ∧ F64.fracField b.toNat = 0) := by
  rw [Bool.eq_iff_iff, decide_eq_true_iff, beq_iff_eq, ← UInt64.toNat_inj]
  show b.toNat = 14114281232179134464 ↔ _
  refine ⟨fun e => by rw [e]; decide, fun ⟨h1, h2, h3⟩ => ?_⟩
  rw [pattern_fields _ b.toNat_lt, h1, h2, h3]

/-- `geM63 && lt63` of `Num.intOfDecimal` off NaN: `s` the sign, `lt` "exponent field below 1086", `m` "is −2^63". -/
theorem range_bool (s lt m : Bool) : ((!s || lt || (s && m)) && (s || lt)) = (lt || (s && m)) := by
  cases s <;> cases lt <;> cases m <;> rfl

/-- **`int(d)` as one equation**: the sign / exponent / mantissa tests of builtin_int.cpp's range check select exactly
the numbers whose value lies in [−2^63, 2^63), and the cast is then the exact truncation. The C-level undefined
conversion is never reached. -/
theorem intOfDecimal_eq (b : UInt64) :
    Num.intOfDecimal b =
      if F64.isFinite b.toNat ∧ F64.inIntRange b.toNat then .ok (Int64.ofInt (F64.trunc b.toNat))
      else .err Gen.EXC_RT_OUT_OF_RANGE := by
  unfold Num.intOfDecimal
  by_cases hfin : Num.expo b = 2047
  · have e1 : decide (Num.expo b < 1086) = false := by simp [hfin]
    have e2 : (b == 0xc3e0000000000000) = false := by
      rw [beq_minTwo63, ← expo_eq, hfin]; simp
    rw [if_neg fun h : F64.isFinite b.toNat ∧ _ => (isFinite_iff b).mp h.1 hfin]
    simp only [e1, e2]
    cases Num.sign b <;> cases Num.isNaN b <;> rfl
  · have hn : Num.isNaN b = false := by simp [Num.isNaN, hfin]
    have hf := (isFinite_iff b).mpr hfin
    have hc : ((!Num.sign b || decide (Num.expo b < 1086) || b == 0xc3e0000000000000) &&
          (Num.sign b || decide (Num.expo b < 1086))) = decide (F64.inIntRange b.toNat) := by
      rw [beq_minTwo63, Bool.decide_and, ← sign_eq, range_bool, sign_eq, ← Bool.decide_and, ← Bool.decide_or,
        expo_eq]
      exact (decide_eq_decide.mpr (inIntRange_iff b.toNat)).symm
    simp only [hn, Bool.not_false, Bool.true_and, hc, truncInt_eq b hfin, hf, true_and]
    by_cases hr : F64.inIntRange b.toNat <;> simp [hr]

/-- The same with the range test on the truncated value: the form of `Value::toInteger` (Model/Builtins.lean `castToInt`). -/
theorem intOfDecimal_eq_trunc (b : UInt64) :
    Num.intOfDecimal b =
      match Num.truncInt b with
      | some z => if -2 ^ 63 ≤ z ∧ z < 2 ^ 63 then .ok (Int64.ofInt z) else .err Gen.EXC_RT_OUT_OF_RANGE
      | none => .err Gen.EXC_RT_OUT_OF_RANGE := by
  rw [intOfDecimal_eq]
  by_cases hfin : Num.expo b = 2047
  · rw [show Num.truncInt b = none by simp [Num.truncInt, hfin], if_neg fun h : F64.isFinite b.toNat ∧ _ => (isFinite_iff b).mp h.1 hfin]
  · simp only [truncInt_eq b hfin, ← inIntRange_iff_trunc, (isFinite_iff b).mpr hfin, true_and]

end BlocV.Lemmas
