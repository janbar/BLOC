/-
  `function g(n) begin if n == 0 then return 0; end if; return g(n-1); end` in any function table (`CountDown`): its `if`
  statement, the argument `n-1`, one level of the call (`CountDown.call_run`) and the outcome of `g(n)` called at any depth
  (`countDown_outcome`): the value 0 when the `n + 1` nested calls fit below the recursion limit, the recursion-limit error of the
  call attempted at the limit otherwise.
-/
import BlocV.Proofs.Lemmas.InterpEqns
namespace BlocV.Lemmas

/-- `if n == 0 then return 0; end if;` -/
def cdIf : Stmt := .ifS [(some (.bin .eq (.var "n") (.lit (.int 0))), [.returnS (some (.lit (.int 0)))])]
/-- `g(n-1)` -/
def cdRec : Expr := .fcall "g" [.bin .sub (.var "n") (.lit (.int 1))]

/-- `g/1` resolves in `funcs` to `f`, which has the body above, no exception clause, and `n` as its parameter -/
structure CountDown (funcs : List Func) (f : Func) : Prop where
  find : funcs.find? (fun f => f.name == "g" && f.params.length == 1) = some f
  body : f.body = [cdIf, .returnS (some cdRec)]
  catches : f.catches = []
  param : ∀ (x : Int64) (c : St), readVar (calleeInit f [.int x] c) "n" = .ok (.int x)

theorem evalBin_eq_int (x y : Int64) : evalBin .eq (.int x) (.int y) false = .ok (.bool (x == y)) := rfl
theorem evalBin_sub_int (x y : Int64) : evalBin .sub (.int x) (.int y) false = .ok (.int (x - y)) := rfl

theorem ofNat_succ_sub_one (n : Nat) : Int64.ofNat (n + 1) - 1 = Int64.ofNat n := by
  rw [Int64.ofNat_add]; exact Int64.add_sub_cancel _ 1

theorem ofNat_succ_ne_zero (n : Nat) (h : n + 1 < 2 ^ 63) : (Int64.ofNat (n + 1) == 0) = false :=
  beq_eq_false_iff_ne.mpr fun e => by
    have := congrArg Int64.toInt e
    rw [Int64.toInt_ofNat_of_lt h, Int64.toInt_zero] at this
    omega

section statements
variable (funcs : List Func) (d k : Nat) (x : Int64) (s : St) (hn : readVar s "n" = .ok (.int x))
include hn

theorem cdIf_run (hb : s.budget ≠ 0) : exec funcs d (k + 5) cdIf s =
    if x == 0 then execList funcs d (k + 3) [.returnS (some (.lit (.int 0)))] (tick s) else (.ok .norm, tick s) := by
  rw [cdIf, exec_ifS funcs d (k + 4) hb]
  simp only [execIf, bind_app, eval, getSt_app, liftM_app, readVar_tick, hn, pure_app, evalBin_eq_int, condTaken_bool, evalM_ite_app]

theorem cdArg_run : evalArgs funcs d (k + 3) [.bin .sub (.var "n") (.lit (.int 1))] s = (.ok [.int (x - 1)], s) := by
  simp only [evalArgs, bind_app, eval, getSt_app, liftM_app, hn, pure_app, evalBin_sub_int]
end statements

section call
variable {funcs : List Func} {f : Func} (G : CountDown funcs f)
include G

/-- **One level**: `g(x)` is 0 if `x = 0`, else what the call `g(n-1)` its body makes comes to, one level deeper, after `if` and
`return` have taken their units of budget. -/
theorem CountDown.call_run (d k : Nat) (x : Int64) (a : Expr) (s s1 : St) (hd : d ≠ Gen.RECURSION_LIMIT)
    (ha : ∀ j, evalArgs funcs d (j + 3) [a] s = (.ok [.int x], s1)) (hb : 2 ≤ s1.budget) :
    (eval funcs d (k + 9) (.fcall "g" [a]) s).1 =
      if x == 0 then .ok (.int 0) else (eval funcs (d + 1) (k + 3) cdRec (tick (tick (calleeInit f [.int x] s1)))).1 := by
  have hb' : (tick (calleeInit f [.int x] s1)).budget ≠ 0 := by show s1.budget - 1 ≠ 0; omega
  -- `args` is named: `G.find` has only its length, as the literal 1, and finding `[a]` from that is slow
  rw [eval_fcall, callFunc_unfold (args := [a]) G.find (beq_eq_false_iff_ne.mpr hd) (ha (k + 4)),
    G.catches, execBlock_no_catches, G.body, execList_cons, cdIf_run funcs (d + 1) k x _ (G.param x s1) (by show s1.budget ≠ 0; omega)]
  cases x == 0 with
  | false =>
    -- the `if` is passed: `return g(n-1)` runs, and the call's value is the value returned
    show (finishCall s1 (execList funcs (d + 1) (k + 5) [.returnS (some cdRec)] _)).1 = _
    rw [execList_return funcs (d + 1) (k + 3) hb', finishCall_return_fst]
    rfl
  | true =>
    rw [if_pos rfl, if_pos rfl, execList_return funcs (d + 1) (k + 1) hb', bind_app, eval_lit]
    rfl

/-- **`g(n)` called at depth `d`** (by any caller, with any argument expression `a` that evaluates to `n`; `d + n ≤ RECURSION_LIMIT`)
makes `n + 1` nested calls, at depths `d … d + n`. If `d + n < RECURSION_LIMIT` the innermost runs with `n = 0` and returns 0, which every
level hands back with its `return`; if `d + n = RECURSION_LIMIT` the innermost call is attempted at depth `RECURSION_LIMIT` and raises
EXC_RT_RECURSION_LIMIT, which no level catches (`g` has no exception clause) and every level passes on. Six units of fuel and two of
budget (`if`, `return`) per level. -/
theorem countDown_outcome : ∀ (n d fuel : Nat) (a : Expr) (s s1 : St), d + n ≤ Gen.RECURSION_LIMIT → 6 * n + 9 ≤ fuel →
    (∀ j, evalArgs funcs d (j + 3) [a] s = (.ok [.int (Int64.ofNat n)], s1)) → 2 * (n + 1) ≤ s1.budget →
    (eval funcs d fuel (.fcall "g" [a]) s).1 =
      if d + n < Gen.RECURSION_LIMIT then .ok (.int 0) else .err Gen.EXC_RT_RECURSION_LIMIT [] := by
  intro n
  induction n with
  | zero =>
    intro d fuel a s s1 hd hf ha hb
    obtain ⟨k, rfl⟩ : ∃ k, fuel = k + 9 := ⟨fuel - 9, by omega⟩
    rcases Nat.lt_or_ge d Gen.RECURSION_LIMIT with hlt | hge
    · rw [if_pos (by omega), G.call_run d k _ a s s1 (Nat.ne_of_lt hlt) ha hb]
      rfl
    · obtain rfl : d = Gen.RECURSION_LIMIT := by omega
      rw [if_neg (by omega), eval_fcall, callFunc_limit (args := [a]) G.find]
  | succ n ih =>
    intro d fuel a s s1 hd hf ha hb
    obtain ⟨k, rfl⟩ : ∃ k, fuel = k + 9 := ⟨fuel - 9, by omega⟩
    rw [G.call_run d k _ a s s1 (by omega) ha (by omega),
      ofNat_succ_ne_zero n (by have : Gen.RECURSION_LIMIT = 255 := rfl; omega), if_neg Bool.false_ne_true,
      cdRec, ih (d + 1) (k + 3) _ _ _ (by omega) (by omega)
        (fun j => by rw [cdArg_run funcs (d + 1) j _ (tick (tick (calleeInit f [.int _] s1))) (G.param _ s1), ofNat_succ_sub_one]) (by show s1.budget - 1 - 1 ≥ _; omega),
      show d + 1 + n = d + (n + 1) by omega]
end call
end BlocV.Lemmas
