/-
  Lemmas about Model/Cli.lean: the option words (`--out=V`), the tail of `main` after a library run (`finish` is `deliver` of
  three values computed from the run), the reader (`readCall` is the `ReadFile::read` that Model/LexReaders.lean transcribes as
  `rfCall`, so `readChunks` is its `fileReader`, of which Proofs/C13.lean speaks), one turn of the interactive loop.
-/
import BlocV.Model.Cli
import BlocV.Spec.Cli
import BlocV.Model.LexReaders

namespace BlocV.Cli

theorem hasPrefix_iff (p : Bytes) : ∀ s : Bytes, hasPrefix s p = true ↔ p <+: s := by
  induction p with
  | nil => intro s; cases s <;> simp [hasPrefix]
  | cons o opt ih =>
    intro s
    cases s with
    | nil => simp [hasPrefix]
    | cons c t => simp only [hasPrefix, Bool.and_eq_true, beq_iff_eq, ih t, List.cons_prefix_cons, eq_comm (a := o)]

theorem cmdOption_fst (s opt old : Bytes) : (cmdOption s opt old).1 = hasPrefix s opt := by
  unfold cmdOption
  split
  · split <;> simp_all
  · simp_all

theorem outValue_some (a v : Bytes) (h : Spec.Cli.outValue a = some v) : a = str "--out=" ++ v := by
  unfold Spec.Cli.outValue at h
  split at h
  · cases h; rfl
  · cases h

/-- `cmdOption(str, "--out", &file_sout)` assigns exactly when the word is `--out=V`. -/
theorem cmdOption_out (a old : Bytes) :
    (cmdOption a (str "--out") old).2 = match Spec.Cli.outValue a with
      | some v => v
      | none => old := by
  cases hv : Spec.Cli.outValue a with
  | some v => rw [outValue_some a v hv]; rfl
  | none =>
    unfold cmdOption
    split
    · rename_i h
      split
      · rename_i v hd
        obtain ⟨r, rfl⟩ := (hasPrefix_iff _ _).1 h
        have : r = 61 :: v := hd
        subst this
        cases hv
      · rfl
    · rfl

theorem ite_some {α} {P : α → Prop} (c : Prop) [Decidable c] (x : α) (e : Option α) (hx : P x) (he : ∀ y, e = some y → P y) :
    ∀ y, (if c then some x else e) = some y → P y := by
  intro y h
  split at h
  · exact Option.some.inj h ▸ hx
  · exact he y h

/-- One option word: `file_sout` becomes the value of a `--out=V` word and is left alone by every other
word. (For `--out=V` the chain is evaluated; for any other word each test but the last leaves the field alone,
and the last assigns nothing.) -/
theorem applyOption_fileSout (o o' : Options) (a : Bytes) (h : applyOption o a = some o') :
    o'.fileSout = match Spec.Cli.outValue a with
      | some v => v
      | none => o.fileSout := by
  have hc := cmdOption_out a o.fileSout
  cases hv : Spec.Cli.outValue a with
  | some v =>
    rw [outValue_some a v hv] at h
    exact Option.some.inj h ▸ rfl
  | none =>
    rw [hv] at hc
    revert o'
    unfold applyOption
    refine ite_some _ _ _ rfl <| ite_some _ _ _ rfl <| ite_some _ _ _ rfl <| ite_some _ _ _ rfl <|
      ite_some _ _ _ rfl <| ite_some _ _ _ hc fun y h => ?_
    cases h

/-- what a run leaves on the selected output: the program's output, then the returned value as `output()` renders it -/
def printed (r : RunResult) : Bytes :=
  match r.outcome with
  | .ok (some v) => r.st.output ++ outputVal v
  | _ => r.st.output

/-- what it leaves on stderr -/
def runErr (env : Env) (r : RunResult) : Bytes :=
  match r.outcome with
  | .err c a => if c == oofCode then [] else errLine (env.what c a)
  | _ => []

def runExit (r : RunResult) : Exit :=
  match r.outcome with
  | .ok _ => .code 0
  | .err c _ => if c == oofCode then .oof else .code 1
  | .haz h => .hazard h
  | .unmodelled => .unmodelled

theorem finish_ran (env : Env) (sel : Sel) (r : RunResult) :
    finish env sel (.ran r) = deliver sel (printed r) (runErr env r) (runExit r) := by
  obtain ⟨oc, st⟩ := r
  unfold finish printed runErr runExit
  cases oc with
  | ok v => cases v <;> rfl
  | err c a => dsimp only; split <;> rfl
  | _ => rfl

theorem finish_compileError (env : Env) (sel : Sel) (pos : Option (Nat × Nat)) (w : Bytes) :
    finish env sel (.compileError pos w) =
      deliver sel [] (match pos with | some (l, c) => errLinePos l c w | none => errLine w) (.code 1) := by
  cases pos with
  | none => rfl
  | some p => rfl

theorem deliver_exit (sel : Sel) (out err : Bytes) (ex : Exit) : (deliver sel out err ex).exit = ex := by
  cases sel <;> rfl

theorem deliver_stderr (sel : Sel) (out err : Bytes) (ex : Exit) : (deliver sel out err ex).stderr = err := by
  cases sel <;> rfl

/-- Model/LexReaders.lean transcribes the same `ReadFile::read` as `Lex.rfCall`. -/
theorem readCall_eq_rfCall (max : Nat) : ∀ (s acc : Bytes), readCall max acc s = Lex.rfCall max acc s
  | [], _ => rfl
  | c :: t, acc => by rw [readCall, Lex.rfCall, readCall_eq_rfCall max t, readCall_eq_rfCall max t]

theorem readChunksF_eq_callsF (max : Nat) : ∀ fuel s, readChunksF max fuel s = Lex.callsF (Lex.rfCall max []) fuel s
  | 0, _ => rfl
  | fuel + 1, s => by simp only [readChunksF, Lex.callsF, readCall_eq_rfCall, readChunksF_eq_callsF max fuel]

theorem readChunks_eq_fileReader (max : Nat) (file : Bytes) : readChunks max file = Lex.fileReader max file :=
  readChunksF_eq_callsF max _ file

theorem interLoop_nil (fuel : Nat) (fs : List Func) (s : St) : interLoop fuel [] fs s = ([], fs, s) := by
  cases fuel <;> rfl

theorem interLoop_head (k : Nat) (st : Stmt) (n : Nat) (rest : List IItem) (fs : List Func) (s : St) :
    ∃ sr tl, (interLoop (k + 1) (.stmt st n :: rest) fs s).1 = sr :: tl ∧ sr.res = some (exec (declStep fs st) 0 k st s).1 := by
  simp only [interLoop]
  split <;> exact ⟨_, _, rfl, rfl⟩

theorem interLoop_norm {k : Nat} {st : Stmt} {fs : List Func} {s s1 : St} (n : Nat) (rest : List IItem)
    (he : exec (declStep fs st) 0 k st s = (.ok .norm, s1)) :
    interLoop (k + 1) (.stmt st n :: rest) fs s =
      ({ lines := n, res := some (.ok .norm), delta := deltaOut s s1 } :: (interLoop k rest (declStep fs st) s1).1,
        (interLoop k rest (declStep fs st) s1).2) := by
  simp only [interLoop, he]
  rfl

/-- a top-level `return`: the value is echoed, then cleared, and the loop goes on -/
theorem interLoop_ret {k : Nat} {st : Stmt} {fs : List Func} {s s1 : St} (n : Nat) (rest : List IItem)
    (he : exec (declStep fs st) 0 k st s = (.ok .ret, s1)) :
    interLoop (k + 1) (.stmt st n :: rest) fs s =
      ({ lines := n, res := some (.ok .ret), delta := deltaOut s s1, echo := s1.returned } ::
        (interLoop k rest (declStep fs st) { s1 with returned := none }).1,
        (interLoop k rest (declStep fs st) { s1 with returned := none }).2) := by
  simp only [interLoop, he]
  rfl

theorem interLoop_nonempty (fuel : Nat) (st : Stmt) (n : Nat) (rest : List IItem) (fs : List Func) (s : St) :
    (interLoop fuel (.stmt st n :: rest) fs s).1 ≠ [] := by
  cases fuel with
  | zero => simp [interLoop]
  | succ k =>
    obtain ⟨sr, tl, e, _⟩ := interLoop_head k st n rest fs s
    exact e ▸ List.cons_ne_nil sr tl

end BlocV.Cli
