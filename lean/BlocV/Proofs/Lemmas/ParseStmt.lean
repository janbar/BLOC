/-
  C12, statements:
    * `norm` on statements of every kind changes neither the saved text (`unparseBlock_norm`), nor its tokens
      (`toksBlock_norm`), nor the interpreter program (`toBlock_norm`), at every indentation level;
    * the keyword dispatch of the statement parser (`kwSel`, `stmtWords_table`) and with it the one-step unfoldings of `pStmt`
      at each keyword of a flat statement, the expression round trip in the form statements use it (`expr_rt`; before a
      word of a block header, `expr_rt_kw`), print lists (`pItems`), the single assignment and DO statement at their own
      fuel bounds (`let_rt`, `do_rt`), and the round trip of statements without a block ("flat") and of programs of them.
-/
import BlocV.Proofs.Lemmas.Parse

namespace BlocV.C12L
open BlocV.Parse BlocV.Unparse BlocV.Roundtrip

-- the parser runs in `Except`: `simp` unfolds its `bind` and `pure` wherever a lemma below opens a parser function
attribute [local simp] bind Except.bind pure Except.pure

def isFunc : PStmt → Bool
  | .func .. => true
  | _ => false

theorem unparseBlock_cons (lvl : Nat) (s : PStmt) (ss : List PStmt) :
    unparseBlock lvl (s :: ss) = (if isFunc s then [] else indent lvl) ++ unparseStmt lvl s ++ [59, 10] ++ unparseBlock lvl ss := by
  fun_cases isFunc s <;> simp [unparseBlock]

theorem isFunc_normS (s : PStmt) : isFunc (normS s) = isFunc s := by
  cases s with
  | ret e => cases e <;> simp [normS, isFunc]
  | _ => simp [normS, isFunc]

mutual
  theorem unparseStmt_norm : ∀ (lvl : Nat) (s : PStmt), unparseStmt lvl (normS s) = unparseStmt lvl s
    | _, .nop | _, .brk | _, .cont | _, .raise _ | _, .ret none => by simp only [normS]
    | _, .trace e | _, .ret (some e) | _, .doS e => by simp only [normS, unparseStmt, unparse_norm]
    | lvl, .letS n e nx => by simp only [normS, unparseStmt, unparse_norm, unparseNext_norm lvl nx]
    | lvl, .letn n ty nx => by simp only [normS, unparseStmt, unparseNext_norm lvl nx]
    | _, .print args | _, .put args => by simp only [normS, unparseStmt, unparseArgs_norm]
    | lvl, .ifS rules none => by simp only [normS, unparseStmt, unparseRules_norm lvl true rules]
    | lvl, .ifS rules (some b) => by simp only [normS, unparseStmt, unparseRules_norm lvl true rules, unparseBlock_norm (lvl + 1) b]
    | lvl, .whileS _ body | lvl, .forS _ _ _ none _ body | lvl, .forS _ _ _ (some _) _ body | lvl, .forall _ _ _ body => by
      simp only [normS, unparseStmt, unparse_norm, unparseBlock_norm (lvl + 1) body]
    | lvl, .begin body [] => by simp only [normS, normCatches, unparseStmt, unparseCatches, unparseBlock_norm (lvl + 1) body]
    | lvl, .begin body (c :: cs) => by
      have h := unparseCatches_norm lvl (c :: cs)
      obtain ⟨n, b⟩ := c
      simp only [normCatches] at h
      simp [normS, normCatches, unparseStmt, h, unparseBlock_norm (lvl + 1) body]
    | _, .func n params rt body [] => by simp only [normS, normCatches, unparseStmt, unparseCatches, unparseBlock_norm 1 body]
    | _, .func n params rt body (c :: cs) => by
      have h := unparseCatches_norm 0 (c :: cs)
      obtain ⟨n, b⟩ := c
      simp only [normCatches] at h
      simp [normS, normCatches, unparseStmt, h, unparseBlock_norm 1 body]
  theorem unparseNext_norm : ∀ (lvl : Nat) (nx : Option PStmt), unparseNext lvl (normNext nx) = unparseNext lvl nx
    | _, none => by simp only [normNext]
    | lvl, some s => by simp only [normNext, unparseNext, unparseStmt_norm lvl s]
  theorem unparseCatches_norm : ∀ (lvl : Nat) (cs : List (Bytes × List PStmt)),
      unparseCatches lvl (normCatches cs) = unparseCatches lvl cs
    | _, [] => by simp only [normCatches]
    | lvl, (n, b) :: cs => by simp only [normCatches, unparseCatches, unparseBlock_norm (lvl + 1) b, unparseCatches_norm lvl cs]
  theorem unparseRules_norm : ∀ (lvl : Nat) (first : Bool) (rs : List (PExpr × List PStmt)),
      unparseRules lvl first (normRules rs) = unparseRules lvl first rs
    | _, _, [] => by simp only [normRules]
    | lvl, first, (c, b) :: rs => by
      simp [normRules, unparseRules, unparse_norm, unparseBlock_norm (lvl + 1) b, unparseRules_norm lvl false rs]
  theorem unparseBlock_norm : ∀ (lvl : Nat) (ss : List PStmt), unparseBlock lvl (normB ss) = unparseBlock lvl ss
    | _, [] => by simp only [normB]
    | lvl, s :: ss => by
      have h1 := unparseStmt_norm lvl s
      have h2 := unparseBlock_norm lvl ss
      rw [normB, unparseBlock_cons, unparseBlock_cons, isFunc_normS, h1, h2]
end

theorem toksArgs_norm' (as : List PExpr) : toksArgs (normArgs as) = toksArgs as := toksArgs_norm as

mutual
  theorem toksStmt_norm : ∀ (s : PStmt), toksStmt (normS s) = toksStmt s
    | .nop | .brk | .cont | .raise _ | .ret none => by simp only [normS]
    | .trace e | .ret (some e) | .doS e => by simp only [normS, toksStmt, toks_norm]
    | .letS n e nx => by simp only [normS, toksStmt, toks_norm, toksNext_norm nx]
    | .letn n ty nx => by simp only [normS, toksStmt, toksNext_norm nx]
    | .print args | .put args => by simp only [normS, toksStmt, toksArgs_norm]
    | .ifS rules none => by simp only [normS, toksStmt, toksRules_norm true rules]
    | .ifS rules (some b) => by simp only [normS, toksStmt, toksRules_norm true rules, toksBlock_norm b]
    | .whileS _ body | .forS _ _ _ none _ body | .forS _ _ _ (some _) _ body | .forall _ _ _ body => by
      simp only [normS, toksStmt, toks_norm, toksBlock_norm body]
    | .begin body [] | .func _ _ _ body [] => by simp only [normS, normCatches, toksStmt, toksCatches, toksBlock_norm body]
    | .begin body (c :: cs) | .func _ _ _ body (c :: cs) => by
      have h := toksCatches_norm (c :: cs)
      obtain ⟨n, b⟩ := c
      simp only [normCatches] at h
      simp [normS, normCatches, toksStmt, h, toksBlock_norm body]
  theorem toksNext_norm : ∀ (nx : Option PStmt), toksNext (normNext nx) = toksNext nx
    | none => by simp only [normNext]
    | some s => by simp only [normNext, toksNext, toksStmt_norm s]
  theorem toksCatches_norm : ∀ (cs : List (Bytes × List PStmt)), toksCatches (normCatches cs) = toksCatches cs
    | [] => by simp only [normCatches]
    | (n, b) :: cs => by simp only [normCatches, toksCatches, toksBlock_norm b, toksCatches_norm cs]
  theorem toksRules_norm : ∀ (first : Bool) (rs : List (PExpr × List PStmt)), toksRules first (normRules rs) = toksRules first rs
    | _, [] => by simp only [normRules]
    | first, (c, b) :: rs => by simp only [normRules, toksRules, toks_norm, toksBlock_norm b, toksRules_norm false rs]
  theorem toksBlock_norm : ∀ (ss : List PStmt), toksBlock (normB ss) = toksBlock ss
    | [] => by simp only [normB]
    | s :: ss => by simp only [normB, toksBlock, toksStmt_norm s, toksBlock_norm ss]
end

mutual
  theorem toStmts_norm : ∀ (s : PStmt), toStmts (normS s) = toStmts s
    | .nop | .brk | .cont | .raise _ | .ret none => by simp only [normS]
    | .trace _ | .letn .. | .put _ | .forall .. => by simp only [normS, toStmts]
    | .ret (some e) | .doS e => by simp only [normS, toStmts, optExpr, toExpr_norm]
    | .letS n e nx => by simp only [normS, toStmts, toExpr_norm, toNext_norm nx]
    | .print args => by simp only [normS, toStmts, toExprs_norm]
    | .ifS rules none => by simp only [normS, toStmts, toElse, toRules_norm rules]
    | .ifS rules (some b) => by simp only [normS, toStmts, toElse, toRules_norm rules, toBlock_norm b]
    | .whileS c body => by simp only [normS, toStmts, toExpr_norm, toBlock_norm body]
    | .forS _ _ _ none _ body | .forS _ _ _ (some _) _ body => by simp only [normS, toStmts, optExpr, toExpr_norm, toBlock_norm body]
    | .begin body catches | .func _ _ _ body catches => by simp only [normS, toStmts, toBlock_norm body, toCatches_norm catches]
  theorem toNext_norm : ∀ (nx : Option PStmt), toNext (normNext nx) = toNext nx
    | none => by simp only [normNext]
    | some s => by simp only [normNext, toNext, toStmts_norm s]
  theorem toCatches_norm : ∀ (cs : List (Bytes × List PStmt)), toCatches (normCatches cs) = toCatches cs
    | [] => by simp only [normCatches]
    | (n, b) :: cs => by simp only [normCatches, toCatches, toBlock_norm b, toCatches_norm cs]
  theorem toRules_norm : ∀ (rs : List (PExpr × List PStmt)), toRules (normRules rs) = toRules rs
    | [] => by simp only [normRules]
    | (c, b) :: rs => by simp only [normRules, toRules, toExpr_norm, toBlock_norm b, toRules_norm rs]
  theorem toBlock_norm : ∀ (ss : List PStmt), toBlock (normB ss) = toBlock ss
    | [] => by simp only [normB]
    | s :: ss => by simp only [normB, toBlock, toStmts_norm s, toBlock_norm ss]
end

/-! ## The keyword dispatch of `ParseStatement::parse`

`pStmt` tests the sixteen statement keywords one after the other. `kwSel` states once what that chain of tests does for a
keyword token: it selects the branch whose index is the position of the word in `stmtWords`; the table fact
`stmtWords_table` gives that position (and that the word is in `Statement::KEYWORDS`) for each word, by one evaluation.
The branches are implicit arguments: a production lemma is `pStmt.eq_def` followed by `kwSel` at its word, which finds them
by unification; `rfl` for `hx` picks the selected one, so that no step goes through the fifteen other branches. -/

/-- the statement keywords in the order `ParseStatement::parse` tests them -/
def stmtWords : List String :=
  ["nop", "break", "continue", "trace", "return", "let", "print", "put", "do", "raise", "if", "while", "for", "forall",
   "begin", "function"]

theorem stmtWords_table : ∀ i, i < 16 → isStmtKw (bytesOf (stmtWords.getD i "")) = true ∧
    stmtWords.findIdx (isKw (kw (stmtWords.getD i ""))) = i := by decide +kernel

theorem ite_chain {α} (p : String → Bool) (d : α) : ∀ l : List (String × α),
    l.foldr (fun q r => if p q.1 = true then q.2 else r) d = (l.map (·.2)).getD ((l.map (·.1)).findIdx p) d
  | [] => rfl
  | q :: l => by
    simp only [List.foldr_cons, List.map_cons, List.findIdx_cons, ite_chain p d l]
    cases p q.1 <;> rfl

theorem kwSel {α} (w : String) {i : Nat}
    (T : isStmtKw (bytesOf w) = true ∧ stmtWords.findIdx (isKw (kw w)) = i)
    {a b o x0 x1 x2 x3 x4 x5 x6 x7 x8 x9 x10 x11 x12 x13 x14 x15 d x : α}
    (hx : [x0, x1, x2, x3, x4, x5, x6, x7, x8, x9, x10, x11, x12, x13, x14, x15][i]? = some x) :
    (if ((kw w).code == cSEMI) = true then a else if ((kw w).code != cKW) = true then b else
      if isStmtKw (kw w).text = true then
        (if isKw (kw w) "nop" = true then x0 else if isKw (kw w) "break" = true then x1
         else if isKw (kw w) "continue" = true then x2 else if isKw (kw w) "trace" = true then x3
         else if isKw (kw w) "return" = true then x4 else if isKw (kw w) "let" = true then x5
         else if isKw (kw w) "print" = true then x6 else if isKw (kw w) "put" = true then x7
         else if isKw (kw w) "do" = true then x8 else if isKw (kw w) "raise" = true then x9
         else if isKw (kw w) "if" = true then x10 else if isKw (kw w) "while" = true then x11
         else if isKw (kw w) "for" = true then x12 else if isKw (kw w) "forall" = true then x13
         else if isKw (kw w) "begin" = true then x14 else if isKw (kw w) "function" = true then x15 else d)
      else o) = x := by
  obtain ⟨T1, rfl⟩ := T
  have h1 : ((kw w).code == cSEMI) = false := rfl
  have h2 : ((kw w).code != cKW) = false := rfl
  have h3 : isStmtKw (kw w).text = true := T1
  simp only [h1, h2, h3, ↓reduceIte, Bool.false_eq_true]
  have h := ite_chain (isKw (kw w)) d [("nop", x0), ("break", x1), ("continue", x2), ("trace", x3), ("return", x4),
    ("let", x5), ("print", x6), ("put", x7), ("do", x8), ("raise", x9), ("if", x10), ("while", x11), ("for", x12),
    ("forall", x13), ("begin", x14), ("function", x15)]
  simp only [List.foldr_cons, List.foldr_nil, List.map_cons, List.map_nil] at h
  rw [h, List.getD_eq_getElem?_getD]
  exact congrArg (Option.getD · d) hx

theorem pStmt_nop (f : Nat) (nested : Bool) (ts : List Tok) :
    pStmt (f + 1) nested (kw "nop" :: ts) =
      (do let r ← beyond ts; pure (some .nop, r)) := by
  rw [pStmt.eq_def]; exact kwSel "nop" (stmtWords_table 0 (by decide)) rfl

theorem pStmt_break (f : Nat) (nested : Bool) (ts : List Tok) :
    pStmt (f + 1) nested (kw "break" :: ts) =
      (do let r ← beyond ts; pure (some .brk, r)) := by
  rw [pStmt.eq_def]; exact kwSel "break" (stmtWords_table 1 (by decide)) rfl

theorem pStmt_continue (f : Nat) (nested : Bool) (ts : List Tok) :
    pStmt (f + 1) nested (kw "continue" :: ts) =
      (do let r ← beyond ts; pure (some .cont, r)) := by
  rw [pStmt.eq_def]; exact kwSel "continue" (stmtWords_table 2 (by decide)) rfl

theorem pStmt_trace (f : Nat) (nested : Bool) (ts : List Tok) :
    pStmt (f + 1) nested (kw "trace" :: ts) =
      (do let (e, ts2) ← pExpr f ts; let r ← beyond ts2; pure (some (.trace e), r)) := by
  rw [pStmt.eq_def]; exact kwSel "trace" (stmtWords_table 3 (by decide)) rfl

theorem pStmt_return (f : Nat) (nested : Bool) (ts : List Tok) :
    pStmt (f + 1) nested (kw "return" :: ts) =
      (match ts with
       | [] => .error eEOF
       | t2 :: _ =>
         if t2.code == cSEMI then do let r ← beyond ts; pure (some (.ret none), r)
         else do
           let (e, ts2) ← pExpr f ts
           let r ← beyond ts2
           pure (some (.ret (some e)), r)) := by
  rw [pStmt.eq_def]; exact kwSel "return" (stmtWords_table 4 (by decide)) rfl

theorem pStmt_print (f : Nat) (nested : Bool) (ts : List Tok) :
    pStmt (f + 1) nested (kw "print" :: ts) =
      (do let (args, ts2) ← pItems f ts; let r ← beyond ts2; pure (some (.print args), r)) := by
  rw [pStmt.eq_def]; exact kwSel "print" (stmtWords_table 6 (by decide)) rfl

theorem pStmt_put (f : Nat) (nested : Bool) (ts : List Tok) :
    pStmt (f + 1) nested (kw "put" :: ts) =
      (do let (args, ts2) ← pItems f ts; let r ← beyond ts2; pure (some (.put args), r)) := by
  rw [pStmt.eq_def]; exact kwSel "put" (stmtWords_table 7 (by decide)) rfl

/-- The keyword `DOStatement::unparse` writes is the word the statement parser dispatches on: a changed
`Statement::KEYWORDS` table breaks this lemma (and with it the DO round trip). -/
theorem doKeyword_eq : doKeyword = bytesOf "do" := by decide

theorem pStmt_do (f : Nat) (nested : Bool) (ts : List Tok) :
    pStmt (f + 1) nested (kw "do" :: ts) =
      (do let (e, ts2) ← pExpr f ts
          let r ← beyond ts2
          pure (some (.doS e), r)) := by
  rw [pStmt.eq_def]; exact kwSel "do" (stmtWords_table 8 (by decide)) rfl

theorem pStmt_raise (f : Nat) (nested : Bool) (ts : List Tok) :
    pStmt (f + 1) nested (kw "raise" :: ts) =
      (do let (n, ts2) ← popName Gen.EXC_PARSE_UNEXPECTED_LEX_S ts; let r ← beyond ts2; pure (some (.raise n), r)) := by
  rw [pStmt.eq_def]; exact kwSel "raise" (stmtWords_table 9 (by decide)) rfl

theorem beyond_semi (rest : List Tok) : beyond (ch 59 :: rest) = .ok rest := by
  simp [beyond, ch, cRP, cSEMI]

theorem stops9_Stops {t : Tok} (h : stops9 t = true) : Stops 9 t := by
  simp only [stops9, Bool.and_eq_true, Option.isNone_iff_eq_none, bne_iff_ne, ne_eq] at h
  obtain ⟨⟨⟨⟨⟨⟨⟨⟨h2, h4⟩, h5⟩, h6⟩, h7⟩, h8⟩, h9⟩, hd⟩, ha⟩ := h
  exact ⟨fun _ => h2, fun _ => h4, fun _ => h5, fun _ => h6, fun _ => h7, fun _ => h8, fun _ => h9, hd, ha⟩

/-- the expression round trip in the form the statement lemmas use (`13 = 9 + 4`: level 9 of `PStm`) -/
theorem expr_rt (e : PExpr) (hwf : wf e = true) (t : Tok) (ts : List Tok) (hstop : Stops 9 t)
    (hvar : endsVar e = true → t.code ≠ cLP) (f : Nat) (hf : 16 * esize e + 13 ≤ f) :
    pExpr f (toksExpr e ++ t :: ts) = .ok (norm e, t :: ts) :=
  (full_rt e 9 hwf (lvlE_le9 e) (Nat.le_refl _)).pstm t ts hstop hvar f hf

/-- the words that follow an expression in the header of a block statement -/
def hdrWords : List String := ["to", "step", "then", "loop", "asc", "desc"]

theorem hdrWords_stop : ∀ w ∈ hdrWords, Stops 9 (kw w) ∧ (kw w).code ≠ cLP := by decide +kernel

theorem expr_rt_kw (e : PExpr) (hwf : wf e = true) (w : String) (hw : w ∈ hdrWords) (ts : List Tok) (f : Nat)
    (hf : 16 * esize e + 13 ≤ f) : pExpr f (toksExpr e ++ kw w :: ts) = .ok (norm e, kw w :: ts) :=
  expr_rt e hwf _ ts (hdrWords_stop w hw).1 (fun _ => (hdrWords_stop w hw).2) f hf

theorem pItems_nil (f : Nat) (rest : List Tok) : pItems (f + 1) (ch 59 :: rest) = .ok ([], ch 59 :: rest) := by
  rw [pItems.eq_def]; simp [ch, cSEMI]

theorem pItems_cons {f : Nat} {t : Tok} {ts ts1 ts2 : List Tok} {e : PExpr} {es : List PExpr} (ht : t.code ≠ cSEMI)
    (he : pExpr f (t :: ts) = .ok (e, ts1)) (hs : pItems f ts1 = .ok (es, ts2)) :
    pItems (f + 1) (t :: ts) = .ok (e :: es, ts2) := by
  rw [pItems.eq_def]; simp [ht, he, hs]

theorem items_rt : ∀ (args : List PExpr), wfArgs args = true → itemsSep args = true → ∀ (rest : List Tok) (f : Nat),
    16 * esizeArgs args + 15 ≤ f →
    pItems f ((toksArgs args).flatten ++ ch 59 :: rest) = .ok (normArgs args, ch 59 :: rest)
  | [], _, _, rest => fuel_succ fun f' _ => pItems_nil f' rest
  | a :: as, hwf, hsep, rest => fuel_succ fun f' hf => by
    have hw : wf a = true ∧ wfArgs as = true := by simpa only [wfArgs, Bool.and_eq_true] using hwf
    obtain ⟨t, ts, h1, h2, _⟩ := head_tok a hw.1
    simp only [esizeArgs] at hf
    -- the token after `a`: the separator, or the first token of the next item, which `sepOk` speaks about
    obtain ⟨tn, tl, hn, hst, hlp, hsep'⟩ : ∃ tn tl, (toksArgs as).flatten ++ ch 59 :: rest = tn :: tl ∧ Stops 9 tn ∧
        (endsVar a = true → tn.code ≠ cLP) ∧ itemsSep as = true := by
      cases as with
      | nil => exact ⟨ch 59, rest, by simp [toksArgs], semi_stops, fun _ => by decide, rfl⟩
      | cons b bs =>
        obtain ⟨tb, tsb, hb1, _, _⟩ := head_tok b (by have := hw.2; simp only [wfArgs, Bool.and_eq_true] at this; exact this.1)
        have hs : sepOk a b = true ∧ itemsSep (b :: bs) = true := by simpa only [itemsSep, Bool.and_eq_true] using hsep
        have hab := hs.1
        simp only [sepOk, hb1, Bool.and_eq_true, Bool.or_eq_true, Bool.not_eq_true', bne_iff_ne, ne_eq] at hab
        exact ⟨tb, tsb ++ ((toksArgs bs).flatten ++ ch 59 :: rest), by simp [toksArgs, hb1], stops9_Stops hab.1, fun hv => hab.2.resolve_left (by simp [hv]), hs.2⟩
    have he := expr_rt a hw.1 tn tl hst hlp f' (by omega)
    have e1 : (toksArgs (a :: as)).flatten ++ ch 59 :: rest = toksExpr a ++ ((toksArgs as).flatten ++ ch 59 :: rest) := by
      simp [toksArgs]
    rw [← hn] at he
    rw [e1]
    rw [h1] at he ⊢
    exact pItems_cons h2.2 he (items_rt as hw.2 hsep' rest f' (by omega))

/-- fuel measure of a flat statement -/
def fsize : PStmt → Nat
  | .trace e => esize e
  | .ret (some e) => esize e
  | .doS e => esize e
  | .letS _ e none => esize e + 1
  | .letS _ e (some s) => esize e + 1 + fsize s
  | .letn _ _ none => 1
  | .letn _ _ (some s) => 1 + fsize s
  | .print args => esizeArgs args + 1
  | .put args => esizeArgs args + 1
  | _ => 0

theorem popName_ok {code : Nat} {n : Bytes} {ts : List Tok} (hn : nameOk n = true) :
    popName code (⟨cKW, n⟩ :: ts) = .ok (n, ts) := by
  simp [popName, nameOk_notReserved hn, nameOk_upper hn]

theorem popType_ok {ty : Bytes} {ts : List Tok} (h : typeKws.contains ty = true) : popType (⟨cKW, ty⟩ :: ts) = .ok (ty, ts) := by
  have h' : ty ∈ typeKws := by simpa using h
  simp [popType, h']

theorem pStmt_name_let {f : Nat} {nested : Bool} {n : Bytes} {ts : List Tok} (hn : nameOk n = true) :
    pStmt (f + 1) nested (⟨cKW, n⟩ :: ch 61 :: ts) = pLet f nested (⟨cKW, n⟩ :: ch 61 :: ts) := by
  rw [pStmt.eq_def]
  simp [nameOk_notStmt hn, cKW, cSEMI, Gen.TOKEN_KEYWORD, ch, cEQ]

theorem pStmt_name_letn {f : Nat} {nested : Bool} {n : Bytes} {ts : List Tok} (hn : nameOk n = true) :
    pStmt (f + 1) nested (⟨cKW, n⟩ :: ch 58 :: ts) = pLetn f nested (⟨cKW, n⟩ :: ch 58 :: ts) := by
  rw [pStmt.eq_def]
  simp [nameOk_notStmt hn, cKW, cSEMI, Gen.TOKEN_KEYWORD, ch, cEQ, cCOLON, Gen.TOKEN_ASSIGN]

theorem pLet_semi {f : Nat} {nested : Bool} {n : Bytes} {ts rest : List Tok} {e : PExpr} (hn : nameOk n = true)
    (he : pExpr f ts = .ok (e, ch 59 :: rest)) :
    pLet (f + 1) nested (⟨cKW, n⟩ :: ch 61 :: ts) = .ok (some (.letS n e none), rest) := by
  rw [pLet.eq_def]
  simp [popName_ok hn, cEQ, ch, he, beyond, cCOMMA, cRP, cSEMI]

theorem pLet_chain {f : Nat} {nested : Bool} {n : Bytes} {ts ts' r : List Tok} {e : PExpr} {nx : Option PStmt}
    (hn : nameOk n = true) (he : pExpr f ts = .ok (e, ch 44 :: ts')) (hnext : pStmt f nested ts' = .ok (nx, r)) :
    pLet (f + 1) nested (⟨cKW, n⟩ :: ch 61 :: ts) = .ok (some (.letS n e nx), r) := by
  rw [pLet.eq_def]
  simp [popName_ok hn, cEQ, ch, he, hnext, cCOMMA]

theorem pLetn_semi {f : Nat} {nested : Bool} {n ty : Bytes} {rest : List Tok} (hn : nameOk n = true)
    (hty : typeKws.contains ty = true) :
    pLetn (f + 1) nested (⟨cKW, n⟩ :: ch 58 :: ⟨cKW, ty⟩ :: ch 59 :: rest) = .ok (some (.letn n ty none), rest) := by
  rw [pLetn.eq_def]
  simp [popName_ok hn, popType_ok hty, cCOLON, ch, beyond, cCOMMA, cRP, cSEMI]

theorem pLetn_chain {f : Nat} {nested : Bool} {n ty : Bytes} {ts' r : List Tok} {nx : Option PStmt} (hn : nameOk n = true)
    (hty : typeKws.contains ty = true) (hnext : pStmt f nested ts' = .ok (nx, r)) :
    pLetn (f + 1) nested (⟨cKW, n⟩ :: ch 58 :: ⟨cKW, ty⟩ :: ch 44 :: ts') = .ok (some (.letn n ty nx), r) := by
  rw [pLetn.eq_def]
  simp [popName_ok hn, popType_ok hty, cCOLON, ch, hnext, cCOMMA]

/-- tokens of `NAME = e ;` (the text LETStatement::unparse + the separator of Executable::unparse scan to) -/
def _root_.BlocV.C12.toksLet (n : Bytes) (e : PExpr) : List Tok := ⟨cKW, n⟩ :: ch 61 :: (toksExpr e ++ [ch 59])

/-- `NAME = e ;` with nothing chained: two levels (`pStmt`, `pLet`) above the expression -/
theorem let_rt (n : Bytes) (e : PExpr) (hn : nameOk n = true) (hwf : wf e = true) (nested : Bool) (rest : List Tok) :
    ∀ f, 16 * esize e + 16 ≤ f → pStmt f nested (C12.toksLet n e ++ rest) = .ok (some (.letS n (norm e) none), rest) :=
  fuel_succ <| fuel_succ fun f hf => by
  have e1 : C12.toksLet n e ++ rest = ⟨cKW, n⟩ :: ch 61 :: (toksExpr e ++ ch 59 :: rest) := by simp [C12.toksLet]
  rw [e1, pStmt_name_let hn, pLet_semi hn (expr_rt e hwf (ch 59) rest semi_stops (fun _ => by decide) f (by omega))]

/-- `NAME = e , <next>`: the assignment carries whatever `pStmt` makes of what follows the comma -/
theorem let_chain (n : Bytes) (e : PExpr) (hn : nameOk n = true) (hwf : wf e = true)
    (nested : Bool) (ts' r : List Tok) (nx : Option PStmt) (f : Nat) (hf : 16 * esize e + 13 ≤ f)
    (hnext : pStmt f nested ts' = .ok (nx, r)) :
    pStmt (f + 2) nested (⟨cKW, n⟩ :: ch 61 :: (toksExpr e ++ ch 44 :: ts')) = .ok (some (.letS n (norm e) nx), r) := by
  rw [pStmt_name_let hn, pLet_chain hn (expr_rt e hwf (ch 44) ts' comma_stops (fun _ => by decide) f hf) hnext]

/-- `do e ;`: one level above the expression -/
theorem do_rt (e : PExpr) (hwf : wf e = true) (nested : Bool) (rest : List Tok) :
    ∀ f, 16 * esize e + 14 ≤ f → pStmt f nested (toksDo e ++ rest) = .ok (some (.doS (norm e)), rest) :=
  fuel_succ fun f hf => by
  have e1 : toksDo e ++ rest = kw "do" :: (toksExpr e ++ ch 59 :: rest) := by simp [toksDo]
  rw [e1, pStmt_do, expr_rt e hwf (ch 59) rest semi_stops (fun _ => by decide) f (by omega)]
  simp [beyond_semi]

theorem do_rt_isSome (e : PExpr) (hwf : wf e = true) (nested : Bool) (f : Nat) (hf : 16 * esize e + 14 ≤ f) :
    (pStmt f nested (toksDo e)).toOption.isSome = true := by
  have h := do_rt e hwf nested [] f hf
  rw [List.append_nil] at h
  rw [h]; rfl

theorem flat_rt : ∀ (s : PStmt), wfFlat s = true → ∀ (nested : Bool) (rest : List Tok) (f : Nat), 16 * fsize s + 20 ≤ f →
    pStmt f nested (toksStmt s ++ ch 59 :: rest) = .ok (some (normS s), rest)
  | .nop | .brk | .cont => fun _ nested rest => fuel_succ fun f' hf => by
    simp only [toksStmt, List.cons_append, List.nil_append, pStmt_nop, pStmt_break, pStmt_continue, beyond_semi]
    rfl
  | .trace e => fun h nested rest => fuel_succ fun f' hf => by
    have he := expr_rt e h (ch 59) rest semi_stops (fun _ => by decide) f' (by simp only [fsize] at hf; omega)
    simp only [toksStmt, List.cons_append]
    rw [pStmt_trace, he]; simp [normS, beyond_semi]
  | .doS e => fun h nested rest f hf => by
    simpa [toksStmt, toksDo, normS] using do_rt e h nested rest f (by simp only [fsize] at hf; omega)
  | .ret none => fun _ nested rest => fuel_succ fun f' hf => by
    simp only [toksStmt, List.cons_append, List.nil_append]
    rw [pStmt_return]; simp [normS, beyond_semi]
    simp [ch, cSEMI]
  | .ret (some e) => fun h nested rest => fuel_succ fun f' hf => by
    have he := expr_rt e h (ch 59) rest semi_stops (fun _ => by decide) f' (by simp only [fsize] at hf; omega)
    obtain ⟨t, ts, h1, h2, _⟩ := head_tok e h
    simp only [toksStmt, List.cons_append]
    rw [pStmt_return]
    rw [h1] at he ⊢
    simp only [List.cons_append] at he ⊢
    simp [h2.2, he, normS, beyond_semi]
  | .raise n => fun h nested rest => fuel_succ fun f' hf => by
    simp only [toksStmt, List.cons_append, List.nil_append]
    rw [pStmt_raise]
    simp [popName_ok h, beyond_semi, normS]
  | .print args | .put args => fun h nested rest => fuel_succ fun f' hf => by
    have hw : wfArgs args = true ∧ itemsSep args = true := by simpa [wfFlat] using h
    have hi := items_rt args hw.1 hw.2 rest f' (by simp only [fsize] at hf; omega)
    simp only [toksStmt, List.cons_append, pStmt_print, pStmt_put, hi]
    simp [normS, beyond_semi]
  | .letS n e none => fun h nested rest f hf => by
    have hw : nameOk n = true ∧ wf e = true := by simpa [wfFlat] using h
    simpa [toksStmt, toksNext, C12.toksLet, normS, normNext] using let_rt n e hw.1 hw.2 nested rest f (by simp only [fsize] at hf; omega)
  | .letS n e (some s) => fun h nested rest => fuel_succ <| fuel_succ fun f2 hf => by
    have hw : (nameOk n = true ∧ wf e = true) ∧ wfFlat s = true := by simpa [wfFlat] using h
    simp only [fsize] at hf
    simpa [toksStmt, toksNext, normS, normNext] using
      let_chain n e hw.1.1 hw.1.2 nested _ rest _ f2 (by omega) (flat_rt s hw.2 nested rest f2 (by omega))
  | .letn n ty none => fun h nested rest => fuel_succ <| fuel_succ fun f2 hf => by
    have hw : nameOk n = true ∧ typeKws.contains ty = true := by simpa [wfFlat] using h
    simp only [toksStmt, toksNext, List.cons_append, List.nil_append]
    rw [pStmt_name_letn hw.1]
    exact pLetn_semi hw.1 hw.2
  | .letn n ty (some s) => fun h nested rest => fuel_succ <| fuel_succ fun f2 hf => by
    have hw : (nameOk n = true ∧ typeKws.contains ty = true) ∧ wfFlat s = true := by simpa [wfFlat] using h
    have ih := flat_rt s hw.2 nested rest f2 (by simp only [fsize] at hf; omega)
    simp only [toksStmt, toksNext, List.cons_append]
    rw [pStmt_name_letn hw.1.1]
    exact pLetn_chain hw.1.1 hw.1.2 ih
  | .ifS .. | .whileS .. | .forS .. | .forall .. | .begin .. | .func .. => fun h _ _ => by simp [wfFlat] at h

theorem flat_head : ∀ (s : PStmt), wfFlat s = true → ∃ t ts, toksStmt s = t :: ts ∧ t.code = cKW
  | .nop | .brk | .cont | .trace _ | .ret none | .ret (some _) | .letS .. | .letn .. | .print _ | .put _ | .doS _ | .raise _ =>
    fun _ => ⟨_, _, by simp only [toksStmt]; rfl, by rfl⟩
  | .ifS .. | .whileS .. | .forS .. | .forall .. | .begin .. | .func .. => fun h => by simp [wfFlat] at h

def psize : List PStmt → Nat
  | [] => 0
  | s :: ss => fsize s + 2 + psize ss

theorem pProgram_cons {f : Nat} {l rest ts2 : List Tok} {s : PStmt} {ss : List PStmt} (hl : ∃ t ts, l = t :: ts ∧ t.code = cKW)
    (hs : pStmt f false (l ++ rest) = .ok (some s, ts2)) (hp : pProgram f ts2 = .ok ss) :
    pProgram (f + 1) (l ++ rest) = .ok (s :: ss) := by
  obtain ⟨t, ts, rfl, ht⟩ := hl
  rw [List.cons_append] at hs ⊢
  rw [pProgram]; simp (config := { decide := true }) [ht, hs, hp]

theorem flat_program_rt : ∀ (p : List PStmt), wfFlatB p = true → ∀ (f : Nat), 16 * psize p + 21 ≤ f →
    pProgram f (toksBlock p) = .ok (normB p)
  | [], _ => fuel_succ fun _ _ => rfl
  | s :: ss, h => fuel_succ fun f' hf => by
    have hw : wfFlat s = true ∧ wfFlatB ss = true := by simpa [wfFlatB] using h
    rw [toksBlock]
    exact pProgram_cons (flat_head s hw.1) (flat_rt s hw.1 false (toksBlock ss) f' (by simp only [psize] at hf; omega))
      (flat_program_rt ss hw.2 f' (by simp only [psize] at hf; omega))

end BlocV.C12L
