/-
  Sequences of C API calls: results position by position (`runSeq_out`), what every call keeps as an invariant of
  sequences (`runSeq_inv`), "a rejected parse touches nothing" (`Untouched`), generations (`GenFloor`, `HandleWF`), the
  extended calls (`stepX`); and the catalog index of a generated operator text.
-/
import BlocV.Proofs.Lemmas.CApi

namespace BlocV.C15
open BlocV.CApi

theorem runSeq_out : ∀ (ops : List Op) (s : State) (i : Nat) (o : Op), ops[i]? = some o →
    (runSeq s ops).2[i]? = some (step (runSeq s (ops.take i)).1 o).2
  | [], _, _, _, h => by simp at h
  | o' :: os, s, 0, o, h => by
    simp at h; subst h; simp [runSeq]
  | o' :: os, s, i + 1, o, h => by
    simp at h
    simp only [runSeq, List.take_succ_cons, List.getElem?_cons_succ]
    exact runSeq_out os (step s o').1 i o h

theorem runSeq_inv {P : State → Prop} : ∀ (ops : List Op) (s : State),
    (∀ (t : State) (o : Op), o ∈ ops → P t → P (step t o).1) → P s → P (runSeq s ops).1
  | [], _, _, hs => hs
  | o :: os, s, h, hs =>
    runSeq_inv os (step s o).1 (fun t o' ho' => h t o' (List.mem_cons_of_mem o ho')) (h s o (List.mem_cons_self ..) hs)

theorem eparse_good {s : State} {c e : Nat} {ex : Expr} {x : Ctx} (hx : getCtx s c = some x) (hslot : s.exprs[e]? = some none) :
    (step s (.eparse c e (.good ex))).2.res = Res1.unit ∧ (step s (.eparse c e (.good ex))).2.fail = none := by
  simp [step, opEparse, hx, hslot]

theorem xparse_good {s : State} {c xi : Nat} {p : List Stmt} {pos : Bool} {x : Ctx} (hx : getCtx s c = some x)
    (hslot : s.execs[xi]? = some none) :
    (step s (.xparse c xi (.good p) pos)).2.res = Res1.unit ∧ (step s (.xparse c xi (.good p) pos)).2.fail = none := by
  simp [step, opXparse, hx, hslot]

/-- a parse call on a text of the catalogs of rejected texts -/
def isBadParse : Op → Bool
  | .eparse _ _ (.bad _) => true
  | .xparse _ _ (.bad _) _ => true
  | _ => false

/-- Nothing the host owns changed and no handle was created: the expression, executable, symbol and value tables of the host
and the sinks are the same, and every context is kept in the sense of `CtxKept`. -/
def Untouched (s s' : State) : Prop :=
  s'.exprs = s.exprs ∧ s'.execs = s.execs ∧ s'.syms = s.syms ∧ s'.vals = s.vals ∧ s'.sinks = s.sinks ∧
  ∀ (d : Nat) (y : Ctx), s.ctxs[d]? = some y → ∃ y', s'.ctxs[d]? = some y' ∧ CtxKept y y'

theorem Untouched.refl (s : State) : Untouched s s :=
  ⟨rfl, rfl, rfl, rfl, rfl, fun _ y h => ⟨y, h, CtxKept.refl y⟩⟩

theorem Untouched.trans {s s1 s2 : State} (h1 : Untouched s s1) (h2 : Untouched s1 s2) : Untouched s s2 := by
  obtain ⟨a1, a2, a3, a4, a5, a6⟩ := h1
  obtain ⟨b1, b2, b3, b4, b5, b6⟩ := h2
  refine ⟨b1.trans a1, b2.trans a2, b3.trans a3, b4.trans a4, b5.trans a5, ?_⟩
  intro d y hy
  obtain ⟨y1, hy1, k1⟩ := a6 d y hy
  obtain ⟨y2, hy2, k2⟩ := b6 d y1 hy1
  exact ⟨y2, hy2, k1.trans k2⟩

/-- replacing context `c` by a kept version of itself (new clock, new error record) leaves the state untouched -/
theorem untouched_set {s s' : State} {c : Nat} {x x' : Ctx} (hx : s.ctxs[c]? = some x) (hc : s'.ctxs = s.ctxs.set c x')
    (h : { s' with ctxs := s.ctxs, err := s.err, clock := s.clock } = s) (hk : CtxKept x x') : Untouched s s' := by
  cases s'; cases s
  simp only [State.mk.injEq] at h
  obtain ⟨-, rfl, rfl, rfl, rfl, -, -, rfl⟩ := h
  refine ⟨rfl, rfl, rfl, rfl, rfl, fun d y hy => ?_⟩
  rw [hc, List.getElem?_set]
  by_cases hd : c = d
  · subst hd
    rw [hx] at hy; cases hy
    exact ⟨x', by simp [(List.getElem?_eq_some_iff.1 hx).1], hk⟩
  · exact ⟨y, by simp [hd, hy], CtxKept.refl y⟩

theorem step_badParse_untouched (s : State) (o : Op) (h : isBadParse o = true) : Untouched s (step s o).1 := by
  unfold isBadParse at h
  split at h
  · next c e k =>
    simp only [step, opEparse]
    split
    · next x hx _ =>
      split
      · split <;> exact untouched_set (getCtx_some hx) rfl rfl (.refl x)
      · exact .refl s
    · exact .refl s
  · next c xi k pos =>
    simp only [step, opXparse]
    split
    · next x hx _ =>
      split
      · next bt _ => exact untouched_set (getCtx_some hx) rfl rfl (addSyms_kept bt.newSyms x).1
      · exact .refl s
    · exact .refl s
  · cases h

theorem restoreBacked_stop (x : Ctx) : (restoreBacked x).stop = x.stop ∧ (restoreBacked x).live = x.live := ⟨rfl, rfl⟩

/-- Every live state of context slot `c` has a generation ≥ G (and the clock has passed G). -/
def GenFloor (c G : Nat) (s : State) : Prop :=
  G ≤ s.clock ∧ ∀ (x : Ctx), s.ctxs[c]? = some x → x.live = true → G ≤ x.gen

theorem genFloor_step (c G : Nat) (s : State) (o : Op) (h : GenFloor c G s) : GenFloor c G (step s o).1 := by
  refine ⟨Nat.le_trans h.1 (step_clock_mono s o), fun x1 h1 hl1 => ?_⟩
  obtain ⟨x, h0⟩ := step_ctx_before h1
  cases step_ctx h0 h1 with
  | write _ hl _ hg | renew _ _ hl hg => rw [hg]; exact h.2 x h0 (hl ▸ hl1)
  | reset _ _ hg =>
    rcases hg with hg | ⟨hd, _⟩
    · rw [hg]; exact h.1
    · rw [hd] at hl1; cases hl1

theorem genFloor_after_purge (s : State) (c : Nat) (x : Ctx) (hx : getCtx s c = some x) :
    GenFloor c s.clock (step s (.cpurge c)).1 := by
  simp only [step, opCpurge, hx]
  refine ⟨Nat.le_succ _, fun y hy _ => ?_⟩
  rw [ctxs_dropSymsOf, ctxs_bump, ctxs_set_self hx] at hy
  cases hy
  exact Nat.le_refl _

/-! a handle whose generation is not the generation of its context is unusable -/

theorem execUsable_stale {t : State} {xi : Nat} {h : ExecH} (hh : t.execs[xi]? = some (some h))
    (hg : ∀ y, getCtx t h.ctx = some y → h.gen ≠ y.gen) : execUsable t xi = none := by
  unfold execUsable
  rw [hh]
  dsimp only
  cases hy : getCtx t h.ctx with
  | none => rfl
  | some y => simp [hg y hy]

theorem exprUsable_stale {t : State} {e c : Nat} {h : ExprH} (hh : t.exprs[e]? = some (some h))
    (hg : ∀ y, getCtx t c = some y → h.gen ≠ y.gen) : exprUsable t e c = none := by
  unfold exprUsable
  rw [hh]
  cases hy : getCtx t c with
  | none => rfl
  | some y => simp [hg y hy]

theorem symLive_stale {t : State} {sh c : Nat} {h : SymH} (hh : t.syms[sh]? = some (some h))
    (hg : ∀ y, getCtx t c = some y → h.gen ≠ y.gen) : symLive t sh c = none := by
  unfold symLive
  rw [hh]
  cases hy : getCtx t c with
  | none => rfl
  | some y => simp [hg y hy]

/-- Generations are clock values of the past: every context's generation and the generation every executable,
expression and symbol handle of the host carries are below the clock. -/
def HandleWF (s : State) : Prop :=
  (∀ (c : Nat) (x : Ctx), s.ctxs[c]? = some x → x.gen < s.clock) ∧
  (∀ (xi : Nat) (h : ExecH), s.execs[xi]? = some (some h) → h.gen < s.clock) ∧
  (∀ (e : Nat) (h : ExprH), s.exprs[e]? = some (some h) → h.gen < s.clock) ∧
  (∀ (sh : Nat) (h : SymH), s.syms[sh]? = some (some h) → h.gen < s.clock)

theorem handleWF_init : HandleWF State.init :=
  ⟨fun _ _ h => init_ctx h ▸ Nat.zero_lt_one, fun _ _ h => absurd h getElem?_replicate_none_ne,
   fun _ _ h => absurd h getElem?_replicate_none_ne, fun _ _ h => absurd h getElem?_replicate_none_ne⟩

theorem handleWF_step (s : State) (o : Op) (hw : HandleWF s) : HandleWF (step s o).1 := by
  have hc := step_call s o
  have hm := step_clock_mono s o
  refine ⟨fun c x1 h1 => ?_, hc.execs.below hm hw.1 hw.2.1, hc.exprs.below hm hw.1 hw.2.2.1, hc.syms.below hm hw.1 hw.2.2.2⟩
  obtain ⟨x, h0⟩ := step_ctx_before h1
  have hx := hw.1 c x h0
  -- the generation is kept, or is the old clock value, or is 0 in a dead slot
  cases step_ctx h0 h1 <;> omega

/-- no call of the sequence works in context `d` (evaluated along the run) -/
def untargeted (d : Nat) : State → List Op → Bool
  | _, [] => true
  | s, o :: os => !targets o s d && untargeted d (step s o).1 os

/-- the context a moved source cell lives in (an element / item below a variable of that context) -/
def movedFrom (s : State) (v : Nat) : Option Nat :=
  match liveSlot s v with
  | some (.ref r) => if refIsVarCell r then none else (match r.root with | .slot a _ => some a | _ => none)
  | _ => none

/-- `targets` for the extended calls: `rstore` works in its target context and — when it MOVES an element out of a variable
of a context — in that context too. A store that COPIES a variable of context `a` does not work in `a`. -/
def targetsX (o : XOp) (s : State) (d : Nat) : Bool :=
  match o with
  | .base b => targets b s d
  | .rstore c _ v => c == d || movedFrom s v == some d

theorem ctxs_moveOut_ne (s : State) (r : VRef) (b : Val) (d : Nat) (h : ∀ i, r.root ≠ .slot d i) :
    (moveOut s r b).ctxs[d]? = s.ctxs[d]? := by
  unfold moveOut
  split
  · split <;> simp [killBoxItems]
  · next a id hroot =>
    split
    · split
      · exact List.getElem?_set_ne fun e : a = d => h id (e ▸ hroot)
      · rfl
    · rfl
  · rfl

theorem stepX_untargeted (s : State) (o : XOp) (d : Nat) (h : targetsX o s d = false) : (stepX s o).1.ctxs[d]? = s.ctxs[d]? := by
  cases o with
  | base b => exact step_untargeted h
  | rstore c sh v =>
    simp only [targetsX, Bool.or_eq_false_iff] at h
    have hc := ne_of_beq_false h.1
    simp only [stepX]
    fun_cases opRstore s c sh v
    -- the branch in which the store succeeds (`hst`): it changes slot `c`; a move changes the slot the element lies in too
    case case3 hlive _ _ _ _ _ x' hst _ =>
      split
      · exact List.getElem?_set_ne hc
      · next hvc =>
        rw [ctxs_moveOut_ne _ _ _ _ fun i hroot => by simp [movedFrom, hlive, hvc, hroot] at h]
        exact List.getElem?_set_ne hc
    all_goals rfl

def untargetedX (d : Nat) : State → List XOp → Bool
  | _, [] => true
  | s, o :: os => !targetsX o s d && untargetedX d (stepX s o).1 os

theorem filter_getElem?_countP {α} (p : α → Bool) (l : List α) (i : Nat) (a : α) (h : l[i]? = some a) (hp : p a = true) :
    (l.filter p)[(l.take i).countP p]? = some a := by
  obtain ⟨hi, rfl⟩ := List.getElem?_eq_some_iff.1 h
  have hl : l.filter p = (l.take i).filter p ++ l[i] :: (l.drop (i + 1)).filter p := by
    rw [← List.filter_cons_of_pos hp, ← List.filter_append, ← List.drop_eq_getElem_cons hi, List.take_append_drop]
  rw [hl, List.countP_eq_length_filter, List.getElem?_append_right (Nat.le_refl _), Nat.sub_self]
  rfl

/-- where the i-th operator case, if rejected, stands in a catalog: behind the hand-written entries, among the rejected ones -/
theorem opBad_lookup {β : Type} (hand : List β) (f : OpCase → β) (i : Nat) (oc : OpCase) (h : opCases[i]? = some oc)
    (hr : oc.rejected = true) : (hand ++ (opCases.filter OpCase.rejected).map f)[opBadIndex hand.length i]? = some (f oc) := by
  unfold opBadIndex
  rw [List.getElem?_append_right (Nat.le_add_right _ _), Nat.add_sub_cancel_left, List.getElem?_map,
    filter_getElem?_countP OpCase.rejected opCases i oc h hr]
  rfl

/-- the text sent for an operator case (`opExprText`, `opProgText`): the catalog entry when the typing model rejects the
case, else made from its AST -/
theorem opText_cases {α β : Type} {oc : OpCase} {bad t : β} {good : α → β} {src : Option α}
    (h : (if oc.rejected = true then some bad else src.map good) = some t) :
    oc.rejected = true ∧ oc.accepted = false ∧ t = bad ∨ oc.accepted = true ∧ ∃ a, t = good a := by
  unfold OpCase.rejected at h ⊢
  cases ha : oc.accepted
  · rw [ha] at h
    exact .inl ⟨rfl, rfl, (Option.some.inj h).symm⟩
  · rw [ha] at h
    obtain ⟨a, -, rfl⟩ := Option.map_eq_some_iff.1 h
    exact .inr ⟨rfl, a, rfl⟩

/-- every variable the text reads is registered in `x` with the type the text was generated for -/
def _root_.BlocV.CApi.OpCase.symsOk (oc : OpCase) (x : Ctx) : Prop := ∀ p ∈ oc.vars, symTyOf x p.1 = some p.2

theorem needWalk_ok (x : Ctx) (code : Nat) : ∀ (l : List (String × Ty)), (∀ p ∈ l, symTyOf x p.1 = some p.2) →
    needWalk x code l = some code
  | [], _ => rfl
  | p :: ps, h => by
    obtain ⟨hp, h⟩ := List.forall_mem_cons.1 h
    simp only [needWalk, hp, beq_self_eq_true, ↓reduceIte]
    exact needWalk_ok x code ps h

theorem codeIn_of_symsOk (oc : OpCase) (x : Ctx) (h : oc.symsOk x) :
    oc.badExpr.codeIn x = some Gen.EXC_PARSE_TYPE_MISMATCH_S := by
  unfold BadText.codeIn
  apply needWalk_ok
  intro p hp
  apply h p
  show p ∈ oc.badExpr.needSyms
  split at hp
  · exact List.mem_of_mem_take hp
  · exact hp

end BlocV.C15
