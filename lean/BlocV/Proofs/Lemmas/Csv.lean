/-
  The csv parser against its serializer: `serialize` in closed form (`serF`, `joinTail`); `scan` as a byte-at-a-time
  automaton `step` whose `pending` flag stands for the one-byte lookahead (`scan_eq_run`); the automaton on serialized
  text (`Takes`: the state a text leads to, reached under the monitor `mon`, "no error, and every LF is consumed inside an
  encapsulated field"); and the relation `R`, blind to `first` where it cannot be read, for feeding the text line by line.
  At the end, for the plugin glue: every call of `deserializeChunk` returns, and `scan` does not read the fields already
  complete (`scan_addPre`).
-/
import BlocV.Model.Mod.Csv
import BlocV.Spec.Csv

namespace BlocV.Mod.Csv

def esc (cfg : Cfg) : Field → Field
  | [] => []
  | c :: cs => if c = cfg.enc then cfg.enc :: cfg.enc :: esc cfg cs else c :: esc cfg cs

/-- the bytes for which `serialize` sets `encap` -/
def special (cfg : Cfg) (c : UInt8) : Bool := c = cfg.enc ∨ c = cfg.sep ∨ c = CR ∨ c = LF

def needs (cfg : Cfg) (f : Field) : Bool := f.any (special cfg)

def serF (cfg : Cfg) (f : Field) : List UInt8 :=
  if needs cfg f then cfg.enc :: (esc cfg f ++ [cfg.enc]) else f

def joinTail (cfg : Cfg) : Row → List UInt8
  | [] => []
  | f :: fs => cfg.sep :: (serF cfg f ++ joinTail cfg fs)

theorem special_false {cfg : Cfg} {c : UInt8} (h : special cfg c = false) :
    c ≠ cfg.enc ∧ c ≠ cfg.sep ∧ c ≠ CR ∧ c ≠ LF := by
  simpa [special, not_or] using h

theorem needs_cons {cfg : Cfg} {c : UInt8} {cs : Field} :
    needs cfg (c :: cs) = false ↔ special cfg c = false ∧ needs cfg cs = false := by
  simp [needs]

theorem esc_of_not_needs (cfg : Cfg) (f : Field) (h : needs cfg f = false) : esc cfg f = f := by
  induction f with
  | nil => rfl
  | cons c cs ih =>
    obtain ⟨hc, hcs⟩ := needs_cons.mp h
    simp only [esc, (special_false hc).1, if_false]
    rw [ih hcs]

theorem serField_eq (cfg : Cfg) (f : Field) (e : Bool) (t : Field) :
    serField cfg f e t = (e || needs cfg f, t ++ esc cfg f) := by
  induction f generalizing e t with
  | nil => simp [serField, needs, esc]
  | cons c cs ih =>
    unfold serField
    by_cases h1 : c = cfg.enc
    · simp [h1, ih, needs, special, esc]
    · by_cases h2 : c = cfg.sep ∨ c = CR ∨ c = LF
      · simp only [h1, if_false, h2, if_true, ih]
        have : special cfg c = true := by simp [special, h2]
        simp [needs, this, esc, h1]
      · simp only [h1, if_false, h2, ih]
        have : special cfg c = false := by simp [special, h1, h2]
        simp [needs, this, esc, h1]

theorem serRow_cons (cfg : Cfg) (f : Field) (fs : Row) (first : Bool) (out : List UInt8) :
    serRow cfg (f :: fs) first out = serRow cfg fs false ((if first then out else out ++ [cfg.sep]) ++ serF cfg f) := by
  simp only [serRow, serField_eq, Bool.false_or, List.nil_append]
  by_cases h : needs cfg f
  · simp [serF, h]
  · simp [serF, h, esc_of_not_needs cfg f (by simpa using h)]

theorem serRow_false (cfg : Cfg) (row : Row) (out : List UInt8) :
    serRow cfg row false out = out ++ joinTail cfg row := by
  induction row generalizing out with
  | nil => simp [serRow, joinTail]
  | cons f fs ih => rw [serRow_cons, ih]; simp [joinTail]

theorem serialize_cons (cfg : Cfg) (f : Field) (fs : Row) :
    serialize cfg (f :: fs) = serF cfg f ++ joinTail cfg fs := by
  rw [serialize, serRow_cons, serRow_false]; rfl

theorem serialize_nil (cfg : Cfg) : serialize cfg [] = [] := rfl

theorem ser_ne_nil (cfg : Cfg) (f : Field) (fs : Row) (h : f :: fs ≠ [[]]) :
    serF cfg f ++ joinTail cfg fs ≠ [] := by
  intro he
  simp only [List.append_eq_nil_iff] at he
  obtain ⟨h1, h2⟩ := he
  cases fs with
  | cons g gs => simp [joinTail] at h2
  | nil =>
    apply h
    by_cases hn : needs cfg f
    · simp [serF, hn] at h1
    · simp [serF, hn] at h1; simp [h1]

/-- Scanner state without the position, plus `pending` = "an encapsulator was just read inside an
encapsulated field; whether it closes the field depends on the next byte". -/
structure A where
  out : Row
  value : Field
  first : Bool
  encap : Bool
  skipping : Bool
  pending : Bool
  error : Bool

/-- the body of `scan`'s loop without its lookahead: an encapsulator inside an encapsulated field is only noted as `pending` -/
def norm (cfg : Cfg) (a : A) (c : UInt8) : A :=
  if a.skipping ∧ c ≠ cfg.sep then a
  else
    if c = cfg.enc then
      if a.encap then { a with skipping := false, pending := true }
      else if !a.first then
        if stripTrailingSpaces a.value ≠ [] then
          { a with skipping := false, value := stripTrailingSpaces a.value, error := true }
        else { a with skipping := false, value := stripTrailingSpaces a.value, encap := true }
      else { a with skipping := false, encap := true }
    else if c = cfg.sep ∧ !a.encap then
      { a with skipping := false, out := a.out ++ [a.value], value := [], first := true }
    else
      { a with skipping := false, first := false,
               value := if a.encap ∨ (c ≠ LF ∧ c ≠ CR) then a.value ++ [c] else a.value }

def step (cfg : Cfg) (a : A) (c : UInt8) : A :=
  if a.error then a
  else if a.pending then
    if c = cfg.enc then { a with value := a.value ++ [c], pending := false }
    else norm cfg { a with encap := false, skipping := true, pending := false } c
  else norm cfg a c

def run (cfg : Cfg) (a : A) (s : List UInt8) : A := s.foldl (step cfg) a

/-- End of the chunk: a pending encapsulator closes the field (`pos == line.end()`). -/
def fin (a : A) : A :=
  if a.pending ∧ !a.error then { a with encap := false, skipping := true, pending := false } else a

/-- `pending := false`: `scan` holds no encapsulator back between two of its iterations -/
def toA (st : St) : A :=
  { out := st.out, value := st.value, first := st.first, encap := st.encap, skipping := st.skipping,
    pending := false, error := st.error }

@[simp] theorem run_nil (cfg : Cfg) (a : A) : run cfg a [] = a := rfl
@[simp] theorem run_cons (cfg : Cfg) (a : A) (c : UInt8) (s : List UInt8) :
    run cfg a (c :: s) = run cfg (step cfg a c) s := rfl
theorem run_append (cfg : Cfg) (a : A) (s t : List UInt8) :
    run cfg a (s ++ t) = run cfg (run cfg a s) t := by simp [run, List.foldl_append]

theorem run_error (cfg : Cfg) (a : A) (s : List UInt8) (h : a.error = true) : run cfg a s = a := by
  induction s with
  | nil => rfl
  | cons c cs ih => simp [step, h, ih]

theorem scan_eq_run (cfg : Cfg) (s : List UInt8) (st : St) (h : st.error = false) :
    toA (scan cfg s st) = fin (run cfg (toA st) s) := by
  -- in the looping cases the scanner's new state is the automaton's after the bytes consumed; `run_cons` holds by `rfl`
  fun_induction scan cfg s st with
  | case1 st => simp [toA, fin, h]
  | case2 c cs st hsk ih =>
    exact (ih h).trans (congrArg (fin <| run cfg · cs) (by simp [step, norm, toA, h, hsk]))
  | case3 st st1 hen ds hns ih =>
    have hen' : st.encap = true := hen
    exact (ih h).trans (congrArg (fin <| run cfg · ds) (by simp [step, norm, toA, h, hen', hns, st1]))
  | case4 st st1 hen d ds hd hns ih =>
    have hen' : st.encap = true := hen
    exact (ih h).trans (congrArg (fin <| run cfg · ds) (by simp [step, norm, toA, h, hen', hns, hd, st1]))
  | case5 st st1 hen hns =>
    have hen' : st.encap = true := hen
    simp [step, norm, toA, h, hen', hns, fin, st1]
  | case6 cs st st1 hen hf v hv hns =>
    have hen' : st.encap = false := Bool.eq_false_iff.mpr hen
    have hf' : st.first = false := by simpa [st1] using hf
    have hv' : stripTrailingSpaces st.value ≠ [] := hv
    have hs : step cfg (toA st) cfg.enc
        = { toA st with skipping := false, value := stripTrailingSpaces st.value, error := true } := by
      simp [step, norm, toA, h, hen', hns, hf', hv']
    rw [run_cons, hs, run_error _ _ _ rfl]
    simp [toA, fin, v, st1]
  | case7 cs st st1 hen hf v hv hns ih =>
    have hen' : st.encap = false := Bool.eq_false_iff.mpr hen
    have hf' : st.first = false := by simpa [st1] using hf
    have hv' : stripTrailingSpaces st.value = [] := by simpa [v, st1] using hv
    exact (ih h).trans (congrArg (fin <| run cfg · cs) (by simp [step, norm, toA, h, hen', hns, hf', hv', v, st1]))
  | case8 cs st st1 hen hf hns ih =>
    have hen' : st.encap = false := Bool.eq_false_iff.mpr hen
    have hf' : st.first = true := by simpa [st1] using hf
    exact (ih h).trans (congrArg (fin <| run cfg · cs) (by simp [step, norm, toA, h, hen', hns, hf', st1]))
  | case9 c cs st hns st1 hc hsep ih =>
    have hen' : st.encap = false := by simpa [st1] using hsep.2
    have hse : ¬ cfg.sep = cfg.enc := by rw [← hsep.1]; exact hc
    exact (ih h).trans (congrArg (fin <| run cfg · cs) (by simp [step, norm, toA, h, hen', hse, hsep.1, st1]))
  | case10 c cs st hns st1 hc hsep value ih =>
    have hsep' : ¬(c = cfg.sep ∧ st.encap = false) := by simpa [st1] using hsep
    exact (ih h).trans (congrArg (fin <| run cfg · cs) (by simp [step, norm, toA, h, hns, hc, hsep', st1, value]))

/-- at the start of a field, the fields `o` complete; `deserialize` starts in `clean []` -/
def clean (o : Row) : A := ⟨o, [], true, false, false, false, false⟩

/-- No error, and every LF is consumed inside an encapsulated field. -/
def mon (cfg : Cfg) : A → List UInt8 → Prop
  | _, [] => True
  | a, c :: cs =>
    (step cfg a c).error = false ∧
    (c = LF → (step cfg a c).encap = true ∧ (step cfg a c).skipping = false ∧ (step cfg a c).pending = false) ∧
    mon cfg (step cfg a c) cs

theorem mon_cons (cfg : Cfg) (a : A) (c : UInt8) (cs : List UInt8) :
    mon cfg a (c :: cs) ↔ ((step cfg a c).error = false ∧
      (c = LF → (step cfg a c).encap = true ∧ (step cfg a c).skipping = false ∧ (step cfg a c).pending = false) ∧
      mon cfg (step cfg a c) cs) := Iff.rfl

theorem mon_append (cfg : Cfg) (a : A) (s t : List UInt8) :
    mon cfg a (s ++ t) ↔ mon cfg a s ∧ mon cfg (run cfg a s) t := by
  induction s generalizing a with
  | nil => simp [mon]
  | cons c cs ih => simp [mon, ih, and_assoc]

/-- `s` takes `a` to `a'`, and does so under the monitor when neither delimiter is LF -/
def Takes (cfg : Cfg) (a : A) (s : List UInt8) (a' : A) : Prop :=
  run cfg a s = a' ∧ (cfg.enc ≠ LF → cfg.sep ≠ LF → mon cfg a s)

theorem Takes.nil (cfg : Cfg) (a : A) : Takes cfg a [] a := ⟨rfl, fun _ _ => trivial⟩

/-- one byte: its step, without error, and — if the byte can be an LF — into the inside of an encapsulated field -/
theorem Takes.cons {cfg : Cfg} {a b a' : A} {c : UInt8} {s : List UInt8} (hs : step cfg a c = b) (he : b.error = false)
    (hl : cfg.enc ≠ LF → cfg.sep ≠ LF → c = LF → b.encap = true ∧ b.skipping = false ∧ b.pending = false)
    (t : Takes cfg b s a') : Takes cfg a (c :: s) a' :=
  ⟨by rw [run_cons, hs]; exact t.1, fun h1 h2 => by rw [mon_cons, hs]; exact ⟨he, hl h1 h2, t.2 h1 h2⟩⟩

theorem Takes.append {cfg : Cfg} {a b c : A} {s t : List UInt8} (h1 : Takes cfg a s b) (h2 : Takes cfg b t c) :
    Takes cfg a (s ++ t) c :=
  ⟨by rw [run_append, h1.1]; exact h2.1, fun e1 e2 => by rw [mon_append, h1.1]; exact ⟨h1.2 e1 e2, h2.2 e1 e2⟩⟩

theorem takes_plain (cfg : Cfg) (f : Field) (hf : needs cfg f = false) (o : Row) (v : Field) (fst : Bool) :
    ∃ fst', Takes cfg ⟨o, v, fst, false, false, false, false⟩ f ⟨o, v ++ f, fst', false, false, false, false⟩ := by
  induction f generalizing v fst with
  | nil => exact ⟨fst, by simpa using Takes.nil cfg _⟩
  | cons c cs ih =>
    obtain ⟨hc, hcs⟩ := needs_cons.mp hf
    obtain ⟨h1, h2, h3, h4⟩ := special_false hc
    have hs : step cfg ⟨o, v, fst, false, false, false, false⟩ c = ⟨o, v ++ [c], false, false, false, false, false⟩ := by
      simp [step, norm, h1, h2, h3, h4]
    obtain ⟨fst', t⟩ := ih hcs (v ++ [c]) false
    exact ⟨fst', by simpa using Takes.cons hs rfl (fun _ _ h => absurd h h4) t⟩

/-- inside an encapsulated field an encapsulator is held back: the next byte decides what it was -/
theorem step_enc_inside (cfg : Cfg) (o : Row) (v : Field) (fst : Bool) :
    step cfg ⟨o, v, fst, true, false, false, false⟩ cfg.enc = ⟨o, v, fst, true, false, true, false⟩ := by
  simp [step, norm]

theorem takes_esc (cfg : Cfg) (f : Field) (o : Row) (v : Field) (fst : Bool) :
    ∃ fst', Takes cfg ⟨o, v, fst, true, false, false, false⟩ (esc cfg f) ⟨o, v ++ f, fst', true, false, false, false⟩ := by
  induction f generalizing v fst with
  | nil => exact ⟨fst, by simpa [esc] using Takes.nil cfg _⟩
  | cons c cs ih =>
    by_cases hc : c = cfg.enc
    · have hs2 : step cfg ⟨o, v, fst, true, false, true, false⟩ cfg.enc = ⟨o, v ++ [cfg.enc], fst, true, false, false, false⟩ := by
        simp [step]
      obtain ⟨fst', t⟩ := ih (v ++ [cfg.enc]) fst
      have := Takes.cons (step_enc_inside cfg o v fst) rfl (fun hl _ h => absurd h hl)
        (Takes.cons hs2 rfl (fun hl _ h => absurd h hl) t)
      exact ⟨fst', by simpa [esc, hc] using this⟩
    · have hs : step cfg ⟨o, v, fst, true, false, false, false⟩ c = ⟨o, v ++ [c], false, true, false, false, false⟩ := by
        simp [step, norm, hc]
      obtain ⟨fst', t⟩ := ih (v ++ [c]) false
      exact ⟨fst', by simpa [esc, hc] using Takes.cons hs rfl (fun _ _ _ => ⟨rfl, rfl, rfl⟩) t⟩

theorem takes_serF (cfg : Cfg) (f : Field) (o : Row) :
    ∃ fst', Takes cfg (clean o) (serF cfg f) ⟨o, f, fst', needs cfg f, false, needs cfg f, false⟩ := by
  by_cases hn : needs cfg f
  · obtain ⟨fst', t⟩ := takes_esc cfg f o [] true
    have hs0 : step cfg (clean o) cfg.enc = ⟨o, [], true, true, false, false, false⟩ := by
      simp [step, norm, clean]
    have hser : serF cfg f = cfg.enc :: (esc cfg f ++ [cfg.enc]) := by simp [serF, hn]
    rw [hser, hn]
    exact ⟨fst', .cons hs0 rfl (fun hl _ h => absurd h hl) (t.append (.cons (step_enc_inside ..) rfl (fun hl _ h => absurd h hl) (.nil ..)))⟩
  · have hn' : needs cfg f = false := by simpa using hn
    obtain ⟨fst', t⟩ := takes_plain cfg f hn' o [] true
    have hser : serF cfg f = f := by simp [serF, hn']
    rw [hser, hn']
    exact ⟨fst', by simpa [clean] using t⟩

theorem takes_field_sep (cfg : Cfg) (hne : cfg.sep ≠ cfg.enc) (f : Field) (o : Row) :
    Takes cfg (clean o) (serF cfg f ++ [cfg.sep]) (clean (o ++ [f])) := by
  obtain ⟨fst', t⟩ := takes_serF cfg f o
  have hs : step cfg ⟨o, f, fst', needs cfg f, false, needs cfg f, false⟩ cfg.sep = clean (o ++ [f]) := by
    cases needs cfg f <;> simp [step, norm, hne, clean]
  exact t.append (.cons hs rfl (fun _ hsl h => absurd h hsl) (.nil ..))

/-- What the client sees at the end of a chunk. -/
def callOfA (a : A) : Option (Bool × Row) := if a.error then none else some (a.encap, a.out ++ [a.value])

theorem takes_row (cfg : Cfg) (hne : cfg.sep ≠ cfg.enc) (fs : Row) (f : Field) (o : Row) :
    ∃ a, Takes cfg (clean o) (serF cfg f ++ joinTail cfg fs) a ∧ callOfA (fin a) = some (false, o ++ f :: fs) := by
  induction fs generalizing f o with
  | nil =>
    obtain ⟨fst', t⟩ := takes_serF cfg f o
    exact ⟨_, by simpa [joinTail] using t, by cases needs cfg f <;> simp [fin, callOfA]⟩
  | cons g gs ih =>
    obtain ⟨a, t, e⟩ := ih g (o ++ [f])
    have := (takes_field_sep cfg hne f o).append t
    exact ⟨a, by simpa [joinTail] using this, by simpa using e⟩

theorem finish_toCall (st : St) : (finish {} st).toCall = callOfA (toA st) := by
  unfold finish callOfA
  by_cases h : st.error <;> simp [h, Outcome.toCall, toA]

theorem callFirst_eq (cfg : Cfg) (l : List UInt8) (hl : l ≠ []) :
    callFirst cfg l = callOfA (fin (run cfg (clean []) l)) := by
  cases l with
  | nil => exact absurd rfl hl
  | cons x xs =>
    simp only [callFirst, deserialize, deserializeChunk, Bool.false_eq_true, false_and, if_false]
    rw [finish_toCall, scan_eq_run _ _ _ rfl]; rfl

theorem callFirst_nil (cfg : Cfg) : callFirst cfg [] = some (false, []) := by
  simp [callFirst, deserialize, deserializeChunk, Outcome.toCall]

/-- what the client sees of `deserialize` decides the call for every parser: the error members are not read, only reset -/
theorem deserialize_of_callFirst (cfg : Cfg) (ps : PState) (l : List UInt8) {n : Bool} {o : Row}
    (h : callFirst cfg l = some (n, o)) : deserialize cfg ps l = .done n o { ps with error := false } := by
  cases l with
  | nil => cases (callFirst_nil cfg).symm.trans h; rfl
  | cons x xs =>
    simp only [callFirst, deserialize, deserializeChunk, Bool.false_eq_true, false_and, if_false, finish] at h ⊢
    split
    · rename_i he; simp [he, Outcome.toCall] at h
    · rename_i he
      simp only [he, Outcome.toCall, Bool.false_eq_true, if_false] at h
      cases h; rfl

/-- The state `deserialize_next` rebuilds from the field vector. -/
def resume (t : A) : A := ⟨t.out, t.value, true, true, false, false, false⟩

/-- `deserialize_next` on a non-empty line continues the last field, inside an encapsulation -/
theorem deserializeNext_concat (cfg : Cfg) (ps : PState) (o : Row) (v : Field) (x : UInt8) (xs : List UInt8) :
    deserializeNext cfg ps (o ++ [v]) (x :: xs)
      = finish ps (scan cfg (x :: xs) { out := o, value := v, first := true, encap := true }) := by
  simp [deserializeNext, deserializeChunk]

theorem callNext_eq (cfg : Cfg) (t : A) (l : List UInt8) (hl : l ≠ []) :
    callNext cfg (t.out ++ [t.value]) l = callOfA (fin (run cfg (resume t) l)) := by
  cases l with
  | nil => exact absurd rfl hl
  | cons x xs => rw [callNext, deserializeNext_concat, finish_toCall, scan_eq_run _ _ _ rfl]; rfl

/-- Equal up to `first`, which may differ while it cannot be read (inside an encapsulated field or
while skipping to the separator). -/
def R (a a' : A) : Prop :=
  a.out = a'.out ∧ a.value = a'.value ∧ a.encap = a'.encap ∧ a.skipping = a'.skipping ∧
  a.pending = a'.pending ∧ a.error = a'.error ∧ (a.first = a'.first ∨ a.encap = true ∨ a.skipping = true)

theorem R_refl (a : A) : R a a := ⟨rfl, rfl, rfl, rfl, rfl, rfl, Or.inl rfl⟩

/-- `norm` reads `first` only for an encapsulator outside an encapsulated field, and only when it is not skipping (or the
byte is the separator, which is not the encapsulator) -/
theorem R_norm (cfg : Cfg) (hne : cfg.sep ≠ cfg.enc) (a a' : A) (c : UInt8) (h : R a a') :
    R (norm cfg a c) (norm cfg a' c) := by
  obtain ⟨o, v, f, e, sk, p, er⟩ := a
  obtain ⟨o', v', f', e', sk', p', er'⟩ := a'
  obtain ⟨h1, h2, h3, h4, h5, h6, h7⟩ := h
  simp only at h1 h2 h3 h4 h5 h6 h7
  subst h1 h2 h3 h4 h5 h6
  have hne' : ¬ cfg.enc = cfg.sep := fun h => hne h.symm
  rcases h7 with rfl | rfl | rfl
  · exact R_refl _
  · cases sk <;> by_cases hc : c = cfg.enc <;> by_cases hs : c = cfg.sep <;> simp_all [R, norm]
  · by_cases hs : c = cfg.sep
    · cases e <;> simp_all [R, norm]
    · simp [R, norm, hs]

theorem R_step (cfg : Cfg) (hne : cfg.sep ≠ cfg.enc) (a a' : A) (c : UInt8) (h : R a a') :
    R (step cfg a c) (step cfg a' c) := by
  have h' := h
  obtain ⟨h1, h2, h3, h4, h5, h6, h7⟩ := h'
  unfold step
  rw [← h5, ← h6]
  by_cases he : a.error = true
  · rw [if_pos he, if_pos he]; exact h
  · rw [if_neg he, if_neg he]
    by_cases hp : a.pending = true
    · rw [if_pos hp, if_pos hp]
      by_cases hc : c = cfg.enc
      · rw [if_pos hc, if_pos hc]; exact ⟨h1, by simp only [h2], h3, h4, rfl, rfl, h7⟩
      · rw [if_neg hc, if_neg hc]
        exact R_norm cfg hne _ _ c ⟨h1, h2, rfl, rfl, rfl, rfl, Or.inr (Or.inr rfl)⟩
    · rw [if_neg hp, if_neg hp]; exact R_norm cfg hne a a' c h

theorem callOfA_fin_R {a a' : A} (h : R a a') : callOfA (fin a') = callOfA (fin a) := by
  obtain ⟨o, v, f, e, sk, p, er⟩ := a
  obtain ⟨o', v', f', e', sk', p', er'⟩ := a'
  obtain ⟨h1, h2, h3, h4, h5, h6, _⟩ := h
  simp only at h1 h2 h3 h4 h5 h6
  subst h1 h2 h3 h4 h5 h6
  cases p <;> cases er <;> simp [fin, callOfA]

/-- a chunk that ends inside an encapsulated field: the call asks for more -/
theorem callOfA_fin_encap {t : A} (he : t.error = false) (hen : t.encap = true) (hp : t.pending = false) :
    callOfA (fin t) = some (true, t.out ++ [t.value]) := by
  simp [fin, callOfA, he, hen, hp]

open BlocV.Spec.Csv in
theorem splitAfterLF_cons (c : UInt8) (cs : List UInt8) : ∃ l ls, splitAfterLF (c :: cs) = (c :: l) :: ls := by
  unfold splitAfterLF
  split
  · exact ⟨_, _, rfl⟩
  · split <;> exact ⟨_, _, rfl⟩

open BlocV.Spec.Csv in
theorem splitAfterLF_eq_nil {s : List UInt8} (h : splitAfterLF s = []) : s = [] := by
  cases s with
  | nil => rfl
  | cons c cs => obtain ⟨l, ls, e⟩ := splitAfterLF_cons c cs; cases e.symm.trans h

open BlocV.Spec.Csv in
theorem splitAfterLF_head_ne_nil {s l : List UInt8} {ls : List (List UInt8)} (h : splitAfterLF s = l :: ls) : l ≠ [] := by
  cases s with
  | nil => cases h
  | cons c cs => obtain ⟨l', ls', e⟩ := splitAfterLF_cons c cs; cases e.symm.trans h; exact List.cons_ne_nil _ _

open BlocV.Spec.Csv in
theorem feedMore_nil (next : Row → List UInt8 → Call) (r : Call) : feedMore next r [] = (r, []) := by
  unfold feedMore
  split
  · rename_i h; simp at h
  · rfl

open BlocV.Spec.Csv in
/-- Feeding the lines of `s` one by one — restarting from the field vector after every line — ends in
the same result as scanning `s` in one piece, provided every LF of `s` lies inside an encapsulated
field (`mon`). -/
theorem feedMore_eq_run (cfg : Cfg) (hne : cfg.sep ≠ cfg.enc) (s : List UInt8) :
    ∀ (a a' : A), R a a' → mon cfg a s → ∀ l1 ls, splitAfterLF s = l1 :: ls →
      feedMore (callNext cfg) (callOfA (fin (run cfg a' l1))) ls = (callOfA (fin (run cfg a s)), []) := by
  induction s with
  | nil => intro a a' _ _ l1 ls h; simp [splitAfterLF] at h
  | cons c cs ih =>
    intro a a' hR hm l1 ls hsp
    obtain ⟨herr, hlf, hmon⟩ := (mon_cons ..).mp hm
    have hR' := R_step cfg hne a a' c hR
    cases hcs : splitAfterLF cs with
    | nil =>
      cases splitAfterLF_eq_nil hcs
      cases hsp.symm.trans (show splitAfterLF [c] = [[c]] by simp [splitAfterLF])
      rw [feedMore_nil]; exact congrArg (·, []) (callOfA_fin_R hR')
    | cons l2 ls2 =>
      rw [splitAfterLF, hcs] at hsp
      by_cases hc : c = 0x0a
      · -- the line ends here, inside an encapsulated field: the call asks for more and the next one resumes
        rw [if_pos hc] at hsp; cases hsp
        obtain ⟨hen, hsk, hpe⟩ := hlf hc
        show feedMore _ (callOfA (fin (step cfg a' c))) _ = _
        rw [callOfA_fin_R hR', callOfA_fin_encap herr hen hpe, feedMore, callNext_eq cfg _ l2 (splitAfterLF_head_ne_nil hcs)]
        exact ih (step cfg a c) (resume (step cfg a c)) ⟨rfl, rfl, hen, hsk, hpe, herr, Or.inr (Or.inl hen)⟩ hmon _ _ hcs
      · rw [if_neg hc] at hsp; cases hsp
        exact ih _ _ hR' hmon _ _ hcs

/-- every call returns: `back()` / `pop_back()` are never applied to an empty vector -/
theorem deserializeChunk_done (cfg : Cfg) (ps : PState) (next : Bool) (out : Row) (line : List UInt8) :
    ∃ n o p, deserializeChunk cfg ps next out line = .done n o p := by
  unfold deserializeChunk
  cases line with
  | nil => exact ⟨_, _, _, rfl⟩
  | cons x xs =>
    simp only []
    split
    · rename_i h
      cases hq : out.getLast? with
      | none => exact absurd (List.getLast?_eq_none_iff.mp hq) h.2
      | some v => simp only [finish]; split <;> exact ⟨_, _, _, rfl⟩
    · simp only [finish]; split <;> exact ⟨_, _, _, rfl⟩

/-- `out.clear()` happens only together with `m_error = true`: a call on a non-empty line that leaves no field has failed -/
theorem deserializeChunk_out {cfg : Cfg} {ps : PState} {next : Bool} {out : Row} {x : UInt8} {xs : List UInt8} {n : Bool}
    {o : Row} {p : PState} (h : deserializeChunk cfg ps next out (x :: xs) = .done n o p) : o ≠ [] ∨ p.error = true := by
  have key : ∀ st, finish ps st = .done n o p → o ≠ [] ∨ p.error = true := by
    intro st hf
    unfold finish at hf
    split at hf
    · injection hf with _ _ e; exact Or.inr (e ▸ rfl)
    · injection hf with _ e _; exact Or.inl (e ▸ by simp)
  unfold deserializeChunk at h
  simp only [] at h
  split at h
  · split at h
    · cases h
    · exact key _ h
  · exact key _ h

def addPre (pre : Row) (st : St) : St := { st with out := pre ++ st.out }

/-- Each case of `scan` is one unfolding (`scan.eq_2`) followed by the tests that select the branch; the tests do not read `out`. -/
theorem scan_addPre (cfg : Cfg) (pre : Row) (l : List UInt8) (st : St) :
    scan cfg l (addPre pre st) = addPre pre (scan cfg l st) := by
  fun_induction scan cfg l st
  case case1 => rfl
  case case2 c cs st h ih => exact (scan.eq_2 cfg _ c cs).trans ((if_pos h).trans ih)
  case case3 st st1 he ds h ih =>
    exact (scan.eq_2 cfg _ _ _).trans ((if_neg h).trans ((if_pos rfl).trans ((if_pos he).trans ((if_pos rfl).trans ih))))
  case case4 st st1 he d ds hd h ih =>
    exact (scan.eq_2 cfg _ _ _).trans ((if_neg h).trans ((if_pos rfl).trans ((if_pos he).trans ((if_neg hd).trans ih))))
  case case5 st st1 he h =>
    exact (scan.eq_2 cfg _ _ _).trans ((if_neg h).trans ((if_pos rfl).trans (if_pos he)))
  case case6 cs st st1 he hf v hv h =>
    exact (scan.eq_2 cfg _ _ _).trans
      ((if_neg h).trans ((if_pos rfl).trans ((if_neg he).trans ((if_pos hf).trans (if_pos hv)))))
  case case7 cs st st1 he hf v hv h ih =>
    exact (scan.eq_2 cfg _ _ _).trans
      ((if_neg h).trans ((if_pos rfl).trans ((if_neg he).trans ((if_pos hf).trans ((if_neg hv).trans ih)))))
  case case8 cs st st1 he hf h ih =>
    exact (scan.eq_2 cfg _ _ _).trans ((if_neg h).trans ((if_pos rfl).trans ((if_neg he).trans ((if_neg hf).trans ih))))
  case case9 c cs st h st1 hc hs ih =>
    refine (scan.eq_2 cfg _ _ _).trans ((if_neg h).trans ((if_neg hc).trans ((if_pos hs).trans ?_)))
    rw [← ih]; simp only [addPre, List.append_assoc]; rfl
  case case10 c cs st h st1 hc hs v ih =>
    exact (scan.eq_2 cfg _ _ _).trans ((if_neg h).trans ((if_neg hc).trans ((if_neg hs).trans ih)))

end BlocV.Mod.Csv
