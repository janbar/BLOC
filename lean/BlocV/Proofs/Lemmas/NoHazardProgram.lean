/-
  For C01 (whole programs and whole texts). Programs: from `Parser::parse`'s acceptance of a whole program (`lockProgram`,
  Model/Interp.lean) and the well-formedness of its literals (`litProgram`) to the hypotheses of `nh_all`, and so to `runProgram`
  (`run_nb`). Texts: every literal the elaborator (Model/Elab.lean) emits is a scalar or a typed null (`elabBlock_lit`, by mutual
  structural induction over `elabExpr` … `elabCatches`, each node by the rules `em_pure` / `em_bind` / `em_ite` / `em_unsup` for what a
  computation of the elaborator returns), and so to `Stepwise.runText` (`runText_nb`).
-/
import BlocV.Proofs.Lemmas.NoHazardExec
import BlocV.Proofs.Lemmas.InterpEqns
import BlocV.Model.Stepwise
namespace BlocV.NHI
open BlocV.Lemmas BlocV.Parse BlocV.Elab
variable {sub : Bool} {bad : Hazard → Bool}

/-- the literals of a whole program, function bodies included -/
def litProgram (sub : Bool) (prog : List Stmt) : Bool :=
  prog.all fun st => match st with
    | .funcS _ _ _ body catches => litL sub body && litCatches sub catches
    | st => litS sub st

theorem mem_addFunc {fs : List Func} {f g : Func} (h : g ∈ addFunc fs f) : g = f ∨ g ∈ fs := by
  unfold addFunc at h
  split at h
  · simp only [List.mem_map] at h
    obtain ⟨x, hx, e⟩ := h
    split at e
    · exact .inl e.symm
    · exact .inr (e ▸ hx)
  · simp only [List.mem_append, List.mem_singleton] at h
    rcases h with h | h
    · exact .inr h
    · exact .inl h

theorem funcsOk_collect {prog : List Stmt} (hl : lockProgram prog = true) (hv : litProgram sub prog = true) : FuncsOk sub (collectFuncs prog) := by
  unfold collectFuncs
  refine List.foldlRecOn (motive := FuncsOk sub) prog _ (fun _ h => by cases h) fun fs hfs st hst => ?_
  have h1 := List.all_eq_true.1 hl st hst
  have h2 := List.all_eq_true.1 hv st hst
  split
  · intro g hg
    rcases mem_addFunc hg with rfl | hg
    · simp only [Bool.and_eq_true] at h1 h2
      exact ⟨h1.1, h1.2, h2.1, h2.2⟩
    · exact hfs g hg
  · exact hfs

theorem lockL_of_program {prog : List Stmt} (h : lockProgram prog = true) : lockL [] prog = true := by
  rw [lockL_eq_all]
  refine List.all_eq_true.2 fun st hst => ?_
  have := List.all_eq_true.1 h st hst
  cases st
  case funcS => simp [lockS]
  all_goals exact this

/-- a function declaration counts the same wherever it stands: `litS` of a `funcS` is what `litProgram` asks of it -/
theorem litProgram_eq_litL (prog : List Stmt) : litProgram sub prog = litL sub prog := by
  rw [litL_eq_all]
  refine List.all_congr rfl fun st => ?_
  cases st
  case funcS => simp only [litS]
  all_goals rfl

theorem okVars_declVars (ds : List (String × Ty)) {vs : List (String × Val)} (h : ∀ p ∈ vs, okVal p.2 = true) :
    ∀ p ∈ ds.foldl (fun vs (x : String × Ty) => if vs.any (·.1 == x.1) then vs else vs ++ [(x.1, Val.null x.2)]) vs, okVal p.2 = true := by
  refine List.foldlRecOn (motive := fun vs : List (String × Val) => ∀ p ∈ vs, okVal p.2 = true) ds _ h fun vs hvs x _ q hq => ?_
  split at hq
  · exact hvs q hq
  · rcases List.mem_append.1 hq with hq | hq
    · exact hvs q hq
    · rw [List.mem_singleton.1 hq]; exact okVal_null _

/-- `runProgram`: `Parser::parse`'s function table and symbol slots, then `Executable::run` -/
theorem run_nb (hb : bad .signedOverflow = false ∨ sub = false) (fuel : Nat) (prog : List Stmt) (init : St)
    (hl : lockProgram prog = true) (hv : litProgram sub prog = true) (hs : WfSt init) (hi : init.iters = []) :
    nb bad (runProgram fuel prog init).outcome ∧ WfSt (runProgram fuel prog init).st := by
  have nil : ∀ b, b ∉ (progInit prog init).iters := fun b hb => by rw [show (progInit prog init).iters = [] from hi] at hb; cases hb
  have hinit : Inv [] (progInit prog init) :=
    ⟨⟨okVars_declVars _ hs.vars, hs.ret, hs.priv, fun b hb => absurd hb (nil b), hs.nodup⟩, fun b hb => absurd hb (nil b)⟩
  have h : Post bad (Inv []) (fun _ => True) _ := (nh_all hb (collectFuncs prog) (funcsOk_collect hl hv) fuel).execList [] 0 prog
    (lockL_of_program hl) (litProgram_eq_litL prog ▸ hv) _ hinit
  obtain ⟨ho, hst⟩ := runProgram_eq_execList fuel prog init
  rw [ho, hst]
  refine ⟨fun x e => h.1 x ?_, h.2.1.1⟩
  unfold outcomeOf at e
  split at e <;> cases e
  assumption

theorem em_pure {α} {Q : α → Prop} {a : α} (h : Q a) : ∀ b, (pure a : EM α) = .ok b → Q b := fun _ e => Except.ok.inj e ▸ h

theorem em_unsup {α} {Q : α → Prop} {w : String} : ∀ b, (unsup w : EM α) = .ok b → Q b := nofun

theorem em_bind {α β} {P : α → Prop} {Q : β → Prop} {x : EM α} {f : α → EM β} (hx : ∀ a, x = .ok a → P a)
    (hf : ∀ a, P a → ∀ b, f a = .ok b → Q b) : ∀ b, (x >>= f) = .ok b → Q b := fun b h => by
  cases x with
  | error e => cases h
  | ok a => exact hf a (hx a rfl) b h

theorem em_ite {α} {Q : α → Prop} {c : Prop} [Decidable c] {x y : EM α} (hx : ∀ b, x = .ok b → Q b) (hy : ∀ b, y = .ok b → Q b) :
    ∀ b, (if c then x else y) = .ok b → Q b := by
  split
  · exact hx
  · exact hy

theorem elabKw_lit (k : Bytes) : ∀ e, elabKw k = .ok e → litE true e = true := by
  unfold elabKw
  iterate 4 refine em_ite (em_pure (by simp [litE])) ?_
  exact em_unsup

theorem elabCall_lit (name : String) (args : List Expr) (ha : litEs true args = true) : ∀ e, elabCall name args = .ok e → litE true e = true := by
  unfold elabCall
  split
  · exact em_pure (by simp [litE])
  · exact em_ite (em_pure (by simp [litE, ha])) em_unsup

mutual
  theorem elabExpr_lit : ∀ (p : PExpr) (e : Expr), elabExpr p = .ok e → litE true e = true
    | .int _ => em_pure (by simp [litE])
    | .num _ => em_pure (by simp [litE])
    | .str _ => em_pure (by simp [litE])
    | .var _ => em_pure (by simp [litE])
    | .kw k => elabKw_lit k
    | .call n args => em_bind (elabArgs_lit args) fun xs hx => elabCall_lit _ xs hx
    | .fcall n args => em_bind (elabArgs_lit args) fun xs hx => em_pure (by simp [litE, hx])
    | .member r n args => em_bind (elabExpr_lit r) fun x hx => em_bind (elabArgs_lit args) fun xs hxs => by
      split
      · exact em_pure (by simp [litE, hx, hxs])
      · exact em_unsup
    | .setm _ _ _ => em_unsup
    | .item r no => em_bind (elabExpr_lit r) fun x hx => em_pure (by simp [litE, hx])
    | .un op _ a => em_bind (elabExpr_lit a) fun x hx => em_pure (by simp [litE, hx])
    | .bin op _ a b => em_bind (P := fun _ => True) (fun _ _ => trivial) fun o _ => em_bind (elabExpr_lit a) fun x hx =>
      em_bind (elabExpr_lit b) fun y hy => em_pure (by simp [litE, hx, hy])
  theorem elabArgs_lit : ∀ (ps : List PExpr) (es : List Expr), elabArgs ps = .ok es → litEs true es = true
    | [] => em_pure (by simp [litEs])
    | a :: as => em_bind (elabExpr_lit a) fun x hx => em_bind (elabArgs_lit as) fun xs hxs => em_pure (by simp [litEs, hx, hxs])
end

theorem elabOpt_lit : ∀ (o : Option PExpr) (r : Option Expr), elabOpt o = .ok r →
    (match r with | some x => litE true x | none => true) = true
  | none => em_pure rfl
  | some e => em_bind (elabExpr_lit e) fun _ hx => em_pure hx

theorem litL_append (a b : List Stmt) : litL sub (a ++ b) = (litL sub a && litL sub b) := by
  simp only [litL_eq_all, List.all_append]

theorem litRules_append (a b : List (Option Expr × List Stmt)) : litRules sub (a ++ b) = (litRules sub a && litRules sub b) := by
  induction a with
  | nil => simp [litRules]
  | cons x xs ih => obtain ⟨c, body⟩ := x; simp [litRules, ih, Bool.and_assoc]

mutual
  theorem elabStmt_lit : ∀ (p : PStmt) (l : List Stmt), elabStmt p = .ok l → litL true l = true
    | .nop => em_pure (by simp [litL, litS])
    | .brk => em_pure (by simp [litL, litS])
    | .cont => em_pure (by simp [litL, litS])
    | .trace _ => em_unsup
    | .ret e => em_bind (elabOpt_lit e) fun x hx => em_pure (by cases x <;> simp_all [litL, litS])
    | .letS n e nx => em_bind (elabExpr_lit e) fun x hx => em_bind (elabNext_lit nx) fun r hr => em_pure (by simp [litL, litS, hx, hr])
    | .letn _ _ _ => em_unsup
    | .print args => em_bind (elabArgs_lit args) fun xs hx => em_pure (by simp [litL, litS, hx])
    | .put _ => em_unsup
    | .doS e => em_bind (elabExpr_lit e) fun x hx => em_pure (by simp [litL, litS, hx])
    | .raise _ => em_pure (by simp [litL, litS])
    | .ifS rules none => em_bind (elabRules_lit rules) fun rs h1 => em_pure (by simp [litL, litS, h1])
    | .ifS rules (some b) => em_bind (elabRules_lit rules) fun rs h1 => em_bind (elabBlock_lit b) fun eb heb =>
      em_pure (by simp [litL, litS, litRules_append, litRules, h1, heb])
    | .whileS c body => em_bind (elabExpr_lit c) fun x hx => em_bind (elabBlock_lit body) fun b hb => em_pure (by simp [litL, litS, hx, hb])
    | .forS v b e step dir body => em_bind (elabExpr_lit b) fun x h1 => em_bind (elabExpr_lit e) fun y h2 =>
      em_bind (elabOpt_lit step) fun s hst => em_bind (elabBlock_lit body) fun bd h3 => em_pure (by cases s <;> simp_all [litL, litS])
    | .forall v e dir body => em_bind (elabExpr_lit e) fun x hx => em_bind (elabBlock_lit body) fun bd hbd =>
      em_pure (by simp [litL, litS, hx, hbd])
    | .begin body catches => em_bind (elabBlock_lit body) fun b hb => em_bind (elabCatches_lit catches) fun cs hcs =>
      em_pure (by simp [litL, litS, hb, hcs])
    | .func n params rt body catches => em_bind (P := fun _ => True) (fun _ _ => trivial) fun ps _ =>
      em_bind (P := fun _ => True) (fun _ _ => trivial) fun r _ => em_bind (elabBlock_lit body) fun b hb =>
      em_bind (elabCatches_lit catches) fun cs hcs => em_pure (by simp [litL, litS, hb, hcs])
  theorem elabNext_lit : ∀ (p : Option PStmt) (l : List Stmt), elabNext p = .ok l → litL true l = true
    | none => em_pure (by simp [litL])
    | some s => elabStmt_lit s
  theorem elabBlock_lit : ∀ (ps : List PStmt) (l : List Stmt), elabBlock ps = .ok l → litL true l = true
    | [] => em_pure (by simp [litL])
    | s :: ss => em_bind (elabStmt_lit s) fun x hx => em_bind (elabBlock_lit ss) fun xs hxs => em_pure (by simp [litL_append, hx, hxs])
  theorem elabRules_lit : ∀ (rs : List (PExpr × List PStmt)) (l : List (Option Expr × List Stmt)), elabRules rs = .ok l → litRules true l = true
    | [] => em_pure (by simp [litRules])
    | (c, b) :: rs => em_bind (elabExpr_lit c) fun x hx => em_bind (elabBlock_lit b) fun y hy => em_bind (elabRules_lit rs) fun r hr =>
      em_pure (by simp [litRules, hx, hy, hr])
  theorem elabCatches_lit : ∀ (cs : List (Bytes × List PStmt)) (l : List (String × List Stmt)), elabCatches cs = .ok l → litCatches true l = true
    | [] => em_pure (by simp [litCatches])
    | (n, b) :: cs => em_bind (elabBlock_lit b) fun y hy => em_bind (elabCatches_lit cs) fun r hr => em_pure (by simp [litCatches, hy, hr])
end

theorem frontEnd_lit (src : Bytes) (prog : List Stmt) (h : frontEnd src = .ok (.ok prog)) : litProgram true prog = true := by
  unfold frontEnd at h
  split at h
  · cases h
  · rename_i p _
    simp only [Except.ok.injEq] at h
    exact (litProgram_eq_litL prog).trans (elabBlock_lit p prog h)

/-- `Stepwise.runBatch` from the initial state: a hazard can only come out of `runProgram`, which is reached only by a program the
lock test accepted -/
theorem runBatch_nb (hb : bad .signedOverflow = false ∨ sub = false) (fuel : Nat) (prog : List Stmt) (hv : litProgram sub prog = true)
    (h : Hazard) (hh : (Stepwise.runBatch fuel prog).outcome = .ran (.haz h)) : bad h = false := by
  unfold Stepwise.runBatch at hh
  dsimp only at hh
  split at hh
  · cases hh
  · split at hh
    · cases hh
    · split at hh
      · cases hh
      · rename_i hlock
        have hl : lockProgram prog = true := by simpa using hlock
        simp only [Stepwise.Outcome.ran.injEq] at hh
        exact (run_nb hb fuel prog {} hl hv wfSt_init rfl).1 h hh

theorem runText_nb (hb : bad .signedOverflow = false ∨ sub = false) (fuel : Nat) (src : Bytes)
    (hv : ∀ prog, frontEnd src = .ok (.ok prog) → litProgram sub prog = true)
    (r : Stepwise.Result) (hr : Stepwise.runText fuel src = .ran r) (h : Hazard) (hh : r.outcome = .ran (.haz h)) : bad h = false := by
  unfold Stepwise.runText at hr
  split at hr
  · cases hr
  · cases hr
  · rename_i prog hfe
    simp only [Stepwise.TextResult.ran.injEq] at hr
    subst hr
    exact runBatch_nb hb fuel prog (hv prog hfe) h hh
end BlocV.NHI
