/-
  The invariant of the handle reference counter (Model/Plugin.lean, part H) and its preservation by the primitive
  state changes out of which every operation of complex.cpp is composed; the ownership invariant of the store level
  (part S): every handle not yet destructed belongs to a live context; once no handle is left, a store-level operation
  other than a construction changes no handle (`sstep_quiescent`).
-/
import BlocV.Model.Plugin

namespace BlocV.Proofs.Handle
open BlocV.Plugin BlocV.Plugin.H

/-- The invariant: handles only point to created objects; the counter of a not yet destroyed object equals the number
of live handles sharing it, is positive, and the module has not been asked to destroy it; a destroyed object has no
handle left and was destroyed exactly once. -/
structure Inv (s : HState) : Prop where
  bound : ∀ o, Slot.ref o ∈ s.slots → o < s.nobj
  live : ∀ o, o < s.nobj → s.freed o = false → s.cnt o = (refs s o : Int) ∧ 0 < refs s o ∧ s.destroyed o = 0
  dead : ∀ o, o < s.nobj → s.freed o = true → refs s o = 0 ∧ s.destroyed o = 1

theorem getElem?_lt {α : Type} {l : List α} {i : Nat} {c : α} (h : l[i]? = some c) : i < l.length :=
  (List.getElem?_eq_some_iff.mp h).1

theorem refs_pos {s : HState} {o : Nat} : 0 < refs s o ↔ Slot.ref o ∈ s.slots := List.count_pos_iff

theorem init_inv : Inv HState.init :=
  ⟨fun _ h => (nomatch h), fun _ h => absurd h (Nat.not_lt_zero _), fun _ h => absurd h (Nat.not_lt_zero _)⟩

theorem Inv.of_mem {s : HState} (hi : Inv s) {o : Nat} (hm : Slot.ref o ∈ s.slots) :
    o < s.nobj ∧ s.freed o = false ∧ s.cnt o = (refs s o : Int) ∧ 0 < refs s o ∧ s.destroyed o = 0 := by
  have ho := hi.bound o hm
  cases hf : s.freed o with
  | false => exact ⟨ho, rfl, hi.live o ho hf⟩
  | true => have := (hi.dead o ho hf).1; have := refs_pos.mpr hm; omega

theorem Inv.destroyed_iff {s : HState} (hi : Inv s) {o : Nat} (ho : o < s.nobj) :
    s.destroyed o ≤ 1 ∧ (s.destroyed o = 1 ↔ s.freed o = true) ∧ (s.destroyed o = 1 ↔ refs s o = 0) := by
  cases hf : s.freed o with
  | false => obtain ⟨_, h2, h3⟩ := hi.live o ho hf; exact ⟨by omega, by simp [h3], by omega⟩
  | true => obtain ⟨h2, h3⟩ := hi.dead o ho hf; exact ⟨by omega, by simp [h3], by omega⟩

theorem quiescent_iff {s : HState} : quiescent s = true ↔ ∀ c ∈ s.slots, c = .gone := by
  simp [quiescent]

theorem Inv.destroyed_of_quiescent {s : HState} (hi : Inv s) (hq : quiescent s = true) {o : Nat} (ho : o < s.nobj) :
    s.destroyed o = 1 :=
  (hi.destroyed_iff ho).2.2.mpr (Nat.eq_zero_of_not_pos fun hp => nomatch quiescent_iff.mp hq _ (refs_pos.mp hp))

/-- replacing the content `a` of one handle by `c`, counted with both sides -/
theorem count_set_add {l : List Slot} {i : Nat} {a : Slot} (h : l[i]? = some a) (c x : Slot) :
    (l.set i c).count x + (if a = x then 1 else 0) = l.count x + (if c = x then 1 else 0) := by
  obtain ⟨hlt, rfl⟩ := List.getElem?_eq_some_iff.mp h
  have := List.count_pos_iff.mpr (List.getElem_mem hlt)
  rw [List.count_set hlt]
  simp only [beq_iff_eq]
  split
  next h1 => subst h1; omega
  · omega

theorem count_set_other {l : List Slot} {i : Nat} {a c : Slot} (h : l[i]? = some a) {x : Nat} (ha : a ≠ .ref x)
    (hc : c ≠ .ref x) : (l.set i c).count (.ref x) = l.count (.ref x) := by
  have := count_set_add h c (.ref x)
  rwa [if_neg ha, if_neg hc] at this

theorem swap_counts {l : List Slot} {i j : Nat} {a b : Slot} (hi : l[i]? = some a) (hj : l[j]? = some b) {x : Slot} :
    ((l.set i b).set j a).count x = l.count x := by
  -- after the first `set`, position `j` holds `b` whether or not `i = j`
  have hj' : (l.set i b)[j]? = some b := by
    rw [List.getElem?_set]
    split
    next h => subst h; simp only [getElem?_lt hi, ↓reduceIte]
    · exact hj
  have h1 := count_set_add hj' a x
  have h2 := count_set_add hi b x
  omega

theorem inv_of_counts {s : HState} (hi : Inv s) {sl : List Slot}
    (hc : ∀ o, sl.count (.ref o) = s.slots.count (.ref o)) : Inv { s with slots := sl } := by
  have hr : ∀ o, refs { s with slots := sl } o = refs s o := hc
  refine ⟨fun o hm => hi.bound o (refs_pos.mp (hr o ▸ refs_pos.mpr hm)), fun o => ?_, fun o => ?_⟩
  · rw [hr]; exact hi.live o
  · rw [hr]; exact hi.dead o

/-- A change that concerns one object `o` only: the invariant has to be checked for `o`. -/
theorem Inv.change {s s' : HState} (hi : Inv s) {o : Nat} (ho : o < s'.nobj)
    (hn : ∀ x, x ≠ o → (x < s'.nobj ↔ x < s.nobj))
    (hx : ∀ x, x ≠ o → refs s' x = refs s x ∧ s'.cnt x = s.cnt x ∧ s'.freed x = s.freed x ∧ s'.destroyed x = s.destroyed x)
    (hlive : s'.freed o = false → s'.cnt o = (refs s' o : Int) ∧ 0 < refs s' o ∧ s'.destroyed o = 0)
    (hdead : s'.freed o = true → refs s' o = 0 ∧ s'.destroyed o = 1) : Inv s' := by
  refine ⟨fun x hm => ?_, fun x hlt hf => ?_, fun x hlt hf => ?_⟩ <;> by_cases hxo : x = o
  · exact hxo ▸ ho
  · obtain ⟨h1, _⟩ := hx x hxo
    exact (hn x hxo).mpr (hi.bound x (refs_pos.mp (h1 ▸ refs_pos.mpr hm)))
  · subst hxo; exact hlive hf
  · obtain ⟨h1, h2, h3, h4⟩ := hx x hxo
    rw [h1, h2, h4]; exact hi.live x ((hn x hxo).mp hlt) (h3 ▸ hf)
  · subst hxo; exact hdead hf
  · obtain ⟨h1, h2, h3, h4⟩ := hx x hxo
    rw [h1, h4]; exact hi.dead x ((hn x hxo).mp hlt) (h3 ▸ hf)

/-- the bookkeeping of the objects in `s'`: everything but the handles and their counters -/
def Book (s' : HState) (n : Nat) (l : List Ev) (f : Nat → Bool) (d : Nat → Nat) : Prop :=
  s'.nobj = n ∧ s'.log = l ∧ s'.freed = f ∧ s'.destroyed = d

/-- What an operation of complex.cpp does to the bookkeeping: nothing; a new object; or the destruction of the object
`o` whose last handle goes (counter 1, one handle, not yet freed). -/
def Eff (s s' : HState) : Prop :=
  Book s' s.nobj s.log s.freed s.destroyed ∨
  Book s' (s.nobj + 1) (s.log ++ [.create s.nobj]) (upd s.freed s.nobj false) (upd s.destroyed s.nobj 0) ∨
  ∃ o, o < s.nobj ∧ s.freed o = false ∧ s.cnt o = 1 ∧ refs s o = 1 ∧
    Book s' s.nobj (s.log ++ [.destroy o]) (upd s.freed o true) (upd s.destroyed o (s.destroyed o + 1))

theorem Eff.congr {s s1 s2 : HState} (he : Eff s s1) (hb : Book s2 s1.nobj s1.log s1.freed s1.destroyed) : Eff s s2 := by
  obtain ⟨a, b, c, d⟩ := hb
  unfold Eff Book
  rw [a, b, c, d]; exact he

theorem Eff.nobj_le {s s' : HState} : Eff s s' → s.nobj ≤ s'.nobj
  | .inl h => Nat.le_of_eq h.1.symm
  | .inr (.inl h) => h.1 ▸ Nat.le_succ _
  | .inr (.inr ⟨_, _, _, _, _, h⟩) => Nat.le_of_eq h.1.symm

theorem Eff.log_prefix {s s' : HState} (he : Eff s s') : s.log <+: s'.log := by
  rcases he with h | h | ⟨_, _, _, _, _, h⟩
  · exact h.2.1 ▸ List.prefix_rfl
  · exact h.2.1 ▸ List.prefix_append ..
  · exact h.2.1 ▸ List.prefix_append ..

theorem Eff.destroyed_ne {s s' : HState} (he : Eff s s') {o : Nat} (ho : o < s.nobj) (hd : s'.destroyed o ≠ s.destroyed o) :
    s.cnt o = 1 ∧ refs s o = 1 ∧ s'.freed o = true ∧ s'.destroyed o = s.destroyed o + 1 := by
  rcases he with h | h | ⟨o', _, _, hc, hr, h⟩
  · exact absurd (congrFun h.2.2.2 o) hd
  · refine absurd ?_ hd
    rw [h.2.2.2, upd, if_neg (Nat.ne_of_lt ho)]
  · by_cases e : o = o'
    · subst e; exact ⟨hc, hr, by rw [h.2.2.1, upd, if_pos rfl], by rw [h.2.2.2, upd, if_pos rfl]⟩
    · refine absurd ?_ hd
      rw [h.2.2.2, upd, if_neg e]

def Outcome (s : HState) (P : HState → Prop) : Except HErr HState → Prop
  | .ok s' => Inv s' ∧ Eff s s' ∧ P s'
  | .error e => e ≠ .dangling

theorem drop_spec {s : HState} (hi : Inv s) (i : Nat) :
    Outcome s (fun s' => s'.nobj = s.nobj ∧ s'.slots[i]? = some .null) (drop s i) := by
  unfold drop
  split
  next o hs =>
    obtain ⟨ho, hnf, hcnt, hpos, hd0⟩ := hi.of_mem (List.mem_of_getElem? hs)
    have hco : (s.slots.set i .null).count (.ref o) + 1 = refs s o := by
      simpa only [refs, ↓reduceIte, reduceCtorEq, Nat.add_zero] using count_set_add hs .null (.ref o)
    have hoth : ∀ x, x ≠ o → (s.slots.set i .null).count (.ref x) = refs s x := fun x hx =>
      count_set_other hs (fun h => hx (Slot.ref.inj h).symm) (fun h => nomatch h)
    simp only [hnf, Bool.false_eq_true, ↓reduceIte]
    split <;> refine ⟨?_, ?_, rfl, List.getElem?_set_self (getElem?_lt hs)⟩
    · refine hi.change ho (fun _ _ => .rfl) (fun x hx => ⟨hoth x hx, ?_⟩) ?_ ?_ <;> simp only [refs, upd, ↓reduceIte]
      · simp only [hx, ↓reduceIte, and_self]
      · exact fun h => nomatch h
      · exact fun _ => ⟨by omega, by omega⟩
    · exact .inr (.inr ⟨o, ho, hnf, by omega, by omega, rfl, rfl, rfl, rfl⟩)
    · refine hi.change ho (fun _ _ => .rfl) (fun x hx => ⟨hoth x hx, ?_⟩) ?_ ?_ <;> simp only [refs, upd, ↓reduceIte]
      · simp only [hx, ↓reduceIte, and_self]
      · exact fun _ => ⟨by omega, by omega, hd0⟩
      · exact fun hf => absurd (hnf ▸ hf) Bool.false_ne_true
    · exact .inl ⟨rfl, rfl, rfl, rfl⟩
  · exact fun h => nomatch h
  · exact fun h => nomatch h

/-- `2 ≤ s'.cnt o`: the `cnt < 2` branch of `assign` is not taken. -/
theorem acquire_spec {s : HState} (hi : Inv s) {i o : Nat} (h : s.slots[i]? = some .null) (hm : Slot.ref o ∈ s.slots) :
    ∃ s', acquire s i o = .ok s' ∧ Inv s' ∧ Book s' s.nobj s.log s.freed s.destroyed ∧ 2 ≤ s'.cnt o := by
  obtain ⟨ho, hnf, hcnt, hpos, hd0⟩ := hi.of_mem hm
  simp only [refs] at hcnt hpos
  have hco : (s.slots.set i (.ref o)).count (.ref o) = s.slots.count (.ref o) + 1 := by
    simpa only [↓reduceIte, reduceCtorEq, Nat.add_zero] using count_set_add h (.ref o) (.ref o)
  refine ⟨{ s with slots := s.slots.set i (.ref o), cnt := upd s.cnt o (s.cnt o + 1) },
    by simp only [acquire, hnf, Bool.false_eq_true, ↓reduceIte], ?_, ⟨rfl, rfl, rfl, rfl⟩, ?_⟩
  · refine hi.change ho (fun _ _ => .rfl) (fun x hx => ⟨?_, ?_⟩) ?_ ?_ <;> simp only [refs, upd, ↓reduceIte]
    · exact count_set_other h (fun h => nomatch h) (fun h => hx (Slot.ref.inj h).symm)
    · simp only [hx, ↓reduceIte, and_self]
    · exact fun _ => ⟨by omega, by omega, hd0⟩
    · exact fun hf => absurd (hnf ▸ hf) Bool.false_ne_true
  · simp only [upd, ↓reduceIte]; omega

theorem liveSlot_some {s : HState} {i : Nat} {c : Slot} (h : liveSlot s i = some c) :
    s.slots[i]? = some c ∧ c ≠ .gone := by
  unfold liveSlot at h
  split at h
  · cases h
  next hne => exact ⟨h, fun hc => hne (hc ▸ h)⟩

theorem liveSlot_of {s : HState} {i : Nat} {c : Slot} (h : s.slots[i]? = some c) (hc : c ≠ .gone) : liveSlot s i = some c := by
  unfold liveSlot
  split
  next h' => cases h.symm.trans h'; exact absurd rfl hc
  · exact h

theorem step_outcome {s : HState} (hinv : Inv s) (op : HOp) :
    Outcome s (fun s' => op ≠ .new → s'.nobj = s.nobj) (step s op) := by
  have none : ∀ {sl : List Slot}, Eff s { s with slots := sl } := .inl ⟨rfl, rfl, rfl, rfl⟩
  have bad : ∀ {P}, Outcome s P (.error .illFormed) := fun h => nomatch h
  have null : ∀ {P}, Outcome s P (.error .nullDeref) := fun h => nomatch h
  cases op with
  | new =>
    refine ⟨?_, .inr (.inl ⟨rfl, rfl, rfl, rfl⟩), fun h => absurd rfl h⟩
    have hz : s.slots.count (Slot.ref s.nobj) = 0 :=
      List.count_eq_zero.mpr fun h => Nat.lt_irrefl _ (hinv.bound _ h)
    have hc : ∀ x, (s.slots ++ [Slot.ref s.nobj]).count (Slot.ref x) = s.slots.count (Slot.ref x) + (if x = s.nobj then 1 else 0) := by
      intro x
      simp only [List.count_append, List.count_singleton, beq_iff_eq, Slot.ref.injEq, eq_comm (a := s.nobj)]
    have hco := hc s.nobj
    simp only [↓reduceIte] at hco
    refine hinv.change (Nat.lt_succ_self _) (fun x hx => ?_) (fun x hx => ⟨?_, ?_⟩) ?_ ?_ <;>
      simp only [refs, upd, ↓reduceIte]
    · omega
    · simpa only [hx, ↓reduceIte, Nat.add_zero] using hc x
    · simp only [hx, ↓reduceIte, and_self]
    · exact fun _ => ⟨by omega, by omega, trivial⟩
    · exact fun h => nomatch h
  | copy i =>
    simp only [step]
    split
    next o hl =>
      have hinv0 : Inv { s with slots := s.slots ++ [.null] } :=
        inv_of_counts hinv fun x => by simp [List.count_append]
      obtain ⟨s2, h2, hi2, hb, _⟩ := acquire_spec (i := s.slots.length) (o := o) hinv0 (by simp)
        (List.mem_append_left _ (List.mem_of_getElem? (liveSlot_some hl).1))
      rw [h2]
      exact ⟨hi2, .inl hb, fun _ => hb.1⟩
    · exact null
    · exact bad
  | move i =>
    simp only [step]
    split
    next c hl =>
      refine ⟨inv_of_counts hinv fun x => ?_, none, fun _ => rfl⟩
      have := count_set_add (liveSlot_some hl).1 .null (.ref x)
      simp only [List.count_append, List.count_singleton, beq_iff_eq] at this ⊢
      simpa using this
    · exact bad
  | dtor i =>
    simp only [step]
    split
    next s1 hd =>
      obtain ⟨hi1, he, hn, hnull⟩ := hd ▸ drop_spec hinv i
      refine ⟨inv_of_counts hi1 fun x => ?_, he, fun _ => hn⟩
      simpa using count_set_add hnull .gone (.ref x)
    next hd => have h := drop_spec hinv i; rw [hd] at h; exact h
  | assign i j =>
    simp only [step]
    split
    · split
      · exact ⟨hinv, .inl ⟨rfl, rfl, rfl, rfl⟩, fun _ => rfl⟩
      · split
        next hd => have h := drop_spec hinv i; rw [hd] at h; exact h
        next s1 hd =>
          obtain ⟨hi1, he, hn, hnull⟩ := hd ▸ drop_spec hinv i
          split
          next o' hj =>
            obtain ⟨s2, h2, hi2, hb, hc2⟩ := acquire_spec hi1 hnull (List.mem_of_getElem? hj)
            rw [h2]
            simp only [Int.not_lt.mpr hc2, ↓reduceIte]
            exact ⟨hi2, he.congr hb, fun _ => hb.1.trans hn⟩
          · exact null
    · exact bad
  | swap i j =>
    simp only [step]
    split
    next a b hla hlb =>
      exact ⟨inv_of_counts hinv fun x => swap_counts (liveSlot_some hla).1 (liveSlot_some hlb).1, none, fun _ => rfl⟩
    · exact bad
  | swapMove i j =>
    simp only [step]
    split
    · split
      next hd => have h := drop_spec hinv i; rw [hd] at h; exact h
      next s1 hd =>
        obtain ⟨hi1, he, hn, hnull⟩ := hd ▸ drop_spec hinv i
        split
        next c hj => exact ⟨inv_of_counts hi1 fun x => swap_counts hnull hj, he, fun _ => hn⟩
        · exact bad
    · exact bad

theorem step_spec {s s' : HState} {op : HOp} (hinv : Inv s) (h : step s op = .ok s') :
    Inv s' ∧ Eff s s' ∧ (op ≠ .new → s'.nobj = s.nobj) := by
  have := step_outcome hinv op
  rwa [h] at this

theorem step_ne_dangling {s : HState} (hinv : Inv s) (op : HOp) : step s op ≠ .error .dangling := by
  intro h
  have := step_outcome hinv op
  rw [h] at this
  exact this rfl

theorem run_inv {ops : List HOp} {s s' : HState} (hinv : Inv s) (h : run s ops = .ok s') : Inv s' := by
  induction ops generalizing s with
  | nil => cases h; exact hinv
  | cons op rest ih =>
    simp only [run] at h
    split at h
    next h1 => exact ih (step_spec hinv h1).1 h
    · cases h

/-! ### store level

The store level acts on handles only through operations of complex.cpp (the factory, the copy constructor, the
destructor), so a property of the handle state that these keep is kept by every store-level operation. -/

/-- Induction over `destructWhere`: handle `n` is destructed when it is live and its owner satisfies `p`, else skipped. -/
theorem destructWhere_ind {P : Nat → HState → Prop} {p : Nat → Bool} {owner : List Nat}
    (hskip : ∀ {n h}, P n h → (∀ k c, owner[n]? = some k → liveSlot h n = some c → p k = false) → P (n + 1) h)
    (hdtor : ∀ {n h h'}, P n h → step h (.dtor n) = .ok h' → P (n + 1) h') :
    ∀ {n : Nat} {h h' : HState}, S.destructWhere p owner n h = .ok h' → P 0 h → P n h'
  | 0, _, _, he, hp => by cases he; exact hp
  | n + 1, h, h', he, hp => by
    simp only [S.destructWhere] at he
    split at he
    · cases he
    next h1 h1eq =>
      have hp1 := destructWhere_ind hskip hdtor h1eq hp
      split at he
      next k c hk hc =>
        split at he
        · exact hdtor hp1 he
        next hpk => cases he; exact hskip hp1 fun k' _ hk' _ => by cases hk.symm.trans hk'; simpa using hpk
      next hno => cases he; exact hskip hp1 fun k c hk hc => absurd hc (hno k c hk)

theorem sstep_preserves {P : HState → Prop} {s s' : S.SState} {op : S.SOp} (h : S.sstep s op = .ok s')
    (hP : ∀ {h h' hop}, P h → step h hop = .ok h' → (hop = .new → M.isConstruct op = true) → P h') (hp : P s.h) :
    P s'.h := by
  cases op with
  | newCtx => cases h; exact hp
  | childCtx k | give i k => simp only [S.sstep] at h; split at h <;> cases h; exact hp
  | construct k =>
    simp only [S.sstep] at h
    split at h
    · split at h
      next he => cases h; exact hP hp he fun _ => rfl
      · cases h
    · cases h
  | clone i k =>
    simp only [S.sstep] at h
    split at h
    · split at h
      next he => cases h; exact hP hp he fun e => nomatch e
      · cases h
    · cases h
  | clear i =>
    simp only [S.sstep] at h
    split at h
    next he => cases h; exact hP hp he fun e => nomatch e
    · cases h
  | release k =>
    simp only [S.sstep] at h
    split at h
    · split at h
      next he =>
        cases h
        exact destructWhere_ind (P := fun _ => P) (fun hp _ => hp) (fun hp he => hP hp he fun e => nomatch e) he hp
      · cases h
    · cases h

theorem srun_preserves {P : S.SState → Prop} (hP : ∀ {s s'}, P s → ∀ op, S.sstep s op = .ok s' → P s') :
    ∀ {ops : List S.SOp} {s s' : S.SState}, S.srun s ops = .ok s' → P s → P s'
  | [], _, _, h, hp => by cases h; exact hp
  | op :: rest, s, s', h, hp => by
    simp only [S.srun] at h
    split at h
    next h1 => exact srun_preserves hP h (hP hp _ h1)
    · cases h

theorem srun_append {s s1 s2 : S.SState} {a b : List S.SOp} (h1 : S.srun s a = .ok s1) (h2 : S.srun s1 b = .ok s2) :
    S.srun s (a ++ b) = .ok s2 := by
  induction a generalizing s with
  | nil => cases h1; exact h2
  | cons op rest ih =>
    simp only [S.srun, List.cons_append] at h1 ⊢
    split at h1
    · exact ih h1
    · cases h1

theorem quiescent_gone {h : HState} (hq : quiescent h = true) {i : Nat} {c : Slot} (hr : h.slots[i]? = some c) :
    c = .gone :=
  quiescent_iff.mp hq c (List.mem_of_getElem? hr)

theorem liveSlot_quiescent {h : HState} (hq : quiescent h = true) (i : Nat) : liveSlot h i = none :=
  Option.eq_none_iff_forall_ne_some.mpr fun _ hl => (liveSlot_some hl).2 (quiescent_gone hq (liveSlot_some hl).1)

theorem drop_quiescent {h : HState} (hq : quiescent h = true) (i : Nat) : drop h i = .error .illFormed := by
  unfold drop
  split
  next hs => cases quiescent_gone hq hs
  next hs => cases quiescent_gone hq hs
  · rfl

theorem destructWhere_quiescent {p : Nat → Bool} {owner : List Nat} {h : HState} (hq : quiescent h = true) :
    ∀ n, S.destructWhere p owner n h = .ok h
  | 0 => rfl
  | n + 1 => by
    simp only [S.destructWhere, destructWhere_quiescent hq n, liveSlot_quiescent hq]
    split
    next h2 => cases h2
    · rfl

/-- A result that is no C-level hazard: the operation was malformed and nothing happened (`illFormed`), or it succeeded
and `P` holds of what it returned. -/
def Harmless {α : Type} (P : α → Prop) (r : Except HErr α) : Prop :=
  r = .error .illFormed ∨ ∃ a, r = .ok a ∧ P a

theorem Harmless.malformed {α : Type} {P : α → Prop} : Harmless P (.error .illFormed) := .inl rfl

theorem Harmless.ok {α : Type} {P : α → Prop} {a : α} (h : P a) : Harmless P (.ok a) := .inr ⟨a, rfl, h⟩

theorem sstep_quiescent {s : S.SState} (hq : quiescent s.h = true) (op : S.SOp) (hnc : M.isConstruct op = false) :
    Harmless (fun s' => s'.h = s.h) (S.sstep s op) := by
  cases op with
  | newCtx => exact .ok rfl
  | construct k => cases hnc
  | childCtx k | give i k => simp only [S.sstep]; split; exact .ok rfl; exact .malformed
  | clone i k => simp only [S.sstep, step, liveSlot_quiescent hq]; split <;> exact .malformed
  | clear i => simp only [S.sstep, step, drop_quiescent hq]; exact .malformed
  | release k => simp only [S.sstep, destructWhere_quiescent hq]; split; exact .ok rfl; exact .malformed

/-! ### store level: who owns a live handle

Every handle that has not been destructed sits in a value of a context that is still live. Kept by every store-level
operation; `release` destructs exactly the handles of the contexts it deletes. No operation loses a context (the
`createEnv` path on which an argument raises hands the runtime context back to the cache), so the invariant needs no
exception. -/

structure Owned (s : S.SState) : Prop where
  len : s.owner.length = s.h.slots.length
  own : ∀ (i : Nat) (c : Slot), s.h.slots[i]? = some c → c ≠ .gone → ∃ k, s.owner[i]? = some k ∧ s.ctxs[k]? = some .live

theorem owned_init : Owned S.SState.init := ⟨rfl, fun _ _ h => nomatch h⟩

theorem new_slots {s s' : HState} (h : step s .new = .ok s') : s'.slots = s.slots ++ [.ref s.nobj] := by
  cases h; rfl

theorem copy_slots {s s' : HState} {i : Nat} (h : step s (.copy i) = .ok s') : ∃ o, s'.slots = s.slots ++ [.ref o] := by
  simp only [step, acquire] at h
  split at h
  next o _ =>
    split at h
    · cases h
    · cases h; exact ⟨o, by simp⟩
  · cases h
  · cases h

theorem dtor_slots {s s' : HState} {i : Nat} (h : step s (.dtor i) = .ok s') : s'.slots = s.slots.set i .gone := by
  simp only [step] at h
  split at h
  next hd =>
    cases h
    unfold drop at hd
    split at hd
    · split at hd
      · cases hd
      · split at hd <;> (cases hd; simp)
    · cases hd
    · cases hd
  · cases h

theorem getElem?_set_gone {l : List Slot} {i j : Nat} {c : Slot} (h : (l.set i .gone)[j]? = some c) (hc : c ≠ .gone) :
    i ≠ j ∧ l[j]? = some c := by
  rw [List.getElem?_set] at h
  split at h
  · split at h
    · cases h; exact absurd rfl hc
    · cases h
  next hij => exact ⟨hij, h⟩

theorem destructWhere_slots {p : Nat → Bool} {owner : List Nat} {n : Nat} {h h' : HState}
    (he : S.destructWhere p owner n h = .ok h') :
    h'.slots.length = h.slots.length ∧
    ∀ (j : Nat) (c : Slot), h'.slots[j]? = some c → c ≠ .gone →
      h.slots[j]? = some c ∧ (j < n → ∀ k, owner[j]? = some k → p k = false) := by
  refine destructWhere_ind (P := fun n h' => h'.slots.length = h.slots.length ∧ ∀ (j : Nat) (c : Slot),
    h'.slots[j]? = some c → c ≠ .gone → h.slots[j]? = some c ∧ (j < n → ∀ k, owner[j]? = some k → p k = false))
    ?_ ?_ he ⟨rfl, fun j c hj _ => ⟨hj, fun h => nomatch h⟩⟩
  · intro n h1 ⟨hl, ih⟩ hcond
    refine ⟨hl, fun j c hj hc => ⟨(ih j c hj hc).1, fun hlt k hk => ?_⟩⟩
    rcases Nat.lt_succ_iff_lt_or_eq.mp hlt with hjn | rfl
    · exact (ih j c hj hc).2 hjn k hk
    · exact hcond k c hk (liveSlot_of hj hc)
  · intro n h1 h2 ⟨hl, ih⟩ hd
    have hs := dtor_slots hd
    refine ⟨by rw [hs, List.length_set, hl], fun j c hj hc => ?_⟩
    rw [hs] at hj
    obtain ⟨hne, hj1⟩ := getElem?_set_gone hj hc
    exact ⟨(ih j c hj1 hc).1, fun hlt => (ih j c hj1 hc).2 (Nat.lt_of_le_of_ne (Nat.le_of_lt_succ hlt) hne.symm)⟩

theorem ctxLive_iff {s : S.SState} {k : Nat} : S.ctxLive s k = true ↔ s.ctxs[k]? = some .live := by
  simp [S.ctxLive]

theorem owned_newCtx {s : S.SState} (ho : Owned s) {r : Nat} :
    Owned { s with ctxs := s.ctxs ++ [.live], root := s.root ++ [r] } :=
  ⟨ho.len, fun i c hi hc => let ⟨k, h1, h2⟩ := ho.own i c hi hc
    ⟨k, h1, (List.getElem?_append_left (getElem?_lt h2)).trans h2⟩⟩

theorem owned_push {s : S.SState} (ho : Owned s) {h' : HState} {x : Slot} {k : Nat} (hs : h'.slots = s.h.slots ++ [x])
    (hk : s.ctxs[k]? = some .live) : Owned { s with h := h', owner := s.owner ++ [k] } := by
  refine ⟨by simp [hs, ho.len], fun i c hi hc => ?_⟩
  simp only [hs, List.getElem?_append, ho.len] at hi ⊢
  split at hi
  next hlt => rw [if_pos hlt]; exact ho.own i c hi hc
  next hge =>
    rw [if_neg hge]
    cases hd : i - s.h.slots.length with
    | zero => exact ⟨k, rfl, hk⟩
    | succ n => rw [hd] at hi; cases hi

theorem sstep_owned {s s' : S.SState} (ho : Owned s) (op : S.SOp) (h : S.sstep s op = .ok s') : Owned s' := by
  cases op with
  | newCtx => cases h; exact owned_newCtx ho
  | childCtx k => simp only [S.sstep] at h; split at h <;> cases h; exact owned_newCtx ho
  | construct k =>
    simp only [S.sstep] at h
    split at h
    next hk =>
      split at h
      next he => cases h; exact owned_push ho (new_slots he) (ctxLive_iff.mp hk)
      · cases h
    · cases h
  | clone i k =>
    simp only [S.sstep] at h
    split at h
    next hk =>
      split at h
      next he => cases h; obtain ⟨_, hs⟩ := copy_slots he; exact owned_push ho hs (ctxLive_iff.mp hk)
      · cases h
    · cases h
  | clear i =>
    simp only [S.sstep] at h
    split at h
    next he =>
      cases h
      have hs := dtor_slots he
      exact ⟨by simp [hs, ho.len], fun j c hj hc => ho.own j c (getElem?_set_gone (hs ▸ hj) hc).2 hc⟩
    · cases h
  | give i k =>
    simp only [S.sstep, Bool.and_eq_true] at h
    split at h
    next hc =>
      cases h
      refine ⟨by simp [ho.len], fun j c hj hcg => ?_⟩
      simp only [List.getElem?_set]
      split
      next hij => exact ⟨k, by rw [if_pos (ho.len ▸ hij ▸ getElem?_lt hj)], ctxLive_iff.mp hc.1⟩
      · exact ho.own j c hj hcg
    · cases h
  | release k =>
    simp only [S.sstep] at h
    split at h
    · split at h
      next he =>
        cases h
        obtain ⟨hl, hsl⟩ := destructWhere_slots he
        refine ⟨hl ▸ ho.len, fun j c hj hc => ?_⟩
        obtain ⟨hj0, hnot⟩ := hsl j c hj hc
        obtain ⟨k', hk1, hk2⟩ := ho.own j c hj0 hc
        exact ⟨k', hk1, by simp [List.getElem?_mapIdx, hk2, hnot (getElem?_lt hj0) k' hk1]⟩
      · cases h
    · cases h

theorem owned_allReleased_quiescent {s : S.SState} (ho : Owned s) (hr : S.allReleased s = true) : quiescent s.h = true := by
  refine quiescent_iff.mpr fun x hx => Decidable.byContradiction fun hg => ?_
  obtain ⟨i, hi⟩ := List.mem_iff_getElem?.mp hx
  obtain ⟨k, _, hk⟩ := ho.own i x hi hg
  simpa using List.all_eq_true.mp hr _ (List.mem_of_getElem? hk)

end BlocV.Proofs.Handle
