/-
  `Fmt.floorLog10` is the floor of the decimal logarithm, and `Fmt.fmt16g` of a positive finite double is
  `Fmt.fmtPos` of its exact value. `floorLog10` counts the digits of numerator and denominator with `natStr`, which
  is quadratic in the number of digits; `floorLog10_eq` lets a closed instance with a 300-digit operand (a
  subnormal double, 2^1023) be evaluated without printing that operand.
-/
import BlocV.Model.Fmt

namespace BlocV.Lemmas
open BlocV.Fmt

/-- The number of digits of `n`, less one, is the `k` with `10 ^ k ≤ n < 10 ^ (k + 1)`. -/
theorem digitsOf_length : ∀ fuel n, 0 < n → n < 10 ^ fuel →
    ∃ k < fuel, (digitsOf fuel n).length = k + 1 ∧ 10 ^ k ≤ n ∧ n < 10 ^ (k + 1)
  | 0, n, h0, h => by omega
  | f + 1, n, h0, h => by
    rw [digitsOf]
    split
    · next h10 => exact ⟨0, by omega, rfl, h0, h10⟩
    · next h10 =>
      obtain ⟨k, hk, hl, lo, hi⟩ := digitsOf_length f (n / 10) (by omega) ((Nat.div_lt_iff_lt_mul (by decide)).mpr h)
      exact ⟨k + 1, by omega, by rw [List.length_append, hl]; rfl, (Nat.le_div_iff_mul_le (by decide)).mp lo,
        (Nat.div_lt_iff_lt_mul (by decide)).mp hi⟩

/-- The comparison `10 ^ y ≤ num / den` as `floorLog10` writes it, cleared of the case on the sign of `y` by
scaling both sides with `10 ^ j`. -/
theorem pow10_le_iff_shift (num den : Nat) (y : Int) (j : Nat) (hj : 0 ≤ y + j) :
    (if y ≥ 0 then num ≥ den * 10 ^ y.toNat else num * 10 ^ (-y).toNat ≥ den) ↔
      den * 10 ^ (y + j).toNat ≤ num * 10 ^ j := by
  have hp : ∀ k, 0 < 10 ^ k := fun k => Nat.pow_pos (by decide)
  split
  · next h =>
    obtain ⟨a, rfl⟩ := Int.eq_ofNat_of_zero_le h
    rw [Int.toNat_natCast, ← Int.natCast_add, Int.toNat_natCast, Nat.pow_add, ← Nat.mul_assoc]
    exact (Nat.mul_le_mul_right_iff (hp j)).symm
  · next h =>
    -- `y = -k` and `j = k + i`
    obtain ⟨k, rfl⟩ := Int.exists_eq_neg_ofNat (Int.le_of_lt (Int.not_le.mp h))
    obtain ⟨i, rfl⟩ := Nat.exists_eq_add_of_le (show k ≤ j by omega)
    rw [Int.neg_neg, Int.toNat_natCast, show (-(k : Int) + (k + i : Nat)).toNat = i by omega, Nat.pow_add, ← Nat.mul_assoc]
    exact (Nat.mul_le_mul_right_iff (hp i)).symm

/-- **`floorLog10 num den` is the `x` with `10 ^ x ≤ num / den < 10 ^ (x + 1)`**, for operands of fewer than 400
digits (the fuel of `natStr`). The digit counts bracket `x` within one; the comparison decides. The hypotheses are
one conjunction so that a closed instance discharges them by a single `decide +kernel`. -/
theorem floorLog10_eq {num den : Nat} {x : Int}
    (h : 0 < den ∧ num < 10 ^ 400 ∧ den < 10 ^ 400 ∧
      (if x ≥ 0 then num ≥ den * 10 ^ x.toNat else num * 10 ^ (-x).toNat ≥ den) ∧
      ¬ (if x + 1 ≥ 0 then num ≥ den * 10 ^ (x + 1).toNat else num * 10 ^ (-(x + 1)).toNat ≥ den)) :
    floorLog10 num den = x := by
  obtain ⟨hden, hn, hd, lo, hi⟩ := h
  have hp : ∀ k, 0 < 10 ^ k := fun k => Nat.pow_pos (by decide)
  have hnum : 0 < num := by
    split at lo
    · exact Nat.lt_of_lt_of_le (Nat.mul_pos hden (hp _)) lo
    · exact Nat.pos_of_mul_pos_right (Nat.lt_of_lt_of_le hden lo)
  obtain ⟨ka, hka, ea, la, ua⟩ := digitsOf_length 400 num hnum hn
  obtain ⟨kb, hkb, eb, lb, ub⟩ := digitsOf_length 400 den hden hd
  unfold floorLog10 natStr
  simp only [ea, eb]
  clear hn hd ea eb
  rw [show ((ka + 1 : Nat) : Int) - ((kb + 1 : Nat) : Int) = (ka : Int) - kb by omega]
  -- `P y`: 10 ^ y ≤ num / den, with a shift that makes every exponent below non-negative: |ka - kb| + 1 ≤ 401, |x| + 1 ≤ j
  let j := x.natAbs + 802
  let P (y : Int) : Prop := den * 10 ^ (y + j).toNat ≤ num * 10 ^ j
  have mono : ∀ y z : Int, y ≤ z → 0 ≤ y + j → P z → P y := fun y z hyz hy hz =>
    Nat.le_trans (Nat.mul_le_mul_left _ (Nat.pow_le_pow_right (by decide) (by omega))) hz
  rw [pow10_le_iff_shift num den x j (by omega)] at lo
  rw [pow10_le_iff_shift num den (x + 1) j (by omega)] at hi
  -- `P` is antitone, so `x` is the only place where it changes
  have uniq : ∀ y : Int, -401 ≤ y → P y → ¬ P (y + 1) → y = x := fun y hy h1 h2 => by
    have : ¬ x + 1 ≤ y := fun hle => hi (mono _ _ hle (by omega) h1)
    have : ¬ y + 1 ≤ x := fun hle => h2 (mono _ _ hle (by omega) lo)
    omega
  -- 10 ^ (ka - kb - 1) < num / den < 10 ^ (ka - kb + 1)
  have below : P ((ka : Int) - kb - 1) :=
    calc den * 10 ^ ((ka : Int) - kb - 1 + j).toNat
        ≤ 10 ^ (kb + 1) * 10 ^ ((ka : Int) - kb - 1 + j).toNat := Nat.mul_le_mul_right _ (Nat.le_of_lt ub)
      _ = 10 ^ ka * 10 ^ j := by rw [← Nat.pow_add, ← Nat.pow_add]; congr 1; omega
      _ ≤ num * 10 ^ j := Nat.mul_le_mul_right _ la
  have above : ¬ P ((ka : Int) - kb + 1) := by
    apply Nat.not_le_of_gt
    calc num * 10 ^ j < 10 ^ (ka + 1) * 10 ^ j := Nat.mul_lt_mul_of_pos_right ua (hp j)
      _ = 10 ^ kb * 10 ^ ((ka : Int) - kb + 1 + j).toNat := by rw [← Nat.pow_add, ← Nat.pow_add]; congr 1; omega
      _ ≤ den * 10 ^ ((ka : Int) - kb + 1 + j).toNat := Nat.mul_le_mul_right _ lb
  have key : ((if (ka : Int) - kb ≥ 0 then decide (num ≥ den * 10 ^ ((ka : Int) - kb).toNat)
      else decide (num * 10 ^ (-((ka : Int) - kb)).toNat ≥ den)) = true) ↔ P ((ka : Int) - kb) :=
    Iff.trans (by split <;> exact decide_eq_true_iff) (pow10_le_iff_shift num den _ j (by omega))
  simp only [key]
  split
  · next hge => exact uniq _ (by omega) hge above
  · next hge => exact uniq _ (by omega) below (by rwa [Int.sub_add_cancel])

/-- `%.16g` of a positive finite double is `fmtPos` of its exact value `m · 2 ^ e`. -/
theorem fmt16g_finite {b : Num.F64}
    (h : Num.sign b = false ∧ Num.expo b ≠ 2047 ∧ (Num.decodeMag b).1 ≠ 0) :
    fmt16g b = fmtPos ((Num.decodeMag b).1 * 2 ^ (Num.decodeMag b).2.toNat) (2 ^ (-(Num.decodeMag b).2).toNat) := by
  obtain ⟨hs, he, hm⟩ := h
  have he' : (Num.expo b == 2047) = false := by simpa using he
  unfold fmt16g Num.isNaN Num.isInf
  generalize Num.decodeMag b = p at hm ⊢
  obtain ⟨m, e⟩ := p
  have hm' : (m == 0) = false := by simpa using hm
  simp only [hs, he', hm', Bool.false_and, Bool.false_eq_true, ↓reduceIte, List.nil_append]
  split
  · next hge => rw [show (-e).toNat = 0 by omega]
  · next hlt => rw [show e.toNat = 0 by omega, Nat.pow_zero, Nat.mul_one]

/-- The text of the largest double, through `floorLog10_eq`: its 309-digit value is never printed. -/
theorem fmt16g_max : fmt16g 0x7fefffffffffffff = "1.797693134862316e+308".toUTF8.toList := by
  rw [fmt16g_finite (by decide), fmtPos, floorLog10_eq (x := 308) (by decide +kernel)]; decide +kernel

end BlocV.Lemmas
