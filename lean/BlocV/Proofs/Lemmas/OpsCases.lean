/-
  The operators of Model/Ops.lean, for C01, C02 and C03: the representation invariants `Val.tabOk` / `Val.wf` that `bloc::Value` has by
  construction; the twelve switch-form operators as ONE table (`Act`, `binAct`, `evalBin_eq`) with what every case does proved once
  (`Act.run_no_hazard`, `run_ok`, `run_errP`); the relational and unary operators family by family, the lazy `and` / `or` through the shape
  they share (`LazyShape`); then for all operators no hazard, what a result is (`Prov`, run-time type: `evalBin_ok`), and the static type
  table of `typeBin`.
-/
import BlocV.Model.Typing
import BlocV.Model.Store
import BlocV.Proofs.Lemmas.Res

namespace BlocV

/-- A table value carries a table type (`Val.tab t …` has `t.level ≥ 1`, as the comment of
Model/Basic.lean says): in the C++ a `Value` whose payload is a `Collection` always has the
collection's type, whose level is ≥ 1. `Val` does not enforce it; the typed accessors
(`Val.asInt` …) of an ill-formed "table of level 0" would fall through to their null branch. -/
def Val.tabOk : Val → Bool
  | .tab t _ _ => decide (1 ≤ t.level)
  | _ => true

/-- Only object types (module id) and tuple types (structure hash) carry a minor. -/
def Ty.minorOk (t : Ty) : Bool := t.major == .obj || t.major == .tup || t.minor == 0

/-- Top-level well-formedness of a value: what every `bloc::Value` satisfies by construction. -/
def Val.wf (v : Val) : Bool := v.tabOk && v.type.minorOk

/-- "Defined", i.e. not opaque: `Type::NO_TYPE` is the opaque type of parse_expression.cpp /
`typeChecking` (`ty.major == .none` accepts everything). -/
def Ty.defined (t : Ty) : Bool := t.major != .none

theorem Val.tabOk_of_wf {v : Val} (h : v.wf = true) : v.tabOk = true := by
  unfold Val.wf at h; simp at h; exact h.1

theorem type_eq_of_wf {v : Val} {t : Ty} (hw : v.wf = true) (hl : v.type.level = t.level) (hm : v.type.major = t.major)
    (h0 : t.minor = 0) (ho : t.major ≠ .obj) (ht : t.major ≠ .tup) : v.type = t := by
  have hmin : v.type.minor = 0 := by
    simp only [Val.wf, Ty.minorOk, Bool.and_eq_true, Bool.or_eq_true, beq_iff_eq] at hw
    rcases hw.2 with (h' | h') | h'
    · exact absurd (hm ▸ h') ho
    · exact absurd (hm ▸ h') ht
    · exact h'
  obtain ⟨ma, mi, le⟩ := t
  cases hv : v.type
  simp_all

@[simp] theorem Val.tabOk_null (t : Ty) : (Val.null t).tabOk = true := rfl
@[simp] theorem Val.tabOk_bool (b : Bool) : (Val.bool b).tabOk = true := rfl
@[simp] theorem Val.tabOk_int (b : Int64) : (Val.int b).tabOk = true := rfl
@[simp] theorem Val.tabOk_num (b : UInt64) : (Val.num b).tabOk = true := rfl
@[simp] theorem Val.tabOk_str (b : Bytes) : (Val.str b).tabOk = true := rfl
@[simp] theorem Val.tabOk_raw (b : Bytes) : (Val.raw b).tabOk = true := rfl

theorem makeTupleTy_major (d : List Ty) (l : Nat) : (makeTupleTy d l).major = .tup := by
  unfold makeTupleTy; split <;> rfl

theorem makeTupleTy_level (d : List Ty) (l : Nat) : (makeTupleTy d l).level = l := by
  unfold makeTupleTy; split <;> rfl

theorem scalar_of {a : Val} (hw : a.tabOk = true) (hl : a.type.level = 0) (hn : a.isNull = false) :
    (a.type.major = .bool → ∃ x, a = .bool x) ∧ (a.type.major = .int → ∃ x, a = .int x) ∧ (a.type.major = .num → ∃ x, a = .num x) ∧
    (a.type.major = .str → ∃ x, a = .str x) ∧ (a.type.major = .raw → ∃ x, a = .raw x) := by
  cases a with
  | null t => cases hn
  | tab t d e => simp [Val.tabOk, Val.type] at hw hl; omega
  | tup d it => simp [Val.type, makeTupleTy_major]
  | _ => simp [Val.type, Ty.bool, Ty.int, Ty.num, Ty.imag, Ty.str, Ty.raw]

theorem eq_int_of {a : Val} (hw : a.tabOk = true) (hl : a.type.level = 0) (hm : a.type.major = .int)
    (hn : a.isNull = false) : ∃ i, a = .int i := (scalar_of hw hl hn).2.1 hm

theorem eq_num_of {a : Val} (hw : a.tabOk = true) (hl : a.type.level = 0) (hm : a.type.major = .num)
    (hn : a.isNull = false) : ∃ i, a = .num i := (scalar_of hw hl hn).2.2.1 hm

theorem eq_str_of {a : Val} (hw : a.tabOk = true) (hl : a.type.level = 0) (hm : a.type.major = .str)
    (hn : a.isNull = false) : ∃ i, a = .str i := (scalar_of hw hl hn).2.2.2.1 hm

/-- A typed accessor reaches its null-pointer branch only on a typed null of its own type or on an
ill-formed table value. -/
theorem asInt_no_hazard {a : Val} (hw : a.tabOk = true) (hn : a.isNull = false) : a.asInt.isHazard = false := by
  unfold Val.asInt
  split
  · rfl
  · rename_i h
    simp at h
    obtain ⟨i, rfl⟩ := eq_int_of hw h.2 h.1 hn
    rfl

theorem asNum_no_hazard {a : Val} (hw : a.tabOk = true) (hn : a.isNull = false) : a.asNum.isHazard = false := by
  unfold Val.asNum
  split
  · rfl
  · rename_i h
    simp at h
    obtain ⟨i, rfl⟩ := eq_num_of hw h.2 h.1 hn
    rfl

theorem asBool_no_hazard {a : Val} (hw : a.tabOk = true) (hn : a.isNull = false) : a.asBool.isHazard = false := by
  unfold Val.asBool
  split
  · rfl
  · rename_i h
    simp at h
    obtain ⟨i, rfl⟩ := (scalar_of hw h.2 hn).1 h.1
    rfl

theorem asStr_no_hazard {a : Val} (hw : a.tabOk = true) (hn : a.isNull = false) : a.asStr.isHazard = false := by
  unfold Val.asStr
  split
  · rfl
  · rename_i h
    simp at h
    obtain ⟨i, rfl⟩ := eq_str_of hw h.2 h.1 hn
    rfl

theorem asRaw_no_hazard {a : Val} (hw : a.tabOk = true) (hn : a.isNull = false) : a.asRaw.isHazard = false := by
  unfold Val.asRaw
  split
  · rfl
  · rename_i h
    simp at h
    obtain ⟨i, rfl⟩ := (scalar_of hw h.2 hn).2.2.2.2 h.1
    rfl

theorem boolRes_isHazard (r : Res Bool) : (boolRes r).isHazard = r.isHazard := by cases r <;> rfl

theorem okP_inv {α} {P : α → Prop} : Res.okP P (inv : Res α) := okP_err

theorem okP_boolRes {P : Val → Prop} (r : Res Bool) (h : ∀ b, P (.bool b)) : Res.okP P (boolRes r) := by
  cases r with
  | ok b => exact okP_ok (h b)
  | err c x => exact okP_err
  | haz h => exact okP_haz
  | unmodelled => exact okP_unm

theorem errP_boolRes {E : Nat → Prop} (r : Res Bool) (h : Res.errP E r) : Res.errP E (boolRes r) := by
  cases r with
  | ok b => exact errP_ok
  | err c x => exact errP_err (h c x rfl)
  | haz h => exact errP_haz
  | unmodelled => exact errP_unm

theorem asInt_errP {E : Nat → Prop} {a : Val} (hw : a.tabOk = true) (hl : a.type.level = 0) (hm : a.type.major = .int)
    (hn : a.isNull = false) : Res.errP E a.asInt := by
  obtain ⟨i, rfl⟩ := eq_int_of hw hl hm hn; exact errP_ok
theorem asNum_errP {E : Nat → Prop} {a : Val} (hw : a.tabOk = true) (hl : a.type.level = 0) (hm : a.type.major = .num)
    (hn : a.isNull = false) : Res.errP E a.asNum := by
  obtain ⟨i, rfl⟩ := eq_num_of hw hl hm hn; exact errP_ok
theorem asStr_errP {E : Nat → Prop} {a : Val} (hw : a.tabOk = true) (hl : a.type.level = 0) (hm : a.type.major = .str)
    (hn : a.isNull = false) : Res.errP E a.asStr := by
  obtain ⟨i, rfl⟩ := eq_str_of hw hl hm hn; exact errP_ok

/-! ### provenance of results

Every value an operator returns is one of its operands, a null of the second operand's type, or a
fresh scalar / scalar-typed null. Well-formedness of results follows from this alone. -/

/-- A freshly built scalar or a null of a plain scalar type (minor 0, level 0). -/
def Val.fresh : Val → Bool
  | .null t => t.minor == 0 && t.level == 0
  | .bool _ | .int _ | .num _ | .str _ | .raw _ => true
  | _ => false

def Prov (a1 a2 v : Val) : Prop := v = a1 ∨ v = a2 ∨ v = .null a2.type ∨ v.fresh = true

theorem fresh_wf {v : Val} (h : v.fresh = true) : v.wf = true := by
  cases v with
  | null t => exact (Bool.or_eq_true_iff.2 (.inr (Bool.and_eq_true_iff.1 h).1) : t.minorOk = true)
  | bool _ | int _ | num _ | str _ | raw _ => rfl
  | _ => cases h

theorem Prov.tabOk {a1 a2 v : Val} (h : Prov a1 a2 v) (h1 : a1.tabOk = true) (h2 : a2.tabOk = true) : v.tabOk = true := by
  rcases h with rfl | rfl | rfl | h
  · exact h1
  · exact h2
  · rfl
  · exact Val.tabOk_of_wf (fresh_wf h)

theorem Prov.wf {a1 a2 v : Val} (h : Prov a1 a2 v) (h1 : a1.wf = true) (h2 : a2.wf = true) : v.wf = true := by
  rcases h with rfl | rfl | rfl | h
  · exact h1
  · exact h2
  · unfold Val.wf at h2 ⊢; simp at h2 ⊢; exact h2.2
  · exact fresh_wf h

theorem Prov.fresh {a1 a2 v : Val} (h : v.fresh = true) : Prov a1 a2 v := Or.inr (Or.inr (Or.inr h))

open Num

def isDbz (c : Nat) : Prop := c = Gen.EXC_RT_DIVIDE_BY_ZERO

/-- A value, DIVIDE_BY_ZERO or unmodelled: the outcomes of the operators' scalar functions. -/
def Res.dbzOnly {α} : Res α → Bool
  | .err c _ => c == Gen.EXC_RT_DIVIDE_BY_ZERO
  | .haz _ => false
  | _ => true

theorem dbzOnly_no_hazard {α} {r : Res α} (h : r.dbzOnly = true) : r.isHazard = false := by
  cases r <;> first | rfl | cases h

theorem dbzOnly_errP {α} {r : Res α} (h : r.dbzOnly = true) : Res.errP isDbz r := by
  intro c x e; subst e; exact beq_iff_eq.1 h

theorem idiv_dbzOnly (a b : Int64) : (idiv a b).dbzOnly = true := by
  unfold idiv; repeat' split
  all_goals rfl
theorem imod_dbzOnly (a b : Int64) : (imod a b).dbzOnly = true := by
  unfold imod; repeat' split
  all_goals rfl
theorem ipow_cases (a n : Int64) :
    (∃ r, ipow a n = .ok r) ∨ (ipow a n = .err Gen.EXC_RT_DIVIDE_BY_ZERO ∧ a = 0 ∧ n < 0) := by
  fun_cases ipow a n
  · exact .inr ⟨rfl, beq_iff_eq.1 ‹_›, ‹_›⟩
  all_goals exact .inl ⟨_, rfl⟩
theorem ipow_dbzOnly (a b : Int64) : (ipow a b).dbzOnly = true := by
  rcases ipow_cases a b with ⟨r, h⟩ | ⟨h, -⟩ <;> rw [h] <;> rfl
theorem fdivChecked_dbzOnly (a b : F64) : (fdivChecked a b).dbzOnly = true := by
  unfold fdivChecked; split <;> rfl
theorem fmodChecked_dbzOnly (a b : F64) : (fmodChecked a b).dbzOnly = true := by
  unfold fmodChecked; split <;> rfl

theorem imod_no_hazard (a b : Int64) : (imod a b).isHazard = false := dbzOnly_no_hazard (imod_dbzOnly a b)
theorem ipow_no_hazard (a b : Int64) : (ipow a b).isHazard = false := dbzOnly_no_hazard (ipow_dbzOnly a b)

/-! ### the twelve switch-form operators as one table

`+ - * / ** % & | ^ << >> xor` evaluate both operands and go through one nested `switch` on the two majors behind a level guard (`arith`, `opAdd`,
`bitwise`, `opBxor` of Model/Ops.lean). `Act` names what a `case` does, `binAct` is the table, `evalBin_eq` says the model IS "guard, then run the
case"; what is true of every case is proved once (`Act.run_…`), which cases stand where is evaluated (`binAct_kind`; `GenOps.binAct_inv`). -/

/-- What one `case` of a switch-form `value()` does with its two operands. -/
inductive Act
  | nocase                   -- no case: `throw RuntimeError(EXC_RT_INV_EXPRESSION)`
  | unm                      -- complex arithmetic: unmodelled
  | null (m : Major)         -- a null of the plain type `m`
  | null2                    -- a null of the second operand's type
  | fst | snd                -- an operand, as it is
  | int                      -- two integers: the operator's integer function; null when an operand is
  | dec (c1 c2 : Bool)       -- two numbers (`c`: an integer, converted): the operator's double function; null when an operand is
  | cat                      -- two strings
  | xor                      -- two booleans

def Act.run (ii : Int64 → Int64 → Res Int64) (ff : F64 → F64 → Res F64) : Act → Val → Val → Res Val
  | .nocase, _, _ => inv
  | .unm, _, _ => .unmodelled
  | .null m, _, _ => .ok (.null { major := m })
  | .null2, _, a2 => .ok (.null a2.type)
  | .fst, a1, _ => .ok a1
  | .snd, _, a2 => .ok a2
  | .int, a1, a2 =>
    if a1.isNull || a2.isNull then .ok (.null Ty.int)
    else do let x ← a1.asInt; let y ← a2.asInt; let r ← ii x y; pure (.int r)
  | .dec true true, a1, a2 =>
    if a1.isNull || a2.isNull then .ok (.null Ty.num)
    else do let x ← a1.asInt; let y ← a2.asInt; let r ← ff (bits x.toFloat) (bits y.toFloat); pure (.num r)
  | .dec true false, a1, a2 =>
    if a1.isNull || a2.isNull then .ok (.null Ty.num)
    else do let x ← a1.asInt; let y ← a2.asNum; let r ← ff (bits x.toFloat) y; pure (.num r)
  | .dec false true, a1, a2 =>
    if a1.isNull || a2.isNull then .ok (.null Ty.num)
    else do let x ← a1.asNum; let y ← a2.asInt; let r ← ff x (bits y.toFloat); pure (.num r)
  | .dec false false, a1, a2 =>
    if a1.isNull || a2.isNull then .ok (.null Ty.num)
    else do let x ← a1.asNum; let y ← a2.asNum; let r ← ff x y; pure (.num r)
  | .cat, a1, a2 =>
    match a1, a2 with
    | .str x, .str y => .ok (.str (x ++ y))
    | .str x, _ => .ok (.str x)
    | _, _ => .ok a2
  | .xor, a1, a2 =>
    match a1, a2 with
    | .bool x, .bool y => .ok (.bool (x != y))
    | _, .null _ => .ok a2
    | _, _ => .ok a1

/-- the cells of `- * / ** %` (`nn`: major of the (null, null) cell; `imagOk`: complex cases, all but `%`), and of `+` outside its string cells -/
def numAct (imagOk : Bool) (nn : Major) : Major → Major → Act
  | .none, .none => .null nn
  | .none, .int | .none, .num => .null2
  | .none, .imag => bif imagOk then .null2 else .nocase
  | .int, .none => .null .int
  | .num, .none => .null .num
  | .int, .int => .int
  | .int, .num => .dec true false
  | .num, .int => .dec false true
  | .num, .num => .dec false false
  | .imag, .none | .imag, .int | .imag, .num | .imag, .imag | .int, .imag | .num, .imag => bif imagOk then .unm else .nocase
  | _, _ => .nocase

def addAct : Major → Major → Act
  | .none, .str => .snd
  | .str, .none => .fst
  | .str, .str => .cat
  | m1, m2 => numAct true .num m1 m2

def bitAct : Major → Major → Act
  | .none, .none | .none, .int | .int, .none => .null .int
  | .int, .int => .int
  | _, _ => .nocase

def xorAct : Major → Major → Act
  | .none, .none | .none, .bool | .bool, .none => .null .bool
  | .bool, .bool => .xor
  | _, _ => .nocase

/-- a switch-form `value()`: the level guard, then the case of the two majors -/
def switchOn (tbl : Major → Major → Act) (ii : Int64 → Int64 → Res Int64) (ff : F64 → F64 → Res F64) (a1 a2 : Val) : Res Val :=
  if (a1.type.level != 0 || a2.type.level != 0) = true then inv else (tbl a1.type.major a2.type.major).run ii ff a1 a2

/-! The model's four shapes are the table: behind the guard only the two majors are looked at, so they are generalised and every cell is `rfl`
(the payloads stay variables). -/

theorem arith_eq (nn : Major) {ii : Int64 → Int64 → Res Int64} {ff : F64 → F64 → Res F64} (imagOk : Bool) (a1 a2 : Val) :
    arith { major := nn } ii ff imagOk a1 a2 = switchOn (numAct imagOk nn) ii ff a1 a2 := by
  unfold arith switchOn
  dsimp only
  split
  · rfl
  · generalize a1.type.major = m1
    generalize a2.type.major = m2
    cases imagOk <;> cases m1 <;> cases m2 <;> rfl

theorem opAdd_eq (a1 a2 : Val) :
    opAdd a1 a2 = switchOn addAct (fun x y => .ok (iadd x y)) (fun x y => .ok (fadd x y)) a1 a2 := by
  unfold opAdd
  dsimp only
  rw [show Ty.num = { major := .num } from rfl, arith_eq]
  unfold switchOn
  split
  · rfl
  · generalize a1.type.major = m1
    generalize a2.type.major = m2
    cases m1 <;> cases m2 <;> rfl

theorem bitwise_eq {ii : Int64 → Int64 → Int64} {ff : F64 → F64 → Res F64} (a1 a2 : Val) :
    bitwise ii a1 a2 = switchOn bitAct (fun x y => .ok (ii x y)) ff a1 a2 := by
  unfold bitwise switchOn
  dsimp only
  split
  · rfl
  · generalize a1.type.major = m1
    generalize a2.type.major = m2
    cases m1 <;> cases m2 <;> rfl

theorem opBxor_eq {ii : Int64 → Int64 → Res Int64} {ff : F64 → F64 → Res F64} (a1 a2 : Val) :
    opBxor a1 a2 = switchOn xorAct ii ff a1 a2 := by
  unfold opBxor switchOn
  dsimp only
  split
  · rfl
  · generalize a1.type.major = m1
    generalize a2.type.major = m2
    cases m1 <;> cases m2 <;> rfl

/-- the integer function of an operator (the `int` case) -/
def intFn : BinOp → Int64 → Int64 → Res Int64
  | .add => fun x y => .ok (iadd x y)
  | .sub => fun x y => .ok (isub x y)
  | .mul => fun x y => .ok (imul x y)
  | .div => idiv
  | .exp => ipow
  | .mod => imod
  | .and => fun x y => .ok (iand x y)
  | .ior => fun x y => .ok (ior x y)
  | .xor => fun x y => .ok (ixor x y)
  | .pop => fun x y => .ok (ishl x y)
  | .pus => fun x y => .ok (ishr x y)
  | _ => fun _ _ => .unmodelled

/-- The double-precision operation each arithmetic operator applies. `Num.fadd x y = bits (f x + f y)`
etc. where `f = Float.ofBits` and `+` is Lean's `Float` addition, i.e. the C `double` operator (IEEE-754
binary64): the IEEE arithmetic itself is executed, tied bit-exactly to the C++ by the correspondence
run, not reasoned about. `/` and `%` test the divisor for ±0 first. -/
def C03.fop : BinOp → Num.F64 → Num.F64 → Res Num.F64
  | .add => fun x y => .ok (Num.fadd x y)
  | .sub => fun x y => .ok (Num.fsub x y)
  | .mul => fun x y => .ok (Num.fmul x y)
  | .div => fdivChecked
  | .exp => fun x y => .ok (Num.fpow x y)
  | .mod => fmodChecked
  | _ => fun _ _ => .unmodelled

def binAct : BinOp → Major → Major → Act
  | .add => addAct
  | .sub | .mul | .div | .exp => numAct true .num
  | .mod => numAct false .none
  | .and | .ior | .xor | .pop | .pus => bitAct
  | .bxor => xorAct
  | _ => fun _ _ => .nocase

/-- `+ - * / ** % & | ^ << >> xor`: both operands are evaluated, then one nested switch on their majors. -/
def GenOps.eagerSwitch : BinOp → Bool
  | .add | .sub | .mul | .div | .exp | .mod | .and | .ior | .xor | .pop | .pus | .bxor => true
  | _ => false

theorem evalBin_eq (op : BinOp) (hop : GenOps.eagerSwitch op = true) (a b : Val) (same : Bool) :
    evalBin op a b same = switchOn (binAct op) (intFn op) (C03.fop op) a b := by
  cases op <;> first | (cases hop; done) | simp only [evalBin, opSub, opMul, opDiv, opExp, opMod]
  case add => exact opAdd_eq a b
  case sub | mul | div | exp => exact arith_eq .num true a b
  case mod => exact arith_eq .none false a b
  case and | ior | xor | pop | pus => exact bitwise_eq a b
  case bxor => exact opBxor_eq a b

theorem intFn_dbzOnly (op : BinOp) (x y : Int64) : (intFn op x y).dbzOnly = true := by
  cases op
  case div => exact idiv_dbzOnly x y
  case exp => exact ipow_dbzOnly x y
  case mod => exact imod_dbzOnly x y
  all_goals rfl

theorem fop_dbzOnly (op : BinOp) (x y : F64) : (C03.fop op x y).dbzOnly = true := by
  cases op
  case div => exact fdivChecked_dbzOnly x y
  case mod => exact fmodChecked_dbzOnly x y
  all_goals rfl

/-- A cell of two numbers, for a property `C` of outcomes that values have and that goes through `>>=`: null when an operand is,
else the scalar function on the two payloads. -/
theorem numCell {C : ∀ {α : Type}, Res α → Prop} (hok : ∀ {α} (a : α), C (Res.ok a))
    (hbind : ∀ {α β} (r : Res α) (f : α → Res β), C r → (∀ a, r = .ok a → C (f a)) → C (r >>= f))
    {α β γ} {n1 n2 : Bool} {r1 : Res α} {r2 : Res β} {g : α → β → Res γ} {k : γ → Val} {v : Val}
    (p1 : n1 = false → C r1) (p2 : n2 = false → C r2) (pg : ∀ x y, C (g x y)) :
    C (if (n1 || n2) = true then .ok v else r1 >>= fun x => r2 >>= fun y => g x y >>= fun r => pure (k r)) := by
  split
  · exact hok _
  · rename_i hn
    simp only [Bool.or_eq_true, not_or, Bool.not_eq_true] at hn
    exact hbind _ _ (p1 hn.1) fun x _ => hbind _ _ (p2 hn.2) fun y _ => hbind _ _ (pg x y) fun _ _ => hok _

namespace Act
variable {ii : Int64 → Int64 → Res Int64} {ff : F64 → F64 → Res F64} {a1 a2 : Val}

theorem run_no_hazard (hii : ∀ x y, (ii x y).isHazard = false) (hff : ∀ x y, (ff x y).isHazard = false)
    {act : Act} (h1 : a1.tabOk = true) (h2 : a2.tabOk = true) : (act.run ii ff a1 a2).isHazard = false := by
  have num := @numCell (fun r => r.isHazard = false) (fun _ => rfl) isHazard_bind
  cases act with
  | int => exact num (asInt_no_hazard h1) (asInt_no_hazard h2) hii
  | dec c1 c2 =>
    cases c1 <;> cases c2
    · exact num (asNum_no_hazard h1) (asNum_no_hazard h2) hff
    · exact num (asNum_no_hazard h1) (asInt_no_hazard h2) fun _ _ => hff _ _
    · exact num (asInt_no_hazard h1) (asNum_no_hazard h2) fun _ _ => hff _ _
    · exact num (asInt_no_hazard h1) (asInt_no_hazard h2) fun _ _ => hff _ _
  | cat => simp only [run]; split <;> rfl
  | xor => simp only [run]; split <;> rfl
  | _ => rfl

/-- the accessors of a numeric case are those of the cell's majors; the two-string and two-boolean cases stand in their own cell -/
def fits : Act → Major → Major → Bool
  | .int, m1, m2 => m1 == .int && m2 == .int
  | .dec c1 c2, m1, m2 => m1 == (bif c1 then .int else .num) && m2 == (bif c2 then .int else .num)
  | .cat, m1, m2 => m1 == .str && m2 == .str
  | .xor, m1, m2 => m1 == .bool && m2 == .bool
  | _, _, _ => true

/-- major of the value a case returns in the cell (m1, m2); `none`: it returns no value -/
def major : Act → Major → Major → Option Major
  | .nocase, _, _ | .unm, _, _ => none
  | .null m, _, _ => some m
  | .null2, _, m2 | .snd, _, m2 => some m2
  | .fst, m1, _ => some m1
  | .int, _, _ => some .int
  | .dec _ _, _, _ => some .num
  | .cat, _, _ => some .str
  | .xor, _, _ => some .bool

/-- a null or a number of the cell's type, whatever the scalar function returns -/
theorem okP_num {α β γ} {r1 : Res α} {r2 : Res β} {g : α → β → Res γ} {k : γ → Val} {t : Ty} {c : Bool} {P : Val → Prop}
    (hn : P (.null t)) (hk : ∀ x, P (k x)) :
    Res.okP P (if c = true then .ok (.null t) else r1 >>= fun x => r2 >>= fun y => g x y >>= fun r => pure (k r)) := by
  split
  · exact okP_ok hn
  · exact okP_bind _ _ fun x _ => okP_bind _ _ fun y _ => okP_bind _ _ fun r _ => okP_pure (hk r)

/-- **Run-time type and provenance of what a case returns**, in its cell at level 0. -/
theorem run_ok {act : Act} (hl1 : a1.type.level = 0) (hl2 : a2.type.level = 0) (hf : act.fits a1.type.major a2.type.major = true) :
    Res.okP (fun v => (v.type.level = 0 ∧ act.major a1.type.major a2.type.major = some v.type.major) ∧ Prov a1 a2 v)
      (act.run ii ff a1 a2) := by
  have fr : ∀ {v : Val} {m : Major}, v.type = { major := m } → v.fresh = true →
      (v.type.level = 0 ∧ some m = some v.type.major) ∧ Prov a1 a2 v :=
    fun ht hf => ⟨by rw [ht]; exact ⟨rfl, rfl⟩, Prov.fresh hf⟩
  cases act with
  | nocase => exact okP_inv
  | unm => exact okP_unm
  | null m => exact okP_ok (fr rfl rfl)
  | null2 => exact okP_ok ⟨⟨hl2, rfl⟩, .inr (.inr (.inl rfl))⟩
  | fst => exact okP_ok ⟨⟨hl1, rfl⟩, .inl rfl⟩
  | snd => exact okP_ok ⟨⟨hl2, rfl⟩, .inr (.inl rfl)⟩
  | int => exact okP_num (fr rfl rfl) fun _ => fr rfl rfl
  | dec c1 c2 => cases c1 <;> cases c2 <;> exact okP_num (fr rfl rfl) fun _ => fr rfl rfl
  | cat =>
    simp only [fits, Bool.and_eq_true, beq_iff_eq] at hf
    simp only [run]
    split
    · exact okP_ok (fr rfl rfl)
    · exact okP_ok (fr rfl rfl)
    · exact okP_ok ⟨⟨hl2, by rw [hf.2]; rfl⟩, .inr (.inl rfl)⟩
  | xor =>
    simp only [fits, Bool.and_eq_true, beq_iff_eq] at hf
    simp only [run]
    split
    · exact okP_ok (fr rfl rfl)
    · exact okP_ok ⟨⟨hl2, by rw [hf.2]; rfl⟩, .inr (.inl rfl)⟩
    · exact okP_ok ⟨⟨hl1, by rw [hf.1]; rfl⟩, .inl rfl⟩

/-- In its own cell, on well-formed operands of level 0, a case raises what its scalar function raises — nothing else: the typed
accessors meet a value of their own type. -/
theorem run_errP {E : Nat → Prop} (hii : ∀ x y, Res.errP E (ii x y)) (hff : ∀ x y, Res.errP E (ff x y)) {act : Act} (hact : act ≠ .nocase)
    (h1 : a1.tabOk = true) (h2 : a2.tabOk = true) (hl1 : a1.type.level = 0) (hl2 : a2.type.level = 0)
    (hf : act.fits a1.type.major a2.type.major = true) : Res.errP E (act.run ii ff a1 a2) := by
  have num := @numCell (Res.errP E) (fun _ => errP_ok) errP_bind
  cases act with
  | nocase => exact absurd rfl hact
  | unm => exact errP_unm
  | int =>
    simp only [fits, Bool.and_eq_true, beq_iff_eq] at hf
    exact num (asInt_errP h1 hl1 hf.1) (asInt_errP h2 hl2 hf.2) hii
  | dec c1 c2 =>
    cases c1 <;> cases c2 <;> simp only [fits, cond_true, cond_false, Bool.and_eq_true, beq_iff_eq] at hf
    · exact num (asNum_errP h1 hl1 hf.1) (asNum_errP h2 hl2 hf.2) hff
    · exact num (asNum_errP h1 hl1 hf.1) (asInt_errP h2 hl2 hf.2) fun _ _ => hff _ _
    · exact num (asInt_errP h1 hl1 hf.1) (asNum_errP h2 hl2 hf.2) fun _ _ => hff _ _
    · exact num (asInt_errP h1 hl1 hf.1) (asInt_errP h2 hl2 hf.2) fun _ _ => hff _ _
  | cat => simp only [run]; split <;> exact errP_ok
  | xor => simp only [run]; split <;> exact errP_ok
  | _ => exact errP_ok

end Act

/-! ### the relational operators: `==` `!=` use no accessor and raise no error at all; `< <= > >=` read the operands through the accessors
that the first operand's major selects -/

theorem eqCore_total (same : Bool) (a1 a2 : Val) : (∃ b, eqCore same a1 a2 = .ok b) ∨ eqCore same a1 a2 = .unmodelled := by
  fun_cases eqCore same a1 a2
  all_goals first | exact Or.inl ⟨_, rfl⟩ | exact Or.inr rfl

theorem neCore_total (same : Bool) (a1 a2 : Val) : (∃ b, neCore same a1 a2 = .ok b) ∨ neCore same a1 a2 = .unmodelled := by
  fun_cases neCore same a1 a2
  all_goals first | exact Or.inl ⟨_, rfl⟩ | exact Or.inr rfl

/-- `opEq` and `opNe` have one shape, `ho`: the boolean null when an operand is null, else the boolean of a core that returns a value or is
unmodelled (a complex operand). Hence no hazard, a fresh boolean, no error at all. -/
theorem eqShape_total {c : Prop} [Decidable c] {r : Res Bool} (h : (∃ b, r = .ok b) ∨ r = .unmodelled) {o : Res Val}
    (ho : o = if c then .ok (.null Ty.bool) else boolRes r) :
    o.isHazard = false ∧ Res.okP (fun v => v.type = Ty.bool ∧ v.fresh = true) o ∧ ∀ E, Res.errP E o := by
  subst ho
  split
  · exact ⟨rfl, okP_ok ⟨rfl, rfl⟩, fun _ => errP_ok⟩
  · rcases h with ⟨b, rfl⟩ | rfl
    · exact ⟨rfl, okP_ok ⟨rfl, rfl⟩, fun _ => errP_ok⟩
    · exact ⟨rfl, okP_unm, fun _ => errP_unm⟩

theorem opEq_total (same : Bool) (a1 a2 : Val) : (opEq same a1 a2).isHazard = false ∧
    Res.okP (fun v => v.type = Ty.bool ∧ v.fresh = true) (opEq same a1 a2) ∧ ∀ E, Res.errP E (opEq same a1 a2) :=
  eqShape_total (eqCore_total same a1 a2) rfl

theorem opNe_total (same : Bool) (a1 a2 : Val) : (opNe same a1 a2).isHazard = false ∧
    Res.okP (fun v => v.type = Ty.bool ∧ v.fresh = true) (opNe same a1 a2) ∧ ∀ E, Res.errP E (opNe same a1 a2) :=
  eqShape_total (neCore_total same a1 a2) rfl

/-- `== != < <= > >=` test `a1.isNull() || a2.isNull()` before they look at any type: the boolean null. -/
theorem evalBin_rel_null (op : BinOp) (hop : op = .eq ∨ op = .ne ∨ op = .lt ∨ op = .le ∨ op = .gt ∨ op = .ge)
    (a b : Val) (same : Bool) (hn : a.isNull = true ∨ b.isNull = true) : evalBin op a b same = .ok (.null Ty.bool) := by
  have h : (a.isNull || b.isNull) = true := by simpa using hn
  rcases hop with rfl | rfl | rfl | rfl | rfl | rfl <;> exact if_pos h

theorem ordered_no_hazard {ci : Int64 → Int64 → Bool} {cf : F64 → F64 → Bool} {cs : Ordering → Bool} {a1 a2 : Val}
    (h1 : a1.tabOk = true) (h2 : a2.tabOk = true) : (ordered ci cf cs a1 a2).isHazard = false := by
  unfold ordered
  split
  · rfl
  · rename_i hn
    simp only [Bool.or_eq_true, not_or, Bool.not_eq_true] at hn
    rw [boolRes_isHazard]
    unfold ordCore
    split
    · split
      · exact isHazard_bind _ _ (asInt_no_hazard h1 hn.1) (fun x _ => isHazard_bind _ _ (asNum_no_hazard h2 hn.2) (fun y _ => rfl))
      · exact isHazard_bind _ _ (asInt_no_hazard h1 hn.1) (fun x _ => isHazard_bind _ _ (asInt_no_hazard h2 hn.2) (fun y _ => rfl))
    · split
      · exact isHazard_bind _ _ (asNum_no_hazard h1 hn.1) (fun x _ => isHazard_bind _ _ (asInt_no_hazard h2 hn.2) (fun y _ => rfl))
      · exact isHazard_bind _ _ (asNum_no_hazard h1 hn.1) (fun x _ => isHazard_bind _ _ (asNum_no_hazard h2 hn.2) (fun y _ => rfl))
    · exact isHazard_bind _ _ (asStr_no_hazard h1 hn.1) (fun x _ => isHazard_bind _ _ (asStr_no_hazard h2 hn.2) (fun y _ => rfl))
    · rfl

theorem ordered_ok {ci : Int64 → Int64 → Bool} {cf : F64 → F64 → Bool} {cs : Ordering → Bool} (a1 a2 : Val) :
    Res.okP (fun v => v.type = Ty.bool ∧ v.fresh = true) (ordered ci cf cs a1 a2) := by
  unfold ordered
  split
  · exact okP_ok ⟨rfl, rfl⟩
  · exact okP_boolRes _ (fun b => ⟨rfl, rfl⟩)

/-- The cells in which an ordering comparison of two non-null level-0 operands raises no type error:
number with number, string with string, or a first operand that is neither (the C++ returns false). -/
def ordCell (m1 m2 : Major) : Bool :=
  match m1 with
  | .int | .num => m2 == .int || m2 == .num
  | .str => m2 == .str
  | _ => true

theorem ordered_errP (E : Nat → Prop) {ci : Int64 → Int64 → Bool} {cf : F64 → F64 → Bool} {cs : Ordering → Bool} {a1 a2 : Val}
    (h1 : a1.tabOk = true) (h2 : a2.tabOk = true) (hl1 : a1.type.level = 0) (hl2 : a2.type.level = 0)
    (hc : a1.isNull = false → a2.isNull = false → ordCell a1.type.major a2.type.major = true) :
    Res.errP E (ordered ci cf cs a1 a2) := by
  unfold ordered
  split
  · exact errP_ok
  · rename_i hn
    simp only [Bool.or_eq_true, not_or, Bool.not_eq_true] at hn
    have hc := hc hn.1 hn.2
    apply errP_boolRes
    unfold ordCore
    split
    · rename_i e1
      rw [e1] at hc
      simp only [ordCell, Bool.or_eq_true, beq_iff_eq] at hc
      split
      · rename_i e2; simp only [beq_iff_eq] at e2
        exact errP_bind _ _ (asInt_errP h1 hl1 e1 hn.1) (fun x _ => errP_bind _ _ (asNum_errP h2 hl2 e2 hn.2) (fun y _ => errP_ok))
      · rename_i e2; simp only [beq_iff_eq] at e2
        exact errP_bind _ _ (asInt_errP h1 hl1 e1 hn.1) (fun x _ => errP_bind _ _ (asInt_errP h2 hl2 (hc.resolve_right e2) hn.2) (fun y _ => errP_ok))
    · rename_i e1
      rw [e1] at hc
      simp only [ordCell, Bool.or_eq_true, beq_iff_eq] at hc
      split
      · rename_i e2; simp only [beq_iff_eq] at e2
        exact errP_bind _ _ (asNum_errP h1 hl1 e1 hn.1) (fun x _ => errP_bind _ _ (asInt_errP h2 hl2 e2 hn.2) (fun y _ => errP_ok))
      · rename_i e2; simp only [beq_iff_eq] at e2
        exact errP_bind _ _ (asNum_errP h1 hl1 e1 hn.1) (fun x _ => errP_bind _ _ (asNum_errP h2 hl2 (hc.resolve_left e2) hn.2) (fun y _ => errP_ok))
    · rename_i e1
      rw [e1] at hc
      simp only [ordCell, beq_iff_eq] at hc
      exact errP_bind _ _ (asStr_errP h1 hl1 e1 hn.1) (fun x _ => errP_bind _ _ (asStr_errP h2 hl2 hc hn.2) (fun y _ => errP_ok))
    · exact errP_ok

/-! ### `and` `or` `xor` — stated for an arbitrary (lazy) second operand -/

/-- An operand `and` / `or` have a case for (what `assertType(…, BOOLEAN)` lets through): of level 0, untyped or boolean. -/
structure Val.Logical (v : Val) : Prop where
  level : v.type.level = 0
  major : v.type.major = .none ∨ v.type.major = .bool

/-- What `and` / `or` make of the second operand `v2` once evaluated (`r`): no case unless it is logical, and then a boolean or a boolean
null that the operator builds. -/
abbrev LazySnd (v2 : Val) (r : Res Val) : Prop :=
  (¬v2.Logical ∧ r = inv) ∨ (v2.Logical ∧ ∃ v, r = .ok v ∧ v.type = Ty.bool ∧ v.fresh = true)

/-- The outcome `r` of `op_band.cpp` / `op_bior.cpp`; `d` is the first operand that decides (`false` for `and`, `true` for `or`). No case for
a first operand that is not logical; the answer is `d` when the first operand is `d`; otherwise the second operand is evaluated. -/
abbrev LazyCase (d : Bool) (a1 : Val) (a2 : Unit → Res Val) (r : Res Val) : Prop :=
  (¬a1.Logical ∧ r = inv) ∨ (a1 = .bool d ∧ r = .ok (.bool d)) ∨
    (a1.Logical ∧ a1 ≠ .bool d ∧ ∃ f : Val → Res Val, r = a2 () >>= f ∧ ∀ v2, LazySnd v2 (f v2))

/-- The shape the two operators share (`LazyCase` takes the outcome as an argument, so that a walk through an operator's body meets it once). -/
def LazyShape (d : Bool) (op : Val → (Unit → Res Val) → Res Val) : Prop := ∀ a1 a2, LazyCase d a1 a2 (op a1 a2)

/-- The test that both operators put the evaluated second operand through, wherever they evaluate it; `b` is the answer for a boolean.
(The `match` is that of the operators' own text, alternatives in their order: only so does the lemma apply to that text as it stands.) -/
theorem lazySnd_test (v2 : Val) (b : Res Val) (hb : ∃ v, b = .ok v ∧ v.type = Ty.bool ∧ v.fresh = true) :
    LazySnd v2 (if v2.type.level != 0 then inv else
      match v2.type.major with
      | .none => pure (.null Ty.bool)
      | .bool => b
      | _ => inv) := by
  split
  · rename_i h
    exact .inl ⟨fun l => by simp [l.1] at h, rfl⟩
  rename_i h
  simp only [bne_iff_ne, ne_eq, Decidable.not_not] at h
  split
  · exact .inr ⟨⟨h, .inl ‹_›⟩, _, rfl, rfl, rfl⟩
  · exact .inr ⟨⟨h, .inr ‹_›⟩, hb⟩
  · exact .inl ⟨fun l => l.2.elim ‹_› ‹_›, rfl⟩

/-- The two are mirror images: one walk for both. -/
theorem lazy_shape : LazyShape false opBand ∧ LazyShape true opBior := by
  constructor
  all_goals
    intro a1 a2
    first | unfold opBand | unfold opBior
    split
    · -- a table
      rename_i h
      exact .inl ⟨fun l => by simp [l.1] at h, rfl⟩
    rename_i h
    simp only [bne_iff_ne, ne_eq, Decidable.not_not] at h
    split
    · -- untyped, hence not `d`: the second operand is evaluated; a boolean is answered by a boolean or the boolean null
      rename_i hm
      refine .inr (.inr ⟨⟨h, .inl hm⟩, (fun e => by subst e; cases hm), _, rfl, fun v2 => lazySnd_test v2 _ ?_⟩)
      split <;> exact ⟨_, rfl, rfl, rfl⟩
    · -- boolean: `d` decides; a boolean null or `!d` has the second operand evaluated, as above
      rename_i hm
      split
      · exact .inr (.inl ⟨rfl, rfl⟩)
      rename_i hd
      refine .inr (.inr ⟨⟨h, .inr hm⟩, hd, _, rfl, fun v2 => lazySnd_test v2 _ ?_⟩)
      repeat' split
      all_goals exact ⟨_, rfl, rfl, rfl⟩
    · -- any other major
      exact .inl ⟨fun l => l.2.elim ‹_› ‹_›, rfl⟩

namespace LazyShape
variable {d : Bool} {op : Val → (Unit → Res Val) → Res Val} (h : LazyShape d op)
include h

theorem no_hazard (a1 : Val) (a2 : Unit → Res Val) (h2 : (a2 ()).isHazard = false) : (op a1 a2).isHazard = false := by
  rcases h a1 a2 with ⟨_, e⟩ | ⟨_, e⟩ | ⟨_, _, f, e, hf⟩ <;> rw [e]
  · rfl
  · rfl
  · refine isHazard_bind _ _ h2 fun v2 _ => ?_
    rcases hf v2 with ⟨_, e⟩ | ⟨_, v, e, _⟩ <;> rw [e] <;> rfl

theorem ok (a1 : Val) (a2 : Unit → Res Val) : Res.okP (fun v => v.type = Ty.bool ∧ v.fresh = true) (op a1 a2) := by
  rcases h a1 a2 with ⟨_, e⟩ | ⟨_, e⟩ | ⟨_, _, f, e, hf⟩ <;> rw [e]
  · exact okP_inv
  · exact okP_ok ⟨rfl, rfl⟩
  · refine okP_bind _ _ fun v2 _ => ?_
    rcases hf v2 with ⟨_, e⟩ | ⟨_, v, e, hv⟩ <;> rw [e]
    · exact okP_inv
    · exact okP_ok hv

/-- On logical operands `and` / `or` raise nothing of their own: an error can only come from evaluating the second operand. -/
theorem errP (E : Nat → Prop) (a1 : Val) (a2 : Unit → Res Val) (hl : a1.Logical) (h2 : Res.errP E (a2 ()))
    (h2t : Res.okP Val.Logical (a2 ())) : Res.errP E (op a1 a2) := by
  rcases h a1 a2 with ⟨n, _⟩ | ⟨_, e⟩ | ⟨_, _, f, e, hf⟩
  · exact absurd hl n
  · rw [e]; exact errP_ok
  · rw [e]
    refine errP_bind _ _ h2 fun v2 hv2 => ?_
    rcases hf v2 with ⟨n, _⟩ | ⟨_, v, e, _⟩
    · exact absurd (h2t v2 hv2) n
    · rw [e]; exact errP_ok

end LazyShape

theorem opBand_no_hazard (a1 : Val) (a2 : Unit → Res Val) (h : (a2 ()).isHazard = false) : (opBand a1 a2).isHazard = false :=
  lazy_shape.1.no_hazard a1 a2 h

theorem opBior_no_hazard (a1 : Val) (a2 : Unit → Res Val) (h : (a2 ()).isHazard = false) : (opBior a1 a2).isHazard = false :=
  lazy_shape.2.no_hazard a1 a2 h

-- a row of the table, but `Act.run_no_hazard` asks for `tabOk`; without it, off the function's own text
theorem opBxor_no_hazard (a1 a2 : Val) : (opBxor a1 a2).isHazard = false := by
  fun_cases opBxor a1 a2
  all_goals rfl

theorem evalUn_no_hazard_all (op : UnOp) (a1 : Val) : (evalUn op a1).isHazard = false := by
  fun_cases evalUn op a1
  all_goals rfl

/-- What a unary operator returns: the operand or a fresh scalar, of level 0 and of the static rule's major; `-x`, `+x` of the operand's type. -/
theorem evalUn_ok (op : UnOp) (a1 : Val) :
    Res.okP (fun v => (v = a1 ∨ v.fresh = true) ∧ (v.type.level = 0 ∧ v.type.major = (typeUn op a1.type).major) ∧
      (op = .neg ∨ op = .pos → v.type = a1.type)) (evalUn op a1) := by
  unfold evalUn
  split
  · exact okP_inv
  · rename_i hl
    simp only [bne_iff_ne, ne_eq, Decidable.not_not] at hl
    -- each cell returns the operand itself (of the type the cell names) or a fresh scalar / null of the static type
    split
    all_goals try split
    all_goals first
      | exact okP_inv | exact okP_unm
      | exact okP_ok ⟨.inl rfl, ⟨hl, rfl⟩, fun _ => rfl⟩
      | exact okP_ok ⟨.inl rfl, ⟨hl, ‹_›⟩, fun _ => rfl⟩
      | exact okP_ok ⟨.inr rfl, ⟨rfl, rfl⟩, fun _ => rfl⟩
      | exact okP_ok ⟨.inr rfl, ⟨rfl, rfl⟩, nofun⟩

theorem evalUn_prov (op : UnOp) (a1 : Val) : Res.okP (fun v => v = a1 ∨ v.fresh = true) (evalUn op a1) :=
  okP_mono (evalUn_ok op a1) fun _ h => h.1

/-- The cells in which a unary operator's `value()` has a case. -/
def unCell (op : UnOp) (m : Major) : Bool :=
  match op with
  | .neg | .pos => m == .none || m == .int || m == .num || m == .imag
  | .not => m == .none || m == .int
  | .bnot => m == .none || m == .bool

theorem evalUn_errP (E : Nat → Prop) (op : UnOp) (a1 : Val) (hl : a1.type.level = 0) (hc : unCell op a1.type.major = true) :
    Res.errP E (evalUn op a1) := by
  unfold evalUn
  simp only [hl, bne_self_eq_false, Bool.false_eq_true, ↓reduceIte]
  cases op <;> simp only [unCell, Bool.or_eq_true, beq_iff_eq] at hc
  case neg => rcases hc with ((e | e) | e) | e <;> simp only [e] <;> first | exact errP_ok | exact errP_unm | (split <;> exact errP_ok)
  case pos => rcases hc with ((e | e) | e) | e <;> simp only [e] <;> exact errP_ok
  case not => rcases hc with e | e <;> simp only [e] <;> first | exact errP_ok | (split <;> exact errP_ok)
  case bnot => rcases hc with e | e <;> simp only [e] <;> first | exact errP_ok | (split <;> exact errP_ok)

theorem evalBin_no_hazard_all (op : BinOp) (a b : Val) (same : Bool) (ha : a.tabOk = true) (hb : b.tabOk = true) :
    (evalBin op a b same).isHazard = false := by
  by_cases hop : GenOps.eagerSwitch op = true
  · rw [evalBin_eq op hop, switchOn]
    split
    · rfl
    · exact Act.run_no_hazard (fun x y => dbzOnly_no_hazard (intFn_dbzOnly op x y)) (fun x y => dbzOnly_no_hazard (fop_dbzOnly op x y)) ha hb
  cases op
  case eq => exact (opEq_total same a b).1
  case ne => exact (opNe_total same a b).1
  case lt | le | gt | ge => exact ordered_no_hazard ha hb
  case band => exact lazy_shape.1.no_hazard a (fun _ => .ok b) rfl
  case bior => exact lazy_shape.2.no_hazard a (fun _ => .ok b) rfl
  all_goals exact absurd rfl hop

/-- no hazard and `tabOk` of the value go through the `match r with | .ok v => f v | r => r` of `LExpr.pure` -/
theorem tabOk_pass {r : Res Val} {f : Val → Res Val} (hr : r.isHazard = false ∧ ∀ v, r = .ok v → v.tabOk = true)
    (hf : ∀ v, v.tabOk = true → (f v).isHazard = false ∧ ∀ w, f v = .ok w → w.tabOk = true) :
    (match r with | .ok v => f v | r => r).isHazard = false ∧
      ∀ w, (match r with | .ok v => f v | r => r) = .ok w → w.tabOk = true := by
  cases r with
  | ok v => exact hf v (hr.2 v rfl)
  | haz h => cases hr.1
  | _ => exact ⟨rfl, fun _ h => by cases h⟩

theorem getD_tabOk (l : List Val) (i : Nat) (h : ∀ v ∈ l, v.tabOk = true) : (l.getD i (.null Ty.none)).tabOk = true := by
  rw [List.getD_eq_getElem?_getD]
  cases hi : l[i]? with
  | none => rfl
  | some v => exact h v (List.mem_of_getElem? hi)

/-! ### run-time majors and cells as functions of the operands' majors (the regions of C02's statements are written with these) -/

/-- Major type of a value returned by `arith` as a function of the operands' majors. -/
def arithMajor (nn m1 m2 : Major) : Major :=
  match m1, m2 with
  | .none, .none => nn
  | .none, m => m
  | .int, .none | .int, .int => .int
  | _, _ => .num

def addMajor (m1 m2 : Major) : Major :=
  match m1, m2 with
  | .none, .str | .str, .none | .str, .str => .str
  | _, _ => arithMajor .num m1 m2

/-- a major that `typeChecking (…) NUMERIC` lets through at level 0 -/
def numish (m : Major) : Bool := m == .none || m == .int || m == .num || m == .imag

/-- The (major, major) cells in which `op_add.cpp` has a case. -/
def addCell (m1 m2 : Major) : Bool :=
  match m1, m2 with
  | .none, .str | .str, .none | .str, .str => true
  | _, _ => numish m1 && numish m2

/-- Major type of the value a binary operator returns, as a function of the operands' majors (meaningful in the
cells where the operator returns a value at all). -/
def binMajor (op : BinOp) (m1 m2 : Major) : Major :=
  match op with
  | .add => addMajor m1 m2
  | .sub | .mul | .div | .exp => arithMajor .num m1 m2
  | .mod => arithMajor .none m1 m2
  | .and | .ior | .xor | .pop | .pus => .int
  | _ => .bool

/-- The cells in which a binary operator can return a value: those in which the case of a switch-form operator returns one; any, for the
relational and the lazy operators (level 0 is implied for all but `==`, `!=` and the orderings, which accept any operands). -/
def binCell (op : BinOp) (m1 m2 : Major) : Bool := !GenOps.eagerSwitch op || ((binAct op m1 m2).major m1 m2).isSome

def allMajors : List Major := [.none, .bool, .int, .num, .str, .obj, .raw, .tup, .ptr, .imag]
theorem mem_allMajors (m : Major) : m ∈ allMajors := by cases m <;> decide
def allBinOps : List BinOp :=
  [.add, .sub, .mul, .div, .exp, .mod, .and, .ior, .xor, .pop, .pus, .eq, .ne, .lt, .le, .gt, .ge, .band, .bior, .bxor]
theorem mem_allBinOps (op : BinOp) : op ∈ allBinOps := by cases op <;> decide

/-- the twelve operators of the table -/
def switchOps : List BinOp := allBinOps.filter GenOps.eagerSwitch
theorem mem_switchOps {op : BinOp} (hop : GenOps.eagerSwitch op = true) : op ∈ switchOps :=
  List.mem_filter.2 ⟨mem_allBinOps op, hop⟩

/-- Where the cases stand: a numeric case reads its operands through the accessors of the cell's majors, and a case that returns a value
returns one of major `binMajor`. -/
theorem binAct_kind : ∀ op ∈ switchOps, ∀ m1 ∈ allMajors, ∀ m2 ∈ allMajors, (binAct op m1 m2).fits m1 m2 = true ∧
    ∀ m, (binAct op m1 m2).major m1 m2 = some m → m = binMajor op m1 m2 := by
  decide +kernel

/-- The relational and the lazy operators return a boolean or a boolean null that they build themselves. -/
theorem evalBin_bool (op : BinOp) (hop : GenOps.eagerSwitch op = false) (a b : Val) (same : Bool) :
    Res.okP (fun v => v.type = Ty.bool ∧ v.fresh = true) (evalBin op a b same) := by
  cases op
  case eq => exact (opEq_total same a b).2.1
  case ne => exact (opNe_total same a b).2.1
  case lt | le | gt | ge => exact ordered_ok a b
  case band => exact lazy_shape.1.ok a fun _ => .ok b
  case bior => exact lazy_shape.2.ok a fun _ => .ok b
  all_goals cases hop

/-- **Run-time type and provenance of every operator result**, for ALL operand values: level 0, the major given by `binMajor`,
the operands were in a cell of `binCell`; and the value is an operand, a null of the second operand's type or a fresh scalar. -/
theorem evalBin_ok (op : BinOp) (a b : Val) (same : Bool) :
    Res.okP (fun v => (v.type.level = 0 ∧ v.type.major = binMajor op a.type.major b.type.major ∧
      binCell op a.type.major b.type.major = true) ∧ Prov a b v) (evalBin op a b same) := by
  by_cases hop : GenOps.eagerSwitch op = true
  · rw [evalBin_eq op hop, switchOn]
    split
    · exact okP_inv
    · rename_i hg
      simp only [bne_iff_ne, ne_eq, Bool.or_eq_true, not_or, Decidable.not_not] at hg
      obtain ⟨hf, hm⟩ := binAct_kind op (mem_switchOps hop) _ (mem_allMajors a.type.major) _ (mem_allMajors b.type.major)
      refine okP_mono (Act.run_ok hg.1 hg.2 hf) fun v h => ?_
      exact ⟨⟨h.1.1, hm _ h.1.2, by simp only [binCell, h.1.2, Option.isSome_some, Bool.or_true]⟩, h.2⟩
  have hop : GenOps.eagerSwitch op = false := by simpa using hop
  have hb := evalBin_bool op hop a b same
  have hm : binMajor op a.type.major b.type.major = .bool := by
    cases op <;> first | (cases hop; done) | rfl
  exact fun v hv => ⟨by rw [(hb v hv).1]; exact ⟨rfl, hm.symm, by rw [binCell, hop]; rfl⟩, Prov.fresh (hb v hv).2⟩

theorem evalBin_ok_kind (op : BinOp) (a b : Val) (same : Bool) :
    Res.okP (fun v => v.type.level = 0 ∧ v.type.major = binMajor op a.type.major b.type.major ∧
      binCell op a.type.major b.type.major = true) (evalBin op a b same) :=
  okP_mono (evalBin_ok op a b same) fun _ h => h.1

theorem evalBin_prov (op : BinOp) (a b : Val) (same : Bool) : Res.okP (Prov a b) (evalBin op a b same) :=
  okP_mono (evalBin_ok op a b same) fun _ h => h.2

/-! ### static type rule against run-time major: the finite table, decided once -/

theorem typeBin_majors (op : BinOp) (s1 s2 : Ty) : typeBin op s1 s2 = typeBin op { major := s1.major } { major := s2.major } := by
  cases op <;> rfl

/-- A static operand major as the parser may know it: the operand's own, or opaque. -/
def staticOf (opq : Bool) (m : Major) : Major := bif opq then .none else m

/-- The cells in which the static rule of `- * / ** %` names another major than the value has (`typeTable`: exactly these), on static majors
`s1 s2` and run-time majors `m1 m2`; on types, and in the C++'s terms: `C02.binTypeGap`. -/
def binTypeGapM (op : BinOp) (s1 s2 m1 m2 : Major) : Bool :=
  match op with
  | .sub | .mul | .div | .exp | .mod =>
    let r := binMajor op m1 m2
    (r == .int && !(s1 == .int && s2 == .int)) || r == .none || (r == .imag && !(s1 == .imag || s2 == .imag))
  | _ => false

/-- The operators whose static rule looks at the operands: `+`, `-` (`* / **` have the same rule, run-time major, cells and gap: the
same match arms), `%` — every cell, every static knowledge of the operands. -/
theorem typeTable : ∀ op ∈ [BinOp.add, .sub, .mod], ∀ m1 ∈ allMajors, ∀ m2 ∈ allMajors, ∀ o1 o2 : Bool,
    binCell op m1 m2 = true → (typeBin op { major := staticOf o1 m1 } { major := staticOf o2 m2 }).defined = true →
      (binTypeGapM op (staticOf o1 m1) (staticOf o2 m2) m1 m2 = false →
        binMajor op m1 m2 = (typeBin op { major := staticOf o1 m1 } { major := staticOf o2 m2 }).major) ∧
      (binTypeGapM op (staticOf o1 m1) (staticOf o2 m2) m1 m2 = true →
        binMajor op m1 m2 ≠ (typeBin op { major := staticOf o1 m1 } { major := staticOf o2 m2 }).major) := by
  decide +kernel

/-- The static rule against the run-time major, for static operand types that are the operand's own or opaque. -/
theorem typeTable_spec (op : BinOp) (s1 s2 : Ty) {m1 m2 : Major} (hs1 : s1.major = m1 ∨ s1.major = .none)
    (hs2 : s2.major = m2 ∨ s2.major = .none) (hc : binCell op m1 m2 = true) (hd : (typeBin op s1 s2).defined = true) :
    (binTypeGapM op s1.major s2.major m1 m2 = false → binMajor op m1 m2 = (typeBin op s1 s2).major) ∧
    (binTypeGapM op s1.major s2.major m1 m2 = true → binMajor op m1 m2 ≠ (typeBin op s1 s2).major) := by
  -- the rule looks at the majors only, and each static major is the operand's or opaque: an entry of the table
  obtain ⟨o1, e1⟩ : ∃ o, s1.major = staticOf o m1 := hs1.elim (⟨false, ·⟩) (⟨true, ·⟩)
  obtain ⟨o2, e2⟩ : ∃ o, s2.major = staticOf o m2 := hs2.elim (⟨false, ·⟩) (⟨true, ·⟩)
  rw [typeBin_majors, e1, e2] at hd ⊢
  have row := fun op hop => typeTable op hop m1 (mem_allMajors m1) m2 (mem_allMajors m2) o1 o2
  cases op
  case add => exact row .add (by decide) hc hd
  case sub | mul | div | exp => exact row .sub (by decide) hc hd
  case mod => exact row .mod (by decide) hc hd
  -- the bitwise and the boolean-valued operators: a constant rule, the same constant at run time, no gap
  all_goals exact ⟨fun _ => rfl, nofun⟩

/-- The static rule names six types, all plain scalar types. -/
theorem typeBin_mem (op : BinOp) (s1 s2 : Ty) : typeBin op s1 s2 ∈ [Ty.str, Ty.imag, Ty.int, Ty.num, Ty.none, Ty.bool] := by
  fun_cases typeBin op s1 s2
  all_goals decide

theorem typeBin_plain (op : BinOp) (s1 s2 : Ty) :
    (typeBin op s1 s2).minor = 0 ∧ (typeBin op s1 s2).level = 0 ∧ (typeBin op s1 s2).major ≠ .obj ∧ (typeBin op s1 s2).major ≠ .tup :=
  have plain : ∀ t ∈ [Ty.str, Ty.imag, Ty.int, Ty.num, Ty.none, Ty.bool], t.minor = 0 ∧ t.level = 0 ∧ t.major ≠ .obj ∧ t.major ≠ .tup := by
    decide
  plain _ (typeBin_mem op s1 s2)

/-- "A compound type cannot be opaque" (EXC_RT_COMPOUND_OPAQUE): there is no table of the opaque type. -/
def Ty.noOpaqueTable (t : Ty) : Bool := t.major != .none || t.level == 0

theorem nonnull_major_ne_none {a : Val} (hw : a.tabOk = true) (hp : a.type.noOpaqueTable = true) (hn : a.isNull = false) :
    a.type.major ≠ .none := by
  cases a with
  | null t => simp [Val.isNull] at hn
  | tup d it => simp [Val.type, makeTupleTy_major]
  | tab t d e =>
    simp only [Val.tabOk, decide_eq_true_eq, Val.type, Ty.noOpaqueTable, Bool.or_eq_true, bne_iff_ne, ne_eq, beq_iff_eq] at hw hp ⊢
    rcases hp with h | h
    · exact h
    · omega
  | _ => simp [Val.type, Ty.bool, Ty.int, Ty.num, Ty.imag, Ty.str, Ty.raw]

/-- The plain type `ty` itself or the opaque type, which is of level 0 too: there is no opaque table. -/
theorem self_or_opaque {t : Ty} (ty : Ty) (h : t = ty ∨ t.major = .none) (hp : t.noOpaqueTable = true) (h0 : ty.level = 0) :
    t.level = 0 ∧ (t.major == .none || t.major == ty.major) = true := by
  rcases h with rfl | e
  · exact ⟨h0, by simp⟩
  · exact ⟨by simpa [Ty.noOpaqueTable, e] using hp, by simp [e]⟩

theorem typeChecking_num {t : Ty} (h : typeChecking t Ty.num = true) (hp : t.noOpaqueTable = true) :
    t.level = 0 ∧ numish t.major = true := by
  -- the type itself, the opaque type, or (level 0) one of the two majors that convert to `num`
  have : t = Ty.num ∨ t.major = .none ∨ t.level = 0 ∧ (t.major = .int ∨ t.major = .imag) := by
    simpa [typeChecking, Ty.num, or_assoc] using h
  rcases this with rfl | e | ⟨l, e | e⟩
  · exact ⟨rfl, rfl⟩
  · exact ⟨(self_or_opaque Ty.num (.inr e) hp rfl).1, by rw [e]; rfl⟩
  · exact ⟨l, by rw [e]; rfl⟩
  · exact ⟨l, by rw [e]; rfl⟩

/-- No conversion leads to `bool`. -/
theorem typeChecking_bool {t : Ty} (h : typeChecking t Ty.bool = true) (hp : t.noOpaqueTable = true) :
    t.level = 0 ∧ (t.major == .none || t.major == .bool) = true :=
  self_or_opaque Ty.bool (by simpa [typeChecking, Ty.bool] using h) hp rfl

theorem typeUniform_int {t : Ty} (h : typeUniform t Ty.int = true) (hp : t.noOpaqueTable = true) :
    t.level = 0 ∧ (t.major == .none || t.major == .int) = true :=
  self_or_opaque Ty.int (by simpa [typeUniform, Ty.int] using h) hp rfl

end BlocV
