/-
  Lemmas for the sequence-level refinement `file_refines_spec` (Proofs/C18F.lean): the `fgetc` loop of `readln` is the
  specification's `sline` (`readlnScan_eq`; the `sline_*` facts are what the readln theorems quote); `read` and `write` on a handle in closed
  form (`readH_eq`, `writeH_eq`), `readln` up to the record it leaves (`readlnH_moved`); every stream call of the model on an
  open handle is one `Spec.File.sstep` on the abstraction and changes the record of the last transfer as `Dir` says, or
  answers `undefinedSeq`, and then for one of two reasons (`Answers`, `step_refines`; the driver's test for a stream call
  is the theorems' `StreamOp`: `isStreamOp_iff`); no call answers a hazard (`step_no_hazard`); and what the specification
  itself answers to seek, write, seek, read (`srun_update_roundtrip`, for `file_update_roundtrip`).
-/
import BlocV.Proofs.Lemmas.FileMod
import BlocV.Model.Mod.FileAbs

namespace BlocV.Mod.File
open BlocV.Spec.File (readAt writeAt uptoLF sline LINE_CAP SStream SOp SRes sstep srun SFile sseek swrite sread)

/-- `Handle::readln` = "up to and including the first LF, at most 4096 bytes", for EVERY unread part -/
theorem readlnScan_eq (rest : Bytes) (r : Nat) (acc : Bytes) (k : Nat) :
    (readlnScan rest r acc k).1 = acc ++ uptoLF (rest.take (4096 - r)) ∧
    (readlnScan rest r acc k).2.1 = k + (uptoLF (rest.take (4096 - r))).length := by
  fun_induction readlnScan rest r acc k with
  | case1 => simp [uptoLF]
  | case2 b rest r acc k hfull => rw [Nat.sub_eq_zero_of_le hfull]; simp [uptoLF]
  | case3 rest r acc k hfull =>
    rw [List.take_cons (by omega), uptoLF, if_pos (show LF = 10 from rfl)]; simp
  | case4 b rest r acc k hfull hb ih =>
    rw [List.take_cons (by omega), uptoLF, Nat.sub_sub, if_neg (show ¬ b = 10 from hb), ih.1, ih.2]; simp [Nat.add_assoc, Nat.add_comm 1]

theorem readlnScan_sline (rest : Bytes) : ∃ e, readlnScan rest 0 [] 0 = (sline rest, (sline rest).length, e) :=
  have h := readlnScan_eq rest 0 [] 0
  ⟨_, Prod.ext (h.1.trans (List.nil_append _)) (Prod.ext (h.2.trans (Nat.zero_add _)) rfl)⟩

theorem uptoLF_ne_nil (l : Bytes) (h : l ≠ []) : uptoLF l ≠ [] := by
  cases l with
  | nil => exact absurd rfl h
  | cons b r => unfold uptoLF; split <;> simp

theorem sline_length_pos (rest : Bytes) (h : rest ≠ []) : 0 < (sline rest).length := by
  apply List.length_pos_iff.mpr
  apply uptoLF_ne_nil
  cases rest with
  | nil => exact absurd rfl h
  | cons b r => simp [LINE_CAP]

theorem uptoLF_prefix (l : Bytes) : uptoLF l <+: l := by
  induction l with
  | nil => exact List.prefix_rfl
  | cons b r ih =>
    unfold uptoLF
    split
    · exact ⟨r, rfl⟩
    · exact List.cons_prefix_cons.mpr ⟨rfl, ih⟩

theorem sline_prefix (rest : Bytes) : sline rest <+: rest := (uptoLF_prefix _).trans (List.take_prefix _ _)

theorem sline_length_le (rest : Bytes) : (sline rest).length ≤ 4096 :=
  Nat.le_trans (uptoLF_prefix _).length_le (List.length_take_le LINE_CAP rest)

theorem uptoLF_append (l r : Bytes) (h : ∀ b ∈ l, b ≠ 10) : uptoLF (l ++ r) = l ++ uptoLF r := by
  induction l with
  | nil => rfl
  | cons b t ih =>
    obtain ⟨hb, h⟩ := List.forall_mem_cons.1 h
    simp only [List.cons_append, uptoLF, hb, if_false]
    rw [ih h]

theorem sline_full (rest : Bytes) (h : ∀ b ∈ rest.take 4096, b ≠ 10) : sline rest = rest.take 4096 := by
  unfold sline LINE_CAP
  simpa [uptoLF] using uptoLF_append _ [] h

theorem sline_line (l r : Bytes) (h : ∀ b ∈ l, b ≠ 10) (hl : l.length < 4096) : sline (l ++ 10 :: r) = l ++ [10] := by
  unfold sline LINE_CAP
  rw [List.take_append, List.take_of_length_le (by omega), List.take_cons (by omega), uptoLF_append l _ h]
  simp [uptoLF]

/-- the world after a transfer that moved the stream to `pos'` and left the record `l` -/
def moved (w : World) (f : OFile) (pos' : Nat) (l : LastIO) : World :=
  { w with h := { w.h with file := some { f with pos := pos', last := l } } }

/-- how a request may change the stream's record of the last transfer: a write keeps it or sets `output`, a read keeps it or
    sets `input` / `inputEof`, a seek clears it or fails (which `seekset` to an offset `0 … m` never does), `flush` clears
    `output` -/
def Dir (m : Nat) : SOp → LastIO → LastIO → Prop
  | .write _, old, new => new = old ∨ new = .output
  | .read _, old, new | .readLine, old, new => new = old ∨ new = .input ∨ new = .inputEof
  | .seek wh off, old, new => new = .none ∨ (new = old ∧ ¬ (wh = .set ∧ 0 ≤ off ∧ off.toNat ≤ m))
  | .sync, old, new => new = if old = .output then .none else old
  | .tell, old, new => new = old

/-- the answer `X` (world and result) to a call on the handle `f` is what the request `r` of the specification gives on
    the abstraction, and the record of the last transfer has changed as `Dir` allows -/
def Answers (w : World) (f : OFile) (r : SOp) (X : World × Res) : Prop :=
  ∃ f', X.1.h.file = some f' ∧ X.1.fs.maxOff = w.fs.maxOff ∧ Dir w.fs.maxOff r f.last f'.last
    ∧ absS X.1 f' = (sstep w.fs.maxOff (absS w f) r).1 ∧ X.2 = resOf (sstep w.fs.maxOff (absS w f) r).2

theorem Answers.defined {w : World} {f : OFile} {r : SOp} {X : World × Res} (h : Answers w f r X) : X.2 ≠ .undefinedSeq := by
  obtain ⟨_, _, _, _, _, e⟩ := h
  rw [e]; unfold resOf; split <;> nofun

/-- what `read(var, n)` delivers -/
def readD (w : World) (f : OFile) (n : Int64) : Bytes :=
  if n.toInt > 0 ∧ f.rd = true then readAt ((w.fs.get f.path).getD []) f.pos n.toInt.toNat else []

/-- `read(var, n)` in closed form: the chunk loop is `readAt`; the record says whether the request was met in full -/
theorem readH_eq (w : World) (f : OFile) (str : Bool) (n : Int64) :
    readH w f str n =
      (if n.toInt > 0 then
          moved w f (f.pos + (readD w f n).length)
            (if f.rd = true then (if (readD w f n).length < n.toInt.toNat then .inputEof else .input) else f.last)
        else w,
        .rd (readD w f n).length (readD w f n)) := by
  unfold readH readD
  by_cases hn : n.toInt > 0
  · cases hrd : f.rd with
    | true =>
      have hloop := readLoop_eq ((w.fs.get f.path).getD []) (readFuel n.toInt) f.pos n.toInt [] (readFuel_ok _)
      simp [hn, hloop, moved, readAt, hrd]
    | false =>
      have hloop := readLoop_noread' ((w.fs.get f.path).getD []) (readFuel n.toInt) f.pos n.toInt
      simp [hn, hloop, moved, hrd]
  · simp [hn]

theorem readH_refines (w : World) (f : OFile) (str : Bool) (n : Int64) (hf : w.h.file = some f) (hr : w.h.r = true) :
    Answers w f (.read n.toInt) (readH w f str n) := by
  rw [readH_eq]
  by_cases hn : n.toInt > 0
  · rw [if_pos hn]
    have hn' : ¬ n.toInt ≤ 0 := by omega
    refine ⟨_, rfl, rfl, ?_, ?_⟩
    · show _ ∨ _ ∨ _
      split
      · split
        · exact .inr (.inr rfl)
        · exact .inr (.inl rfl)
      · exact .inl rfl
    · unfold readD
      cases hrd : f.rd <;> simp [moved, absS, absF, sstep, hr, hrd, hn, hn', Spec.File.sread, readAt, resOf]
  · rw [if_neg hn]
    have hn' : n.toInt ≤ 0 := by omega
    exact ⟨f, hf, rfl, .inl rfl, by simp [absS, sstep, hr, hn, hn', resOf, readD]⟩

/-- what `readln(var)` delivers (`none`: FALSE, nothing stored) -/
def lineD (w : World) (f : OFile) : Option Bytes :=
  if f.rd = true ∧ ((w.fs.get f.path).getD []).drop f.pos ≠ [] then some (sline (((w.fs.get f.path).getD []).drop f.pos)) else none

theorem readlnH_moved (w : World) (f : OFile) :
    ∃ l, (l = f.last ∨ l = .input ∨ l = .inputEof)
      ∧ readlnH w f = (moved w f (f.pos + ((lineD w f).getD []).length) l,
                        match lineD w f with | some x => .ln true (some x) | none => .ln false none) := by
  unfold readlnH lineD
  cases hrd : f.rd with
  | false =>
    refine ⟨f.last, .inl rfl, ?_⟩
    simp [moved, hrd]
  | true =>
    cases hrest : ((w.fs.get f.path).getD []).drop f.pos with
    | nil =>
      refine ⟨.inputEof, .inr (.inr rfl), ?_⟩
      simp [readlnScan, moved, hrd, hrest]
    | cons b rest =>
      obtain ⟨e, hq⟩ := readlnScan_sline (b :: rest)
      have hpos := sline_length_pos (b :: rest) (by simp)
      refine ⟨if e = .eof then .inputEof else .input, ?_, ?_⟩
      · split
        · exact .inr (.inr rfl)
        · exact .inr (.inl rfl)
      · simp [hpos, moved, hrd, hrest, hq]

theorem readlnH_shape (w : World) (f : OFile) :
    ∃ l, readlnH w f = (moved w f (f.pos + ((lineD w f).getD []).length) l,
                        match lineD w f with | some x => .ln true (some x) | none => .ln false none) :=
  let ⟨l, _, e⟩ := readlnH_moved w f
  ⟨l, e⟩

theorem readlnH_refines (w : World) (f : OFile) (hr : w.h.r = true) : Answers w f .readLine (readlnH w f) := by
  obtain ⟨l, hl, e⟩ := readlnH_moved w f
  rw [e]
  refine ⟨_, rfl, rfl, hl, ?_⟩
  unfold lineD
  cases hrd : f.rd with
  | false => simp [moved, absS, absF, sstep, hr, hrd, resOf]
  | true =>
    by_cases hrest : ((w.fs.get f.path).getD []).drop f.pos = [] <;> simp [moved, absS, absF, sstep, hr, hrd, hrest, resOf]

/-- the world after `fwrite` of non-empty data on a writable stream -/
def wrote (w : World) (f : OFile) (d : Bytes) : World :=
  { fs := w.fs.put f.path (swrite (absF w f) d).content,
    h := { w.h with file := some { f with pos := (swrite (absF w f) d).pos, last := .output } } }

/-- `hd`: `Handle::write` passes the length as `unsigned`; below 2^32 nothing is cut (`writeLen`) -/
theorem writeH_eq (w : World) (f : OFile) (d : Bytes) (hd : d.length < 4294967296) :
    writeH w f d = if f.wr = true ∧ d ≠ [] then (wrote w f d, (d.length : Int)) else (w, 0) := by
  have hl : writeLen d = d.length := Nat.mod_eq_of_lt hd
  unfold writeH
  rw [hl, List.take_length]
  by_cases h : f.wr = true ∧ d ≠ []
  · have hne : d.isEmpty = false := by cases d <;> simp_all
    cases ha : f.app <;> simp [h, hne, wrote, swrite, absF, fwriteBytes_eq_writeAt, ha]
  · rw [if_neg h]
    cases hw : f.wr <;> simp_all

theorem absF_wrote (w : World) (f : OFile) (d : Bytes) :
    absF (wrote w f d) { f with pos := (swrite (absF w f) d).pos, last := .output } = swrite (absF w f) d := by
  by_cases hd : d = [] <;> simp [wrote, absF, FS.put, swrite, hd]

theorem writeH_refines (w : World) (f : OFile) (d : Bytes) (hf : w.h.file = some f) (hd : d.length < 4294967296)
    (hw : w.h.w = true) : Answers w f (.write d) ((writeH w f d).1, .int (writeH w f d).2) := by
  rw [writeH_eq w f d hd]
  by_cases h : f.wr = true ∧ d ≠ []
  · rw [if_pos h]
    refine ⟨_, rfl, rfl, .inr rfl, ?_⟩
    have := absF_wrote w f d
    simp [absS, sstep, hw, h.1, resOf, wrote] at this ⊢
    exact this
  · rw [if_neg h]
    refine ⟨f, hf, rfl, .inl rfl, ?_⟩
    cases hwr : f.wr
    · simp [absS, sstep, hw, hwr, resOf]
    · have : d = [] := by simp_all
      subst this
      simp [absS, sstep, hw, hwr, resOf, swrite]

theorem sseek_set (m : Nat) (f : SFile) {t : Int} (h0 : 0 ≤ t) (hm : t.toNat ≤ m) :
    sseek m f .set t = some { f with pos := t.toNat } := by
  unfold sseek
  simp only []
  rw [if_neg (by omega), Int.zero_add]

theorem sseek_some {m : Nat} {f s : SFile} {wh : Spec.File.Whence} {off : Int} (h : sseek m f wh off = some s) :
    s = { f with pos := s.pos } := by
  revert h
  fun_cases sseek m f wh off <;> intro h <;> cases h <;> rfl

theorem seekH_refines (w : World) (f : OFile) (wh : Spec.File.Whence) (off : Int64) (hf : w.h.file = some f) :
    Answers w f (.seek wh off.toInt) (seekH w f wh off) := by
  unfold seekH
  simp only [Answers, absS, absF, sstep]
  cases h : sseek w.fs.maxOff ⟨(w.fs.get f.path).getD [], f.pos, f.app⟩ wh off.toInt with
  | none =>
    refine ⟨f, hf, rfl, .inr ⟨rfl, fun ⟨hs, h0, hm⟩ => ?_⟩, by simp [resOf, EINVAL]⟩
    subst hs
    rw [sseek_set _ _ h0 hm] at h
    cases h
  | some s =>
    refine ⟨_, rfl, rfl, .inl rfl, ?_⟩
    rw [sseek_some h]
    simp [resOf]

/-- the test the driver applies before it runs the specification next to the model is the predicate of the theorems -/
theorem isStreamOp_iff (op : Op) : isStreamOp op = true ↔ StreamOp op := by
  unfold isStreamOp StreamOp
  split <;> simp

/-! `step` for the stream calls on an open handle: a read or write is refused unless the owner's flag is set, answers
`undefinedSeq` in the recorded region, and is the handle-level call otherwise. -/

theorem step_readB (w : World) (n : Option Int64) : step w (.readB n) = step w (.readS n) := rfl
theorem step_writeB (w : World) (s : Option Bytes) : step w (.writeB s) = step w (.writeS s) := rfl

theorem step_read_eq {w : World} {f : OFile} (hf : w.h.file = some f) (n : Int64) : step w (.readS (some n)) =
    if w.h.r = true then (if badInput f ∧ n.toInt > 0 then (w, .undefinedSeq) else readH w f true n) else (w, .err) := by
  cases hr : w.h.r <;> simp [step, hf, hr]

theorem step_readln_eq {w : World} {f : OFile} (hf : w.h.file = some f) : step w .readln =
    if w.h.r = true then (if badInput f then (w, .undefinedSeq) else readlnH w f) else (w, .err) := by
  cases hr : w.h.r <;> simp [step, hf, hr]

theorem step_write_eq {w : World} {f : OFile} (hf : w.h.file = some f) (d : Bytes) : step w (.writeS (some d)) =
    if w.h.w = true then (if badOutput f d then (w, .undefinedSeq) else ((writeH w f d).1, .int (writeH w f d).2))
    else (w, .err) := by
  cases hw : w.h.w <;> simp [step, hf, hw]

theorem step_seekSet_eq {w : World} {f : OFile} (hf : w.h.file = some f) (o : Int64) :
    step w (.seekSet (some o)) = seekH w f .set o := by simp [step, hf]

theorem step_seekCur_eq {w : World} {f : OFile} (hf : w.h.file = some f) (o : Int64) :
    step w (.seekCur (some o)) = seekH w f .cur o := by simp [step, hf]

theorem step_seekEnd_eq {w : World} {f : OFile} (hf : w.h.file = some f) (o : Int64) :
    step w (.seekEnd (some o)) = seekH w f .end_ o := by simp [step, hf]

theorem step_flush_eq {w : World} {f : OFile} (hf : w.h.file = some f) :
    step w .flush = (moved w f f.pos (if f.last = .output then .none else f.last), .bool true) := by simp [step, hf, moved]

theorem step_position_eq {w : World} {f : OFile} (hf : w.h.file = some f) : step w .position = (w, .int f.pos) := by
  simp [step, hf]

/-- one stream call of the module on an open handle = one step of the specification on the abstraction — or, in the
    recorded region of finding C18.file_update_without_reposition, `undefinedSeq`: as a write with `badOutput`, or as a read on
    a handle with `_r` set and `badInput` (`Pend.inp.allows op = false`: `op` is a write; `Pend.out.allows op = false`: `op`
    is a read — the form `step_disciplined` refutes) -/
theorem step_refines {w : World} {f : OFile} (hf : w.h.file = some f) {op : Op} (hop : StreamOp op) :
    Answers w f (toS op) (step w op) ∨
    ((step w op).2 = .undefinedSeq ∧ ((Pend.inp.allows op = false ∧ ∃ d, badOutput f d = true) ∨
      (Pend.out.allows op = false ∧ w.h.r = true ∧ badInput f = true))) := by
  -- a read or write guarded by the owner's flag `g`, which the specification knows too; `c`: the recorded region
  have guarded : ∀ {op : Op} {g : Bool} {c : Prop} [Decidable c] {X : World × Res} {R : Prop},
      step w op = (if g = true then (if c then (w, .undefinedSeq) else X) else (w, .err)) →
      (g = false → sstep w.fs.maxOff (absS w f) (toS op) = (absS w f, .denied)) → Dir w.fs.maxOff (toS op) f.last f.last →
      (g = true → Answers w f (toS op) X) → (g = true → c → R) →
      Answers w f (toS op) (step w op) ∨ ((step w op).2 = .undefinedSeq ∧ R) := by
    intro op g c _ X R e e0 hd hX hR
    rw [e]
    cases g with
    | false => rw [Answers, e0 rfl]; exact .inl ⟨f, hf, rfl, hd, rfl, rfl⟩
    | true =>
      by_cases hc : c
      · rw [if_pos rfl, if_pos hc]; exact .inr ⟨rfl, hR rfl hc⟩
      · rw [if_pos rfl, if_neg hc]; exact .inl (hX rfl)
  cases op with
  | readS n | readB n =>
    cases n with
    | none => exact False.elim hop
    | some n =>
      exact guarded (step_read_eq hf n) (fun hr => by simp [absS, sstep, toS, hr]) (.inl rfl) (readH_refines w f true n hf)
        fun hr hb => .inr ⟨rfl, hr, hb.1⟩
  | writeS d | writeB d =>
    cases d with
    | none => exact False.elim hop
    | some d =>
      exact guarded (step_write_eq hf d) (fun hw => by simp [absS, sstep, toS, hw]) (.inl rfl) (writeH_refines w f d hf hop)
        fun _ hb => .inl ⟨rfl, d, hb⟩
  | readln =>
    exact guarded (step_readln_eq hf) (fun hr => by simp [absS, sstep, toS, hr]) (.inl rfl) (readlnH_refines w f)
      fun hr hb => .inr ⟨rfl, hr, hb⟩
  | seekSet n =>
    cases n with
    | none => exact False.elim hop
    | some o => rw [step_seekSet_eq hf o]; exact .inl (seekH_refines w f .set o hf)
  | seekCur n =>
    cases n with
    | none => exact False.elim hop
    | some o => rw [step_seekCur_eq hf o]; exact .inl (seekH_refines w f .cur o hf)
  | seekEnd n =>
    cases n with
    | none => exact False.elim hop
    | some o => rw [step_seekEnd_eq hf o]; exact .inl (seekH_refines w f .end_ o hf)
  | position =>
    rw [step_position_eq hf]
    exact .inl ⟨f, hf, rfl, rfl, by simp [absS, sstep, toS], by simp [absS, absF, sstep, toS, resOf]⟩
  | flush =>
    rw [step_flush_eq hf]
    exact .inl ⟨_, rfl, rfl, rfl, by simp [moved, absS, absF, sstep, toS], by simp [sstep, toS, resOf]⟩
  | _ => exact False.elim hop

theorem seekH_res (w : World) (f : OFile) (wh : Spec.File.Whence) (o : Int64) : ∃ e, (seekH w f wh o).2 = .int e := by
  fun_cases seekH w f wh o <;> exact ⟨_, rfl⟩

theorem readH_res (w : World) (f : OFile) (str : Bool) (n : Int64) : ∃ c d, (readH w f str n).2 = .rd c d := by
  rw [readH_eq]; exact ⟨_, _, rfl⟩

theorem readlnH_res (w : World) (f : OFile) : ∃ b l, (readlnH w f).2 = .ln b l := by
  obtain ⟨l, e⟩ := readlnH_shape w f
  rw [e]; cases lineD w f <;> exact ⟨_, _, rfl⟩

theorem readH_no_undef (w : World) (f : OFile) (str : Bool) (n : Int64) : (readH w f str n).2 ≠ .undefinedSeq := by
  obtain ⟨c, d, e⟩ := readH_res w f str n; rw [e]; nofun

theorem readlnH_no_undef (w : World) (f : OFile) : (readlnH w f).2 ≠ .undefinedSeq := by
  obtain ⟨c, d, e⟩ := readlnH_res w f; rw [e]; nofun

/-- no call answers a hazard, in any state and with any argument: `read`, `readln` and the seeks on a handle answer `rd`, `ln`,
    `int`, and every other branch of the method table names its answer -/
theorem step_no_hazard (w : World) (op : Op) (z : Hazard) : (step w op).2 ≠ .hazard z := by
  have hr : ∀ f s n, (readH w f s n).2 ≠ .hazard z := fun f s n => by obtain ⟨c, d, e⟩ := readH_res w f s n; rw [e]; nofun
  have hl : ∀ f, (readlnH w f).2 ≠ .hazard z := fun f => by obtain ⟨c, d, e⟩ := readlnH_res w f; rw [e]; nofun
  have hs : ∀ f wh o, (seekH w f wh o).2 ≠ .hazard z := fun f wh o => by obtain ⟨c, e⟩ := seekH_res w f wh o; rw [e]; nofun
  fun_cases step w op <;> simp [hr, hl, hs]

/-- on a stream that is not open for update (read-only or write-only: every mode without `+`) every stream call, with
    whatever argument, is a step of the specification: the region of finding C18.file_update_without_reposition is never
    reached — PROVIDED the module's own `_r` flag is not set on a stream that cannot read (`h2`; the mode strings `"wr"`,
    `"w\0r"`, `"ar"` violate it: there `read()` calls `fread` on a write-only stream with output pending) -/
theorem step_oneway {w : World} {f : OFile} (hf : w.h.file = some f) (h1 : (f.wr && f.rd) = false)
    (h2 : f.rd = false → w.h.r = false) {op : Op} (hop : StreamOp op) : Answers w f (toS op) (step w op) := by
  refine (step_refines hf hop).resolve_right fun ⟨_, hb⟩ => ?_
  rcases hb with ⟨_, d, hd⟩ | ⟨_, hr, hi⟩
  · simp [badOutput, h1] at hd
  · cases hrd : f.rd with
    | false => rw [h2 hrd] at hr; exact absurd hr (by simp)
    | true => rw [hrd] at h1; simp at h1; simp [badInput, h1] at hi

theorem sstep_frame (m : Nat) (s : SStream) (op : SOp) : ∃ f', (sstep m s op).1 = { s with f := f' } := by
  fun_cases sstep m s op <;> exact ⟨_, rfl⟩

theorem srun_update_roundtrip (m : Nat) (s : SStream) {t : Int} (d : Bytes) (h0 : 0 ≤ t) (hk : t.toNat ≤ m) (hd : d ≠ [])
    (h1 : s.canRead = true) (h2 : s.canWrite = true) (h3 : s.mayRead = true) (h4 : s.mayWrite = true) (ha : s.f.append = false) :
    (srun m s [.seek .set t, .write d, .seek .set t, .read d.length]).2 = [.errno 0, .count d.length, .errno 0, .data d] := by
  have hlen : ¬ ((d.length : Int) ≤ 0) := by
    have : 0 < d.length := List.length_pos_iff.mpr hd
    omega
  simp only [srun, sstep, sseek_set _ _ h0 hk, h1, h2, h3, h4, Bool.not_true, Bool.false_eq_true, if_false, or_false, hlen, swrite, hd, ha,
    sread, Int.toNat_natCast, readAt_writeAt]

end BlocV.Mod.File
