/-
  Part M of Model/Plugin.lean (modules, constructor failures, method calls): the event log of the handle
  model only grows, a `create` event exists for every object, a `destroy` event only for an object whose counter was
  deleted; every recorded method call found its receiver created, not destroyed, and of the method's module; a
  module-level history is a store-level history (`mrun_srun`); with no handle left, no operation reaches an unloaded
  module (`mstepUnloaded_quiescent`).
-/
import BlocV.Model.Plugin
import BlocV.Proofs.Lemmas.Handle

namespace BlocV.Proofs.Method
open BlocV.Plugin BlocV.Plugin.H BlocV.Plugin.S BlocV.Plugin.M BlocV.Proofs.Handle

structure LogOk (h : HState) : Prop where
  created : ∀ o, o < h.nobj → Ev.create o ∈ h.log
  createdOnly : ∀ o, Ev.create o ∈ h.log → o < h.nobj
  destroyed : ∀ o, Ev.destroy o ∈ h.log → h.freed o = true ∧ o < h.nobj
  destroyedAll : ∀ o, o < h.nobj → h.freed o = true → Ev.destroy o ∈ h.log
  destroyCount : ∀ o, o < h.nobj → h.log.count (Ev.destroy o) = h.destroyed o

theorem logOk_init : LogOk HState.init :=
  ⟨fun _ h => absurd h (Nat.not_lt_zero _), fun _ h => (nomatch h), fun _ h => (nomatch h),
   fun _ h => absurd h (Nat.not_lt_zero _), fun _ h => absurd h (Nat.not_lt_zero _)⟩

theorem logOk_iff {h : HState} : LogOk h ↔
    (∀ o, Ev.create o ∈ h.log ↔ o < h.nobj) ∧ (∀ o, Ev.destroy o ∈ h.log ↔ o < h.nobj ∧ h.freed o = true) ∧
    ∀ o, o < h.nobj → h.log.count (Ev.destroy o) = h.destroyed o :=
  ⟨fun hl => ⟨fun o => ⟨hl.createdOnly o, hl.created o⟩,
      fun o => ⟨fun hm => (hl.destroyed o hm).symm, fun hm => hl.destroyedAll o hm.1 hm.2⟩, hl.destroyCount⟩,
    fun ⟨hc, hd, hn⟩ => ⟨fun o => (hc o).mpr, fun o => (hc o).mp, fun o hm => ((hd o).mp hm).symm,
      fun o ho hf => (hd o).mpr ⟨ho, hf⟩, hn⟩⟩

theorem logOk_of_eff {s s' : HState} (hl : LogOk s) (he : Eff s s') : LogOk s' := by
  obtain ⟨hc, hd, hn⟩ := logOk_iff.mp hl
  rcases he with ⟨a, b, c, d⟩ | ⟨a, b, c, d⟩ | ⟨o', ho', hf', _, _, a, b, c, d⟩
  · exact logOk_iff.mpr ⟨by rwa [a, b], by rwa [a, b, c], by rwa [a, b, d]⟩
  · refine logOk_iff.mpr ⟨fun o => ?_, fun o => ?_, fun o ho => ?_⟩
    · rw [a, b, List.mem_append, hc, List.mem_singleton, Ev.create.injEq]; omega
    · rw [a, b, c, upd, List.mem_append, hd, List.mem_singleton]
      simp only [reduceCtorEq, or_false]
      split
      next h => subst h; simp only [Nat.lt_irrefl, false_and, Bool.false_eq_true, and_false]
      next h => exact and_congr_left' (by omega)
    · rw [b, d, upd, List.count_append, List.count_singleton, if_neg (by simp), Nat.add_zero]
      split
      next h => exact List.count_eq_zero.mpr fun hm => Nat.lt_irrefl _ (h ▸ ((hd o).mp hm).1)
      next h => exact hn o (by omega)
  · refine logOk_iff.mpr ⟨fun o => ?_, fun o => ?_, fun o ho => ?_⟩
    · rw [a, b, List.mem_append, hc, List.mem_singleton]; simp only [reduceCtorEq, or_false]
    · rw [a, b, c, upd, List.mem_append, hd, List.mem_singleton, Ev.destroy.injEq]
      split
      next h => subst h; simp only [ho', hf', true_and, or_true, Bool.false_eq_true]
      next h => simp only [h, or_false]
    · rw [b, d, upd, List.count_append, List.count_singleton, hn o (a ▸ ho)]
      simp only [beq_iff_eq, Ev.destroy.injEq, eq_comm (a := o')]
      split
      next h => rw [h]
      · rfl

theorem sstep_log {s s' : SState} {op : SOp} (hi : Inv s.h) (hl : LogOk s.h) (hnc : isConstruct op = false)
    (h : sstep s op = .ok s') : Inv s'.h ∧ LogOk s'.h ∧ s.h.log <+: s'.h.log ∧ s'.h.nobj = s.h.nobj :=
  sstep_preserves (P := fun h' => Inv h' ∧ LogOk h' ∧ s.h.log <+: h'.log ∧ h'.nobj = s.h.nobj) h
    (fun ⟨hi, hl, hg, hn⟩ hs hc =>
      have ⟨hi', he, hn'⟩ := step_spec hi hs
      ⟨hi', logOk_of_eff hl he, hg.trans he.log_prefix,
        (hn' fun e => absurd (hnc ▸ hc e) Bool.false_ne_true).trans hn⟩)
    ⟨hi, hl, List.prefix_rfl, rfl⟩

theorem construct_log {s s' : SState} (hi : Inv s.h) (hl : LogOk s.h) {k : Nat} (h : sstep s (.construct k) = .ok s') :
    Inv s'.h ∧ LogOk s'.h ∧ s'.h.log = s.h.log ++ [.create s.h.nobj] ∧ s'.h.nobj = s.h.nobj + 1 := by
  simp only [sstep] at h
  split at h
  · split at h
    next he =>
      cases h
      have ⟨hi', hf, _⟩ := step_spec hi he
      cases he
      exact ⟨hi', logOk_of_eff hl hf, rfl, rfl⟩
    · cases h
  · cases h

def CallOk (s : MState) (c : Call) : Prop :=
  c.pos ≤ s.s.h.log.length ∧ Ev.create c.o ∈ s.s.h.log.take c.pos ∧ Ev.destroy c.o ∉ s.s.h.log.take c.pos ∧
  s.modOf[c.o]? = some c.m

structure MInv (s : MState) : Prop where
  inv : Inv s.s.h
  log : LogOk s.s.h
  mods : s.modOf.length = s.s.h.nobj
  calls : ∀ c ∈ s.calls, CallOk s c

theorem minv_init : MInv MState.init :=
  ⟨init_inv, logOk_init, rfl, fun _ hc => nomatch hc⟩

theorem callOk_mono {s s' : MState} {c : Call} (hc : CallOk s c) (hlog : s.s.h.log <+: s'.s.h.log)
    (hmod : s.modOf <+: s'.modOf) : CallOk s' c := by
  obtain ⟨h1, h2, h3, h4⟩ := hc
  obtain ⟨mx, hm⟩ := hmod
  have ht : (s'.s.h.log).take c.pos = (s.s.h.log).take c.pos := by
    obtain ⟨ex, he⟩ := hlog
    rw [← he]; exact List.take_append_of_le_length h1
  refine ⟨Nat.le_trans h1 hlog.length_le, by rw [ht]; exact h2, by rw [ht]; exact h3, ?_⟩
  rw [← hm, List.getElem?_append_left (getElem?_lt h4)]; exact h4

/-- What a module-level operation that succeeds has done to the state. -/
inductive MEff (s : MState) : MOp → MState → Prop
  | store {op : SOp} {s1 : SState} : isConstruct op = false → sstep s.s op = .ok s1 → MEff s (.store op) { s with s := s1 }
  | construct {k m : Nat} {s1 : SState} : s.unloaded = false → sstep s.s (.construct k) = .ok s1 →
      MEff s (.construct k m) { s with s := s1, modOf := s.modOf ++ [m] }
  | noModule {k m : Nat} : s.unloaded = true → MEff s (.construct k m) { s with failed := s.failed + 1 }
  | failed {k m : Nat} : MEff s (.constructFail k m) { s with failed := s.failed + 1 }
  | call {i m o : Nat} {name : String} {args : List String} : s.unloaded = false → liveSlot s.s.h i = some (.ref o) →
      s.modOf[o]? = some m →
      MEff s (.method i m name args) { s with calls := s.calls ++ [⟨o, m, s.s.h.log.length, name, args⟩] }
  | refused {i m : Nat} {name : String} {args : List String} :
      MEff s (.method i m name args) { s with refused := s.refused + 1 }
  | deinit : MEff s .deinit { s with unloaded := true }
  | deinitAgain : MEff s .deinit s

theorem mstep_eff {s s' : MState} {op : MOp} (h : mstep s op = .ok s') : MEff s op s' := by
  unfold mstep at h
  split at h
  next hu =>
    cases op with
    | deinit => cases h; exact .deinitAgain
    | store op =>
      simp only [mstepUnloaded] at h
      split at h
      · cases h
      next hnc =>
        split at h
        next hs => split at h <;> cases h; exact .store (by simpa using hnc) hs
        · cases h
    | construct k m => simp only [mstepUnloaded] at h; split at h <;> cases h; exact .noModule hu
    | constructFail k m => simp only [mstepUnloaded] at h; split at h <;> cases h; exact .failed
    | method i m name args =>
      simp only [mstepUnloaded] at h
      split at h
      · split at h <;> cases h; exact .refused
      · cases h
      · cases h
  next hu =>
    have hu := Bool.eq_false_iff.mpr hu
    cases op with
    | deinit => cases h; exact .deinit
    | store op =>
      simp only [mstepLoaded] at h
      split at h
      · cases h
      next hnc =>
        split at h
        next hs => cases h; exact .store (by simpa using hnc) hs
        · cases h
    | construct k m =>
      simp only [mstepLoaded] at h
      split at h
      next hs => cases h; exact .construct hu hs
      · cases h
    | constructFail k m => simp only [mstepLoaded] at h; split at h <;> cases h; exact .failed
    | method i m name args =>
      simp only [mstepLoaded] at h
      split at h
      next o hl =>
        split at h
        next hmod => cases h; exact .call hu hl (by simpa using hmod)
        · cases h; exact .refused
      · cases h
      · cases h

theorem mstep_inv {s s' : MState} {op : MOp} (hm : MInv s) (h : mstep s op = .ok s') : MInv s' := by
  cases mstep_eff h with
  | store hnc hs =>
    obtain ⟨a, b, g, n⟩ := sstep_log hm.inv hm.log hnc hs
    exact ⟨a, b, n ▸ hm.mods, fun c hc => callOk_mono (hm.calls c hc) g List.prefix_rfl⟩
  | construct _ hs =>
    obtain ⟨a, b, g, n⟩ := construct_log hm.inv hm.log hs
    exact ⟨a, b, by rw [n, ← hm.mods, List.length_append, List.length_singleton],
      fun c hc => callOk_mono (hm.calls c hc) (g ▸ List.prefix_append ..) (List.prefix_append ..)⟩
  -- nothing that the invariant speaks of changes
  | noModule | failed | refused | deinit => exact ⟨hm.inv, hm.log, hm.mods, hm.calls⟩
  | deinitAgain => exact hm
  | @call i m o name args _ hl hmod =>
    refine ⟨hm.inv, hm.log, hm.mods, List.forall_mem_append.mpr ⟨hm.calls, List.forall_mem_singleton.mpr ?_⟩⟩
    obtain ⟨hob, hnf, _⟩ := hm.inv.of_mem (List.mem_of_getElem? (liveSlot_some hl).1)
    refine ⟨Nat.le_refl _, ?_, fun hd => ?_, hmod⟩ <;> simp only [List.take_length] at *
    · exact hm.log.created o hob
    · exact absurd (hm.log.destroyed o hd).1 (by simp [hnf])

theorem mrun_inv {ops : List MOp} {s s' : MState} (hm : MInv s) (h : mrun s ops = .ok s') : MInv s' := by
  induction ops generalizing s with
  | nil => cases h; exact hm
  | cons op rest ih =>
    simp only [mrun] at h
    split at h
    next h1 => exact ih (mstep_inv hm h1) h
    · cases h

/-- **M refines S**, one step: what a module-level operation does to the store, store-level operations do (none or one) -/
theorem mstep_sstep {s s' : MState} {op : MOp} (h : mstep s op = .ok s') : ∃ sops, srun s.s sops = .ok s'.s := by
  cases mstep_eff h with
  | @store op _ _ hs => exact ⟨[op], by simp only [srun, hs]⟩
  | @construct k _ _ _ hs => exact ⟨[.construct k], by simp only [srun, hs]⟩
  | _ => exact ⟨[], rfl⟩

theorem mrun_srun {ops : List MOp} {s s' : MState} (h : mrun s ops = .ok s') : ∃ sops, srun s.s sops = .ok s'.s := by
  induction ops generalizing s with
  | nil => cases h; exact ⟨[], rfl⟩
  | cons op rest ih =>
    simp only [mrun] at h
    split at h
    next h1 =>
      obtain ⟨a, ha⟩ := mstep_sstep h1
      obtain ⟨b, hb⟩ := ih h
      exact ⟨a ++ b, srun_append ha hb⟩
    · cases h

/-- `nullDeref` from `mstepUnloaded` is a call through the deleted module instance: with no handle left it does not occur -/
theorem mstepUnloaded_quiescent {s : MState} (hq : quiescent s.s.h = true) (op : MOp) :
    Harmless (fun s' => s'.s.h = s.s.h ∧ s'.unloaded = s.unloaded) (mstepUnloaded s op) := by
  cases op with
  | deinit => exact .ok ⟨rfl, rfl⟩
  | store op =>
    simp only [mstepUnloaded]
    split
    · exact .malformed
    next hnc =>
      rcases sstep_quiescent hq op (by simpa using hnc) with hs | ⟨s1, hs, h1⟩
      · rw [hs]; exact .malformed
      · rw [hs]; simp only [h1, beq_self_eq_true, ↓reduceIte]; exact .ok ⟨h1, rfl⟩
  | construct k m | constructFail k m => simp only [mstepUnloaded]; split; exact .ok ⟨rfl, rfl⟩; exact .malformed
  | method i m name args => simp only [mstepUnloaded, liveSlot_quiescent hq]; exact .malformed

end BlocV.Proofs.Method
