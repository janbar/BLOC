/-
  Uniformity (Spec/Containers.lean) against the model of the container members. The Spec's type of a value is `mkETy` of the
  implementation's type and the declaration the value carries, injective on the pairs uniform values and headers carry (`Exact`).
  The three equations of the element classification (`classify_splice`, `classify_typed`, `classify_mix`), its outcomes
  (`classify_cases`, `mixElem_ok`), the three sources of what it hands over (`classify_elems`), that this has the element type
  (`classify_sound`) and that it reaches no hazard; what one member call does to a table's elements (`tab_edit`), without a hazard
  (`tab_no_hazard`), from which every member keeps `uniformP`; `set@` as `put` on a one-dimensional table of the item type
  (`setItemV_eq`); `Sat` and the position stage `memPos` against `Spec.pos` (`memPos_sat`).
-/
import BlocV.KF.C09
import BlocV.Proofs.Lemmas.MemberEqs
import BlocV.Proofs.Lemmas.NoHazard

namespace BlocV.C09
open BlocV.Spec

theorem uniformP_tab (P) (t d es) :
    uniformP P (.tab t d es) = ((headerOk t d && (t.major != .tup || P d)) && uniformAll P (elemETy t d) es) := by
  simp [uniformP]

theorem uniformP_tup (P) (d items) :
    uniformP P (.tup d items) =
      ((!d.isEmpty && d.all scalarTy && P d) && (items.map Val.type == d && items.all scalarVal)) := by
  simp [uniformP]

@[simp] theorem uniformAll_nil (P e) : uniformAll P e [] = true := by simp [uniformAll]
theorem uniformAll_cons (P e v vs) :
    uniformAll P e (v :: vs) = ((etyOf v == e && uniformP P v) && uniformAll P e vs) := by simp [uniformAll]

theorem uniformAll_iff (P e) (vs : List Val) : uniformAll P e vs = true ↔ ∀ v ∈ vs, etyOf v = e ∧ uniformP P v = true := by
  induction vs with
  | nil => simp
  | cons v vs ih => simp [uniformAll_cons, ih]

theorem uniformAll_single (P e) (v : Val) (hv : etyOf v = e) (hu : uniformP P v = true) :
    uniformAll P e [v] = true := by
  simp [uniformAll_cons, hv, hu]

theorem tab_parts {P t d es} (h : uniformP P (.tab t d es) = true) :
    headerOk t d = true ∧ (t.major = .tup → P d = true) ∧ uniformAll P (elemETy t d) es = true := by
  rw [uniformP_tab] at h
  simp only [Bool.and_eq_true] at h
  refine ⟨h.1.1, ?_, h.2⟩
  intro hm; have := h.1.2; simpa [hm] using this

theorem tup_parts {P d items} (h : uniformP P (.tup d items) = true) :
    d ≠ [] ∧ d.all scalarTy = true ∧ P d = true ∧ items.map Val.type = d ∧ items.all scalarVal = true := by
  rw [uniformP_tup] at h
  simp only [Bool.and_eq_true, beq_iff_eq, Bool.not_eq_true', List.isEmpty_eq_false_iff] at h
  exact ⟨h.1.1.1, h.1.1.2, h.1.2, h.2.1, h.2.2⟩

theorem tup_intro (P) {d : List Ty} {items : List Val} (hd : d ≠ []) (hsc : d.all scalarTy = true) (hP : P d = true)
    (hm : items.map Val.type = d) (hall : ∀ v ∈ items, scalarVal v = true) : uniformP P (.tup d items) = true := by
  rw [uniformP_tup, hsc, hP, hm, List.all_eq_true.2 hall]
  simp [hd]

theorem tup_length (P) {d : List Ty} {items : List Val} (h : uniformP P (.tup d items) = true) : d.length = items.length := by
  rw [← (tup_parts h).2.2.2.1, List.length_map]

theorem scalarTy_facts (dt : Ty) (h : scalarTy dt = true) :
    dt.level = 0 ∧ dt.major ≠ .tup ∧ dt.major ≠ .none ∧ dt.minor = normMinor dt := by
  cases dt with
  | mk major minor level => cases major <;> simp_all [scalarTy, normMinor]

/-- "the declarations in play hash injectively" -/
def Inj (P : List Ty → Bool) : Prop :=
  ∀ d1 d2, P d1 = true → P d2 = true → (makeTupleTy d1 0).minor = (makeTupleTy d2 0).minor → d1 = d2

theorem headerOk_iff (t : Ty) (d : List Ty) : headerOk t d = true ↔
    (1 ≤ t.level ∧ t.level < 255 ∧ t.major ≠ .none ∧
      ((t.major = .tup ∧ d ≠ [] ∧ t = makeTupleTy d t.level) ∨
       (t.major ≠ .tup ∧ d = []))) := by
  unfold headerOk
  by_cases h : t.major = .tup <;> simp [h, and_assoc]

theorem tab_level_pos {P at_ ad vs} (ha : uniformP P (.tab at_ ad vs) = true) : at_.level > 0 := by
  have := (headerOk_iff at_ ad).1 (tab_parts ha).1
  omega

theorem makeTupleTy_levelUp (d : List Ty) (L : Nat) : (makeTupleTy d L).levelUp = makeTupleTy d (L + 1) := by
  unfold makeTupleTy; split <;> rfl

/-- one dimension above an exact type `(ty, d)` (a scalar type, a tuple type with its declaration, a table header): the
header of the tables of such values, and its element type -/
theorem header_levelUp (ty : Ty) (d : List Ty) (hn : ty.major ≠ .none) (hl : ty.level < 254)
    (hd : (ty.major = .tup ∧ d ≠ [] ∧ ty = makeTupleTy d ty.level) ∨ (ty.major ≠ .tup ∧ d = [])) :
    headerOk ty.levelUp d = true ∧ mkETy ty d ty.level = elemETy ty.levelUp d := by
  refine ⟨(headerOk_iff _ _).2 ⟨Nat.succ_pos _, Nat.succ_lt_succ hl, hn, ?_⟩, rfl⟩
  rcases hd with ⟨h1, h2, h3⟩ | h
  · refine .inl ⟨h1, h2, ?_⟩
    show ty.levelUp = makeTupleTy d (ty.level + 1)
    rw [h3, makeTupleTy_levelUp, makeTupleTy_level]
  · exact .inr h

theorem tuple_header (d : List Ty) (hd : d ≠ []) :
    headerOk (makeTupleTy d 1) d = true ∧ mkETy (makeTupleTy d 0) d 0 = elemETy (makeTupleTy d 1) d := by
  have := header_levelUp (makeTupleTy d 0) d (by rw [makeTupleTy_major]; nofun) (by rw [makeTupleTy_level]; omega)
    (.inl ⟨makeTupleTy_major _ _, hd, by rw [makeTupleTy_level]⟩)
  rwa [makeTupleTy_levelUp, makeTupleTy_level] at this

theorem tab_intro {P t d es} (hh : headerOk t d = true) (hp : t.major = .tup → P d = true)
    (hes : uniformAll P (elemETy t d) es = true) : uniformP P (.tab t d es) = true := by
  rw [uniformP_tab, hh, hes]
  by_cases hm : t.major = .tup
  · simp [hp hm]
  · simp [hm]

theorem makeTupleTy_levelDown (d : List Ty) (L : Nat) : (makeTupleTy d L).levelDown = makeTupleTy d (L - 1) := by
  unfold makeTupleTy; split <;> rfl

theorem Ty.ext' (a b : Ty) (h1 : a.major = b.major) (h2 : a.minor = b.minor) (h3 : a.level = b.level) : a = b := by
  cases a; cases b; simp_all

/-! ### exact types

The Spec's type of a value is `mkETy` of the implementation's type and the declaration the value carries (`etyOf_eq`); the element
type of a header is the same one level down (`elemETy_eq`). On the pairs (type, declaration) that uniform values and headers carry
(`Exact`) `mkETy` forgets nothing but what `normMinor` forgets (`mkETy_inj`), and nothing at all when the declarations in play hash
injectively (`mkETy_congr`). -/

/-- the declaration a value carries -/
def declOf : Val → List Ty
  | .tup d _ => d
  | .tab _ d _ => d
  | _ => []

theorem etyOf_eq (v : Val) : etyOf v = mkETy v.type (declOf v) v.type.level := by
  cases v with
  | tup d items => show mkETy _ d 0 = mkETy _ d _; rw [Val.type, makeTupleTy_level]
  | _ => rfl

theorem elemETy_eq (t : Ty) (d : List Ty) : elemETy t d = mkETy t.levelDown d t.levelDown.level := rfl

theorem uniformP_flat (P) {v : Val} (h : v.flat = true) : uniformP P v = true := by
  cases v <;> first | rfl | cases h

theorem etyOf_flat {v : Val} (h : v.flat = true) : etyOf v = mkETy v.type [] v.type.level := by
  cases v <;> first | rfl | cases h

theorem makeTupleTy_minor (d : List Ty) (L : Nat) : (makeTupleTy d L).minor = (makeTupleTy d 0).minor := by
  unfold makeTupleTy; split <;> rfl
theorem mkETy_nontup (t : Ty) (d : List Ty) (L : Nat) (h : t.major ≠ .tup) : mkETy t d L = ⟨t.major, normMinor t, [], L⟩ := by
  unfold mkETy; simp [h]
theorem mkETy_nil (t : Ty) (L : Nat) : mkETy t [] L = ⟨t.major, normMinor t, [], L⟩ := by
  unfold mkETy; simp

theorem mkETy_tup (t : Ty) (d : List Ty) (L : Nat) (h : t.major = .tup) (hd : d ≠ []) : mkETy t d L = ⟨.tup, 0, d, L⟩ := by
  unfold mkETy; simp [h, hd]

theorem mkETy_major (t : Ty) (d : List Ty) (L : Nat) : (mkETy t d L).major = t.major := by
  unfold mkETy; split <;> simp_all
theorem mkETy_level (t : Ty) (d : List Ty) (L : Nat) : (mkETy t d L).level = L := by
  unfold mkETy; split <;> rfl

/-- a non-empty declaration comes with the tuple type that carries its hash, and is in play (`P`); a type without one (`d = []`)
is a scalar type, a table type over one, or the type of a null tuple -/
def Exact (P : List Ty → Bool) (ty : Ty) (d : List Ty) : Prop :=
  d ≠ [] → ty = makeTupleTy d ty.level ∧ P d = true

theorem mkETy_decl {P ty d} (L : Nat) (h : Exact P ty d) (hd : d ≠ []) : mkETy ty d L = ⟨.tup, 0, d, L⟩ := by
  rw [(h hd).1]; exact mkETy_tup _ d L (makeTupleTy_major ..) hd

theorem Exact.minor {P ty d} (h : Exact P ty d) (hd : d ≠ []) : ty.minor = (makeTupleTy d 0).minor := by
  rw [← makeTupleTy_minor d ty.level, ← (h hd).1]

theorem mkETy_inj {P P' ty d ty' d' L L'} (h : Exact P ty d) (h' : Exact P' ty' d') (he : mkETy ty d L = mkETy ty' d' L') :
    ty.major = ty'.major ∧ normMinor ty = normMinor ty' ∧ L = L' ∧ (d = [] ↔ d' = []) := by
  by_cases hd : d = [] <;> by_cases hd' : d' = []
  · subst hd hd'; rw [mkETy_nil, mkETy_nil] at he; injection he with h1 h2 _ h4; exact ⟨h1, h2, h4, by simp⟩
  · subst hd; rw [mkETy_nil, mkETy_decl L' h' hd'] at he; injection he with _ _ h3; exact absurd h3.symm hd'
  · subst hd'; rw [mkETy_nil, mkETy_decl L h hd] at he; injection he with _ _ h3; exact absurd h3 hd
  · rw [mkETy_decl L h hd, mkETy_decl L' h' hd'] at he; injection he with _ _ h3 h4
    subst h3
    refine ⟨by rw [(h hd).1, (h' hd').1, makeTupleTy_major, makeTupleTy_major], ?_, h4, by simp [hd]⟩
    simp only [normMinor]; rw [h.minor hd, h'.minor hd', (h hd).1, (h' hd').1, makeTupleTy_major, makeTupleTy_major]

theorem mkETy_congr {P ty d ty' d'} (hinj : Inj P) (L : Nat) (h : Exact P ty d) (h' : Exact P ty' d')
    (hmaj : ty.major = ty'.major) (hmin : ty.minor = ty'.minor) (hd : d = [] ↔ d' = []) : mkETy ty d L = mkETy ty' d' L := by
  by_cases h0 : d = []
  · have h0' := hd.1 h0; subst h0 h0'; rw [mkETy_nil, mkETy_nil]; simp [normMinor, hmaj, hmin]
  · have h0' : d' ≠ [] := fun e => h0 (hd.2 e)
    have : d = d' := hinj d d' (h h0).2 (h' h0').2 (by rw [← h.minor h0, ← h'.minor h0', hmin])
    subst this; rw [mkETy_decl L h h0, mkETy_decl L h' h0]

theorem canonTy_eq {ty ty' : Ty} (hc : canonTy ty = true) (hc' : canonTy ty' = true)
    (h1 : ty.major = ty'.major) (h2 : normMinor ty = normMinor ty') (h3 : ty.level = ty'.level) : ty = ty' := by
  simp only [canonTy, beq_iff_eq] at hc hc'
  exact Ty.ext' _ _ h1 (by rw [hc, hc', h2]) h3

theorem header_exact {P t d} (hh : headerOk t d = true) (hp : t.major = .tup → P d = true) :
    Exact P t d ∧ (d = [] ↔ t.major ≠ .tup) := by
  obtain ⟨_, _, _, hc⟩ := (headerOk_iff t d).1 hh
  rcases hc with ⟨h1, h2, h3⟩ | ⟨h1, h2⟩
  · exact ⟨fun _ => ⟨h3, hp h1⟩, by simp [h1, h2]⟩
  · exact ⟨fun h => absurd h2 h, by simp [h1, h2]⟩

theorem Exact.levelDown {P t d} (h : Exact P t d) : Exact P t.levelDown d := fun hd => by
  refine ⟨?_, (h hd).2⟩
  conv => lhs; rw [(h hd).1]
  rw [makeTupleTy_levelDown]; rfl

/-- the type of a uniform value with the declaration the value carries is exact; it carries one exactly when it is a tuple or a
table of tuples (a null of such a type carries none) -/
theorem uniform_exact {P a} (ha : uniformP P a = true) :
    Exact P a.type (declOf a) ∧ (declOf a = [] ↔ a.type.major ≠ .tup ∨ a.isNull = true) := by
  cases a with
  | tab t d es =>
    obtain ⟨hh, hp, _⟩ := tab_parts ha
    obtain ⟨h1, h2⟩ := header_exact hh hp
    exact ⟨h1, by simpa [Val.isNull, declOf, Val.type] using h2⟩
  | tup d items =>
    obtain ⟨hd, _, hP, _⟩ := tup_parts ha
    exact ⟨fun _ => ⟨by rw [Val.type, makeTupleTy_level]; rfl, hP⟩, by simp [declOf, hd, Val.type, makeTupleTy_major, Val.isNull]⟩
  | null ty => exact ⟨fun h => absurd rfl h, by simp [declOf, Val.isNull]⟩
  | _ => exact ⟨fun h => absurd rfl h, by simp [declOf, Val.type, Ty.bool, Ty.int, Ty.num, Ty.imag, Ty.str, Ty.raw]⟩

theorem tab_or_null (a : Val) (hl : a.type.level > 0) : (∃ t d es, a = .tab t d es) ∨ ∃ ty, a = .null ty := by
  cases a with
  | tab t d es => exact .inl ⟨t, d, es, rfl⟩
  | null ty => exact .inr ⟨ty, rfl⟩
  | tup d i => rw [Val.type, makeTupleTy_level] at hl; cases hl
  | _ => cases hl

theorem ignoredNull_eq (a : Val) : ignoredNull a = (a.isNull && (decide (a.type.level > 0) || a.type.major == .tup)) := by
  cases a <;> rfl

/-! The three equations of `classify`: insert / concat splice a table of the receiver's own type; any other argument with
dimensions or of the table's major is compared by its implementation type; the rest goes to the type-mixing branch. -/

theorem classify_splice {k t ad vs nullTy} (hk : k ≠ .put) (hl : t.level > 0) :
    classify k t (.tab t ad vs) nullTy = .ok (.many vs) := by
  unfold classify
  have hk' : (k != .put) = true := by simpa using hk
  simp only [Val.type, hl, ↓reduceIte, hk', beq_self_eq_true, Bool.and_self]

theorem classify_typed {k t a nullTy} (h : a.type.level > 0 ∨ a.type.major = t.major)
    (hns : k ≠ .put → t.level > 0 → ∀ ad vs, a ≠ .tab t ad vs) :
    classify k t a nullTy = if ignoredNull a then .ok (if k == .put then .mismatch else .nothing)
      else if a.type == t.levelDown then .ok (.one a) else .ok .mismatch := by
  unfold classify
  rw [ignoredNull_eq]
  by_cases hlev : a.type.level > 0
  · rw [if_pos hlev]
    rcases tab_or_null a hlev with ⟨at_, ad, vs, rfl⟩ | ⟨ty, rfl⟩
    · have hs : (k != .put && at_ == t) = false := by
        rw [Bool.and_eq_false_iff, bne_eq_false_iff_eq, beq_eq_false_iff_ne]
        exact Decidable.or_iff_not_imp_left.2 fun hk e => hns hk (e ▸ hlev) ad vs (e ▸ rfl)
      simp only [hs]
      rfl
    · simp [Val.isNull, hlev]
  · -- level 0 and the table's major: a tuple major looks at `isNull` first
    rw [if_neg hlev, if_pos (beq_iff_eq.2 (h.resolve_left hlev))]
    simp only [hlev, decide_false, Bool.false_or]
    cases a.type.major == .tup <;> cases a.isNull <;> rfl

theorem classify_mix (k t a nullTy) (hl : a.type.level = 0) (hm : a.type.major ≠ t.major) :
    classify k t a nullTy = mixElem t a nullTy := by
  unfold classify
  rw [if_neg (by omega), if_neg (by simpa using hm)]

/-- the outcomes of `classify`: the type-mixing branch for a scalar of another major, the splice of a table of the
receiver's own type, the argument itself when it has the element type, a refusal, or nothing -/
theorem classify_cases {k : Kind} {t : Ty} {a : Val} {nullTy : Ty} {r : Res Slot} (h : classify k t a nullTy = r) :
    (a.type.level = 0 ∧ a.type.major ≠ t.major ∧ mixElem t a nullTy = r) ∨
    (∃ ad es, a = .tab t ad es ∧ r = .ok (.many es)) ∨
    (a.type = t.levelDown ∧ (a.type.major = .tup → a.isNull = false) ∧ r = .ok (.one a)) ∨
    r = .ok .mismatch ∨ r = .ok .nothing := by
  subst h
  by_cases hty : a.type.level > 0 ∨ a.type.major = t.major
  · by_cases hsp : k ≠ .put ∧ t.level > 0 ∧ ∃ ad vs, a = .tab t ad vs
    · obtain ⟨hk, hl, ad, vs, rfl⟩ := hsp
      exact .inr (.inl ⟨ad, vs, rfl, classify_splice hk hl⟩)
    · rw [classify_typed hty fun hk hl ad vs e => hsp ⟨hk, hl, ad, vs, e⟩]
      split
      · split
        · exact .inr (.inr (.inr (.inl rfl)))
        · exact .inr (.inr (.inr (.inr rfl)))
      · rename_i hig
        split
        · rename_i he
          rw [ignoredNull_eq] at hig
          exact .inr (.inr (.inl ⟨beq_iff_eq.1 he, fun hm => by simpa [hm] using hig, rfl⟩))
        · exact .inr (.inr (.inr (.inl rfl)))
  · obtain ⟨hl, hm⟩ := not_or.1 hty
    exact .inl ⟨by omega, hm, (classify_mix _ _ _ _ (by omega) hm).symm⟩

theorem mixElem_ok {t a nullTy s} (h : mixElem t a nullTy = .ok s) : s = .mismatch ∨ ∃ v, s = .one v ∧ v.flat = true ∧
    (((t.major = .int ∨ t.major = .num) ∧ (a.type.major = .num ∨ a.type.major = .int ∨ a.type.major = .none) ∧
        v.type = { major := t.major })
    ∨ (t.major ≠ .int ∧ t.major ≠ .num ∧ t.major ≠ .tup ∧ a.type.major = .none ∧ v = .null nullTy)) := by
  revert h
  fun_cases mixElem t a nullTy
  all_goals rintro ⟨⟩
  -- the leaves that answer, in the order of the definition: an integer table (given a null decimal, a decimal, an untyped null,
  -- anything else), a decimal table likewise, a tuple table, the other tables (given an untyped null, anything else)
  next hm ha _ => exact .inr ⟨_, rfl, rfl, .inl ⟨.inl hm, .inl (beq_iff_eq.1 ha), by rw [hm]; rfl⟩⟩
  next hm ha _ _ _ _ _ => exact .inr ⟨_, rfl, rfl, .inl ⟨.inl hm, .inl (beq_iff_eq.1 ha), by rw [hm]; rfl⟩⟩
  next hm _ ha => exact .inr ⟨_, rfl, rfl, .inl ⟨.inl hm, .inr (.inr (beq_iff_eq.1 ha)), by rw [hm]; rfl⟩⟩
  next => exact .inl rfl
  next hm ha _ => exact .inr ⟨_, rfl, rfl, .inl ⟨.inr hm, .inr (.inl (beq_iff_eq.1 ha)), by rw [hm]; rfl⟩⟩
  next hm ha _ _ _ => exact .inr ⟨_, rfl, rfl, .inl ⟨.inr hm, .inr (.inl (beq_iff_eq.1 ha)), by rw [hm]; rfl⟩⟩
  next hm _ ha => exact .inr ⟨_, rfl, rfl, .inl ⟨.inr hm, .inr (.inr (beq_iff_eq.1 ha)), by rw [hm]; rfl⟩⟩
  next => exact .inl rfl
  next => exact .inl rfl
  next ha h1 h2 h3 => exact .inr ⟨_, rfl, rfl, .inr ⟨h1, h2, h3, beq_iff_eq.1 ha, rfl⟩⟩
  next => exact .inl rfl

theorem mixElem_one {t a nullTy v} (h : mixElem t a nullTy = .ok (.one v)) : v.flat = true ∧
    (((t.major = .int ∨ t.major = .num) ∧ (a.type.major = .num ∨ a.type.major = .int ∨ a.type.major = .none) ∧
        v.type = { major := t.major })
    ∨ (t.major ≠ .int ∧ t.major ≠ .num ∧ t.major ≠ .tup ∧ a.type.major = .none ∧ v = .null nullTy)) := by
  rcases mixElem_ok h with h | ⟨_, h, hv⟩ <;> cases h
  exact hv

theorem mixElem_mismatch (t : Ty) (a : Val) (nullTy : Ty) (hnn : a.type.major ≠ .none)
    (hin : ¬(t.major = .int ∧ a.type.major = .num)) (hni : ¬(t.major = .num ∧ a.type.major = .int)) :
    mixElem t a nullTy = .ok .mismatch := by
  unfold mixElem
  cases htm : t.major <;> simp_all

/-- what `classify` hands over: a value out of the mixing branch, the elements of an argument that is a table of the receiver's
type, or the argument itself, which then has the element type -/
theorem classify_elems {Q : Val → Prop} {k t a nullTy s} (h : classify k t a nullTy = .ok s)
    (hmix : ∀ v, a.type.level = 0 → a.type.major ≠ t.major → mixElem t a nullTy = .ok (.one v) → Q v)
    (hmany : ∀ ad es, a = .tab t ad es → ∀ v ∈ es, Q v)
    (hone : a.type = t.levelDown → (a.type.major = .tup → a.isNull = false) → Q a) : ∀ v ∈ s.elems, Q v := by
  intro v hv
  rcases classify_cases h with ⟨hl0, hne, hm⟩ | ⟨ad, vs, e, h'⟩ | ⟨hty, hnn, h'⟩ | h' | h' <;> try cases h'
  · rcases mixElem_ok hm with rfl | ⟨w, rfl, _⟩
    · cases hv
    · obtain rfl := List.mem_singleton.1 hv
      exact hmix v hl0 hne hm
  · exact hmany ad vs e v hv
  · obtain rfl := List.mem_singleton.1 hv
    exact hone hty hnn
  · cases hv
  · cases hv

/-- the two numeric majors, crossed: an integer container given a decimal, a decimal container given an
integer -/
def crossNum (tm am : Major) : Bool := (tm == .int && am == .num) || (tm == .num && am == .int)

theorem crossNum_iff (tm am : Major) : crossNum tm am = true ↔ (tm = .int ∧ am = .num) ∨ (tm = .num ∧ am = .int) := by
  simp [crossNum]

/-- the null the type-mixing branch stores for a container of major `m`: `Value(Value::type_integer)` /
`Value(Value::type_numeric)` -/
def numNull (m : Major) : Val := .null { major := m }

/-- for a table of ONE dimension (and for a tuple item) that null has exactly the element type -/
theorem numNull_elem_type (t : Ty) (hl : t.level = 1) (hm : t.minor = 0) : (numNull t.major).type = t.levelDown := by
  cases t with
  | mk major minor level =>
    simp at hl hm; subst hl; subst hm
    simp [numNull, Val.type, Ty.levelDown]

theorem mixElem_null_cross (t nt nullTy : Ty) (hc : crossNum t.major nt.major = true) :
    mixElem t (.null nt) nullTy = .ok (.one (numNull t.major)) := by
  rw [crossNum_iff] at hc
  unfold mixElem
  rcases hc with ⟨h1, h2⟩ | ⟨h1, h2⟩
  · rw [h1]; simp [Val.type, h2, Val.isNull, numNull, Ty.int]
  · rw [h1]; simp [Val.type, h2, Val.isNull, numNull, Ty.num]

/-- a scalar typed null of the other numeric type reaches the mixing branch and is stored as the null of
the container's major — whatever the method and whatever the level of the table -/
theorem classify_null_cross (k : Kind) (t nt nullTy : Ty) (hc : crossNum t.major nt.major = true) (hl : nt.level = 0) :
    classify k t (.null nt) nullTy = .ok (.one (numNull t.major)) := by
  have hne : nt.major ≠ t.major := by
    rw [crossNum_iff] at hc
    rcases hc with ⟨h1, h2⟩ | ⟨h1, h2⟩ <;> rw [h1, h2] <;> simp
  exact (classify_mix k t (.null nt) nullTy hl hne).trans (mixElem_null_cross t nt nullTy hc)

/-- not a malformed table: a `Collection` always carries a table type (level ≥ 1) -/
def WfArg (a : Val) : Prop := ∀ t d es, a = .tab t d es → t.level ≠ 0

theorem WfArg.tabOk {a : Val} (h : WfArg a) : a.tabOk = true := by
  cases a <;> first | rfl | exact decide_eq_true (Nat.pos_of_ne_zero (h _ _ _ rfl))

theorem wfArg_of_uniform {P a} (ha : uniformP P a = true) : WfArg a :=
  fun _ _ _ e => Nat.ne_of_gt (tab_level_pos (e ▸ ha))

/-- no hazard is left in the type-mixing branch of put / insert / concat (373dc26): for every table
type and every level-0 argument the outcome is a slot, a refusal or OUT_OF_RANGE. -/
theorem mixElem_no_hazard (t : Ty) (a : Val) (nullTy : Ty) (hw : WfArg a) (hl : a.type.level = 0) :
    (mixElem t a nullTy).isHazard = false := by
  fun_cases mixElem t a nullTy
  any_goals rfl
  -- left are the leaves that pass on a hazard of `intOfDecimal`, `asNum`, `asInt`: the first has none, the accessors have none
  -- on a number that is no null
  next x _ _ hi => have := intOfDecimal_no_hazard x; rw [hi] at this; cases this
  next hm hn _ hx => obtain ⟨x, rfl⟩ := eq_num_of hw.tabOk hl (beq_iff_eq.1 hm) (Bool.eq_false_iff.2 hn); cases hx
  next hm hn _ hx => obtain ⟨x, rfl⟩ := eq_int_of hw.tabOk hl (beq_iff_eq.1 hm) (Bool.eq_false_iff.2 hn); cases hx

/-! `mixItem` (set@) is `mixElem` (put) for the item type taken as the header of a one-dimensional table -/

def slotOpt : Res Slot → Res (Option Val)
  | .ok (.one v) => .ok (some v)
  | .ok _ => .ok none
  | .err c a => .err c a
  | .haz h => .haz h
  | .unmodelled => .unmodelled

theorem mixItem_eq_mixElem (dt : Ty) (a : Val) (oldTy : Ty) (hnt : dt.major ≠ .tup) :
    mixItem dt a oldTy = slotOpt (mixElem dt.levelUp a oldTy) := by
  unfold mixItem mixElem
  have e : dt.levelUp.major = dt.major := rfl
  rw [e]
  cases hm : dt.major with
  | tup => exact absurd hm hnt
  | int =>
    simp only
    split
    · split
      · rfl
      · cases a.asNum with
        | ok x => simp only; cases Num.intOfDecimal x <;> rfl
        | _ => rfl
    · split <;> rfl
  | num =>
    simp only
    split
    · split
      · rfl
      · cases a.asInt <;> rfl
    · split <;> rfl
  | _ => simp only; split <;> rfl

theorem slotOpt_isHazard (r : Res Slot) : (slotOpt r).isHazard = r.isHazard := by
  unfold slotOpt; split <;> rfl

/-- for a tuple item type only the default branch is left (`mixElem` refuses in its ROWTYPE case) -/
theorem mixItem_tup (dt : Ty) (a : Val) (oldTy : Ty) (h : dt.major = .tup) :
    mixItem dt a oldTy = if a.type.major == .none then .ok (some (.null oldTy)) else .ok none := by
  unfold mixItem; rw [h]

theorem mixItem_no_hazard (dt : Ty) (a : Val) (oldTy : Ty) (hw : WfArg a) (hl : a.type.level = 0) :
    (mixItem dt a oldTy).isHazard = false := by
  by_cases h : dt.major = .tup
  · rw [mixItem_tup dt a oldTy h]; split <;> rfl
  · rw [mixItem_eq_mixElem dt a oldTy h, slotOpt_isHazard]; exact mixElem_no_hazard _ a oldTy hw hl

theorem classify_no_hazard (k : Kind) (t : Ty) (a : Val) (nullTy : Ty) (hw : WfArg a) :
    (classify k t a nullTy).isHazard = false := by
  rcases classify_cases (rfl : classify k t a nullTy = _) with ⟨hl, _, h⟩ | ⟨_, _, _, h⟩ | ⟨_, _, h⟩ | h | h
  · rw [← h]; exact mixElem_no_hazard t a nullTy hw hl
  all_goals rw [h]; rfl

/-- outside the level-mixing region a table that the mixing branch converts for (an integer / decimal table given a scalar of the
other numeric major or an untyped null) has one dimension -/
theorem one_dim_of_not_levelBug {t : Ty} {a : Val} (hl : KF.levelBug t a = false) (hl0 : a.type.level = 0)
    (h1 : t.major = .int ∨ t.major = .num) (h2 : a.type.major = .num ∨ a.type.major = .int ∨ a.type.major = .none)
    (h3 : a.type.major ≠ t.major) : t.level - 1 = 0 := by
  unfold KF.levelBug at hl
  rcases h1 with h1 | h1 <;> rcases h2 with h2 | h2 | h2 <;> simp [h1, h2, hl0] at hl h3 <;> omega

/-- a value whose *implementation* type equals the element type of a table has the element type
of the Spec, provided declarations hash injectively -/
theorem ety_of_type_eq {P} (hinj : Inj P) {t d} (hh : headerOk t d = true) (hp : t.major = .tup → P d = true)
    {a : Val} (ha : uniformP P a = true) (hnn : a.type.major = .tup → a.isNull = false)
    (hty : a.type = t.levelDown) : etyOf a = elemETy t d := by
  obtain ⟨h1, h2⟩ := header_exact hh hp
  obtain ⟨a1, a2⟩ := uniform_exact ha
  rw [etyOf_eq, elemETy_eq, hty]
  refine mkETy_congr hinj _ (hty ▸ a1) h1.levelDown rfl rfl ?_
  rw [a2, h2, hty]
  constructor
  · rintro (h | h)
    · exact h
    · intro hm; rw [hnn (hty ▸ hm)] at h; cases h
  · exact .inl

/-- what `classify` hands over has the table's element type and is uniform (outside the level-mixing region, declarations hashing
injectively) -/
theorem classify_sound (P) (hinj : Inj P) {k t d a nullTy s}
    (hh : headerOk t d = true) (hp : t.major = .tup → P d = true)
    (ha : uniformP P a = true) (hl : KF.levelBug t a = false)
    (hn : nullTy.major = t.major ∧ normMinor nullTy = normMinor t ∧ nullTy.level = t.level - 1)
    (h : classify k t a nullTy = .ok s) : ∀ v ∈ s.elems, etyOf v = elemETy t d ∧ uniformP P v = true := by
  refine classify_elems h (fun v hl0 hne hmix => ?_) (fun ad vs e => ?_) fun hty hnn => ⟨ety_of_type_eq hinj hh hp ha hnn hty, ha⟩
  · -- the mixing branch stores a scalar of the table's own major; outside `levelBug` the table has one dimension
    obtain ⟨hf, hw⟩ := mixElem_one hmix
    refine ⟨?_, uniformP_flat P hf⟩
    rw [etyOf_flat hf]
    unfold elemETy
    rcases hw with ⟨htm, ham, hty⟩ | ⟨_, _, h3, _, rfl⟩
    · have hnt : t.major ≠ .tup := by rcases htm with h | h <;> simp [h]
      rw [hty, mkETy_nil, mkETy_nontup t d _ hnt, one_dim_of_not_levelBug hl hl0 htm ham hne]
      rcases htm with h | h <;> simp [normMinor, h]
    · rw [mkETy_nontup _ [] _ (by rw [Val.type, hn.1]; exact h3), mkETy_nontup t d _ h3, Val.type, hn.1, hn.2.1, hn.2.2]
  · subst e
    obtain ⟨hha, hpa, hes⟩ := tab_parts ha
    obtain ⟨a1, a2⟩ := header_exact hha hpa
    obtain ⟨b1, b2⟩ := header_exact hh hp
    have : elemETy t ad = elemETy t d := mkETy_congr hinj _ a1 b1 rfl rfl (by rw [a2, b2])
    rw [← this]; exact (uniformAll_iff ..).1 hes

theorem canon_tab_parts {t d es} (h : canon (.tab t d es) = true) :
    canonTy t = true ∧ ∀ e ∈ es, canonTy e.type = true := by
  simp only [canon, Val.type, Bool.and_eq_true, List.all_eq_true] at h
  exact h

theorem canon_type {a : Val} (h : canon a = true) : canonTy a.type = true := by
  simp only [canon, Bool.and_eq_true] at h; exact h.1

/-- canonical minors: `classify` hands over the argument, its elements, a number, or a null of the type it was given -/
theorem classify_canon {k t a nullTy s} (ha : canon a = true) (hn : canonTy nullTy = true)
    (h : classify k t a nullTy = .ok s) : ∀ v ∈ s.elems, canonTy v.type = true := by
  refine classify_elems h (fun v _ _ hmix => ?_) (fun ad vs e => ?_) fun _ _ => canon_type ha
  · rcases (mixElem_one hmix).2 with ⟨htm, _, hty⟩ | ⟨_, _, _, _, rfl⟩
    · rw [hty]; rcases htm with h | h <;> rw [h] <;> rfl
    · exact hn
  · subst e; exact (canon_tab_parts ha).2

theorem type_parts_of_ety {P P' v t d} (hh : Exact P' t d) (hu : uniformP P v = true) (h : etyOf v = elemETy t d) :
    v.type.major = t.major ∧ normMinor v.type = normMinor t ∧ v.type.level = t.level - 1 ∧ (declOf v = [] ↔ d = []) := by
  rw [etyOf_eq, elemETy_eq] at h
  have := mkETy_inj (uniform_exact hu).1 hh.levelDown h
  exact this

theorem elemArg_mem {m : Member} {args : List Val} {a : Val} (h : KF.elemArg m args = some a) : a ∈ args := by
  unfold KF.elemArg at h
  split at h <;> cases h <;> simp

/-- where an element stored by a call comes from: the classification of the call's element argument, against the type insert /
concat pass for an adopted null or against that of the element `put` replaces -/
def Stored (t : Ty) (es : List Val) (m : Member) (args : List Val) (v : Val) : Prop :=
  ∃ a, KF.elemArg m args = some a ∧ ∃ k nullTy s,
    (nullTy = t.levelDown ∨ ∃ old ∈ es, nullTy = old.type) ∧ classify k t a nullTy = .ok s ∧ v ∈ s.elems

/-- A successful member call on a table returns a table with the same header whose elements are old ones or stored ones; the
result is the receiver, an old element or an integer. What holds of every element — uniformity, canonical minors — is kept
when it holds of what `classify` hands over. -/
theorem tab_edit {t d es m args c r x'} (hl : t.level > 0) (h : memberCall m (.tab t d es) args c = .ok (r, x')) :
    (r = x' ∨ r ∈ es ∨ ∃ i, r = .int i) ∧ ∃ es', x' = .tab t d es' ∧ ∀ e ∈ es', e ∈ es ∨ Stored t es m args e := by
  have same : ∃ es', Val.tab t d es = .tab t d es' ∧ ∀ e ∈ es', e ∈ es ∨ Stored t es m args e := ⟨es, rfl, fun _ => .inl⟩
  unfold memberCall at h
  split at h
  · rw [mAt_tab] at h
    obtain ⟨i, _, h⟩ := Lemmas.Res.bind_eq_ok _ _ _ h
    cases he : es[i]? <;> rw [he] at h <;> cases h
    exact ⟨.inr (.inl (List.mem_of_getElem? he)), same⟩
  · rename_i a0 a1
    rw [mPut_tab] at h
    obtain ⟨i, _, h⟩ := Lemmas.Res.bind_eq_ok _ _ _ h
    cases hold : es[i]? <;> rw [hold] at h
    · cases h
    obtain ⟨sl, hc, h⟩ := Lemmas.Res.bind_eq_ok _ _ _ h
    cases sl <;> cases h
    exact ⟨.inl rfl, _, rfl, fun e he => (mem_listPut he).imp_right fun e' =>
      ⟨a1, rfl, _, _, _, .inr ⟨_, List.mem_of_getElem? hold, rfl⟩, hc, List.mem_singleton.2 e'⟩⟩
  · rename_i a0 a1
    rw [mInsert_tab] at h
    obtain ⟨i, _, h⟩ := Lemmas.Res.bind_eq_ok _ _ _ h
    obtain ⟨sl, hc, h⟩ := Lemmas.Res.bind_eq_ok _ _ _ h
    have st : ∀ e ∈ sl.elems, Stored t es .insert [a0, a1] e := fun e he => ⟨a1, rfl, _, _, _, .inl rfl, hc, he⟩
    cases sl <;> cases h
    · exact ⟨.inl rfl, _, rfl, fun e he => (mem_listIns he).imp_right (st e)⟩
    · exact ⟨.inl rfl, _, rfl, fun e he => (mem_listIns he).imp_right fun h => st e (List.mem_reverse.1 h)⟩
    · exact ⟨.inl rfl, same⟩
  · rw [mDelete_tab] at h
    obtain ⟨i, _, h⟩ := Lemmas.Res.bind_eq_ok _ _ _ h
    cases h
    exact ⟨.inl rfl, _, rfl, fun e he => .inl (mem_listDel he)⟩
  · rename_i a0
    rw [mConcat_tab _ _ _ _ _ hl] at h
    obtain ⟨sl, hc, h⟩ := Lemmas.Res.bind_eq_ok _ _ _ h
    have st : ∀ e ∈ sl.elems, Stored t es .concat [a0] e := fun e he => ⟨a0, rfl, _, _, _, .inl rfl, hc, he⟩
    cases sl <;> cases h
    · exact ⟨.inl rfl, _, rfl, fun e he => (List.mem_append.1 he).imp_right (st e)⟩
    · exact ⟨.inl rfl, _, rfl, fun e he => (List.mem_append.1 he).imp_right (st e)⟩
    · exact ⟨.inl rfl, same⟩
  · cases h; exact ⟨.inr (.inr ⟨_, rfl⟩), same⟩
  · cases h

/-- no member reaches a hazard on a table, for arguments that are no malformed tables (the receiver's own level is looked at by
`concat` only) -/
theorem tab_no_hazard {t d es m args c} (hl : m = .concat → t.level > 0) (hw : ∀ a ∈ args, WfArg a) :
    (memberCall m (.tab t d es) args c).isHazard = false := by
  have pos : ∀ {a n} {f : Nat → Res (Val × Val)}, a ∈ args → (∀ i, (f i).isHazard = false) → (memPos a n >>= f).isHazard = false :=
    fun h hf => isHazard_bind _ _ (memPos_no_hazard (hw _ h).tabOk _) fun i _ => hf i
  have store : ∀ {k a nullTy} {f : Slot → Res (Val × Val)}, a ∈ args → (∀ s, (f s).isHazard = false) →
      (classify k t a nullTy >>= f).isHazard = false :=
    fun h hf => isHazard_bind _ _ (classify_no_hazard _ t _ _ (hw _ h)) fun s _ => hf s
  unfold memberCall
  split
  · rw [mAt_tab]; exact pos (by simp) fun i => by split <;> rfl
  · rw [mPut_tab]
    exact pos (by simp) fun i => by
      split
      · rfl
      · exact store (by simp) fun s => by cases s <;> rfl
  · rw [mInsert_tab]; exact pos (by simp) fun i => store (by simp) fun s => by cases s <;> rfl
  · rw [mDelete_tab]; exact pos (by simp) fun i => rfl
  · rw [mConcat_tab _ _ _ _ _ (hl rfl)]; exact store (by simp) fun s => by cases s <;> rfl
  · rfl
  · rfl

theorem nullTabConcat_uniform {P} {recv a0 : Val} (hx : uniformP P recv = true) (ha : uniformP P a0 = true) :
    uniformP P (nullTabConcat recv a0) = true := by
  fun_cases nullTabConcat recv a0
  -- the receiver, the argument, or a new table of the argument alone: of a tuple, of a scalar
  · exact hx
  · exact ha
  · rename_i decl items _ _
    obtain ⟨hd, _, hP, _⟩ := tup_parts ha
    obtain ⟨hh, he⟩ := tuple_header decl hd
    exact tab_intro hh (fun _ => hP) (uniformAll_single P _ _ he ha)
  · exact hx
  · exact hx
  · rename_i hl hnt hnn
    have hnt' : a0.type.major ≠ .tup := by simpa using hnt
    have e : etyOf a0 = mkETy a0.type [] a0.type.level := by rw [etyOf_eq, (uniform_exact ha).2.2 (.inl hnt')]
    obtain ⟨hh, he⟩ := header_levelUp a0.type [] (by simpa using hnn) (by omega) (.inr ⟨hnt', rfl⟩)
    exact tab_intro hh (fun h => absurd h hnt') (uniformAll_single P _ _ (e.trans he) ha)

/-- every member keeps `uniformP`, whatever the receiver is: a table by `tab_edit` and `classify_sound`, any other receiver by
`nontab_ret` -/
theorem member_preserves (P) (hinj : Inj P) {x : Val} {m : Member} {args : List Val} {c : Bool} {r x' : Val}
    (hx : uniformP P x = true) (ha : ∀ a ∈ args, uniformP P a = true)
    (hreg : ∀ t d es a, x = .tab t d es → KF.elemArg m args = some a → KF.levelBug t a = false)
    (h : memberCall m x args c = .ok (r, x')) : uniformP P r = true ∧ uniformP P x' = true := by
  have hw : ∀ a ∈ args, WfArg a := fun a h => wfArg_of_uniform (ha a h)
  refine (nontab_ret (uniformP_flat P) hx (fun a h => (hw a h).tabOk) ha (nullTabConcat_uniform hx) m c
    fun t d es e => ?_).2 r x' h
  subst e
  refine ⟨tab_no_hazard (fun _ => tab_level_pos hx) hw, fun r x' h => ?_⟩
  obtain ⟨hh, hp, hes⟩ := tab_parts hx
  obtain ⟨hr, es', rfl, hes'⟩ := tab_edit (tab_level_pos hx) h
  rw [uniformAll_iff] at hes
  have hx' : uniformP P (.tab t d es') = true := tab_intro hh hp ((uniformAll_iff ..).2 fun e he => by
    rcases hes' e he with h | ⟨a, hea, k, nullTy, s, hn, hc, hv⟩
    · exact hes e h
    · refine classify_sound P hinj hh hp (ha a (elemArg_mem hea)) (hreg t d es a rfl hea) ?_ hc e hv
      rcases hn with rfl | ⟨old, ho, rfl⟩
      · exact ⟨rfl, rfl, rfl⟩
      · obtain ⟨h1, h2, h3, _⟩ := type_parts_of_ety (header_exact hh hp).1 (hes old ho).2 (hes old ho).1
        exact ⟨h1, h2, h3⟩)
  refine ⟨?_, hx'⟩
  rcases hr with rfl | h | ⟨i, rfl⟩
  · exact hx'
  · exact (hes r h).2
  · rfl

theorem map_listPut {α β} (f : α → β) (l : List α) (n : Nat) (v : α) :
    (listPut l n v).map f = listPut (l.map f) n (f v) := by
  unfold listPut; simp [List.map_take, List.map_drop]

theorem listPut_self {α} (l : List α) (n : Nat) (y : α) (h : l[n]? = some y) : listPut l n y = l := by
  obtain ⟨hlt, rfl⟩ := List.getElem?_eq_some_iff.1 h
  rw [listPut_eq_set l n _ hlt, List.set_getElem_self]

theorem listDel_eq_eraseIdx {α} (l : List α) (n : Nat) : listDel l n = l.eraseIdx n := by
  unfold listDel; rw [List.eraseIdx_eq_take_drop_succ]

theorem scalarVal_of_type {P} {a : Val} (hu : uniformP P a = true) (hs : scalarTy a.type = true) : scalarVal a = true := by
  obtain ⟨hl, hnt, _⟩ := scalarTy_facts _ hs
  cases a with
  | tup d items => exact absurd (makeTupleTy_major d 0) hnt
  | tab t d es => exact absurd hl (Nat.ne_of_gt (tab_level_pos hu))
  | _ => exact hs

theorem scalarTy_plain (dt : Ty) (hs : scalarTy dt = true) (ho : dt.major ≠ .obj) : dt = { major := dt.major } := by
  obtain ⟨h0, ht, _, hmin⟩ := scalarTy_facts dt hs
  refine Ty.ext' _ _ rfl ?_ h0
  rw [hmin, normMinor]
  exact if_neg (by simp [ho, ht])

theorem tup_item (P) {decl : List Ty} {items : List Val} (hu : uniformP P (.tup decl items) = true) {idx : Nat}
    (h : idx < decl.length) :
    ∃ dt old, decl[idx]? = some dt ∧ items[idx]? = some old ∧ old.type = dt ∧ scalarTy dt = true := by
  obtain ⟨_, hsc, _, hmap, _⟩ := tup_parts hu
  have hlen := tup_length P hu
  obtain ⟨dt, hdt⟩ : ∃ dt, decl[idx]? = some dt := ⟨_, List.getElem?_eq_getElem h⟩
  obtain ⟨old, hold⟩ : ∃ old, items[idx]? = some old := ⟨_, List.getElem?_eq_getElem (hlen ▸ h)⟩
  refine ⟨dt, old, hdt, hold, ?_, (List.all_eq_true.1 hsc) dt (List.mem_of_getElem? hdt)⟩
  have : (items.map Val.type)[idx]? = some old.type := by simp [hold]
  rw [hmap, hdt] at this; exact (Option.some.inj this).symm

/-- `set@` on an item of type `dt` classifies its argument as `put` does on a one-dimensional table of `dt` -/
theorem setItemV_eq (decl : List Ty) (items : List Val) (idx : Nat) (x : Val) (dt : Ty) (old : Val)
    (hl : x.type.level = 0) (hnt : dt.major ≠ .tup) (hnn : dt.major ≠ .none)
    (hdt : decl[idx]? = some dt) (hold : items[idx]? = some old) :
    setItemV (.tup decl items) idx x = classify .put dt.levelUp x old.type >>= fun s =>
      match s with
      | .one v => .ok (.tup decl (listPut items idx v), .tup decl (listPut items idx v))
      | _ => tyMismatch := by
  obtain ⟨hidx, _⟩ := List.getElem?_eq_some_iff.1 hdt
  unfold setItemV
  simp only [Val.isNull, Bool.false_eq_true, ↓reduceIte, hl, bne_self_eq_false, hidx, hdt, hold]
  by_cases hm : x.type.major = dt.major
  · have hig : ignoredNull x = false := by rw [ignoredNull_eq, hl, hm]; simp [hnt]
    rw [classify_typed (t := dt.levelUp) (.inr hm) fun hk => absurd rfl hk, hig, show dt.levelUp.levelDown = dt from rfl]
    by_cases he : dt = x.type
    · simp [he]
    · have h1 : (dt == x.type) = false := by simpa using he
      have h2 : (x.type == dt) = false := by simpa using (fun h => he h.symm)
      -- the mixing branch refuses a value of the item's own major
      have hne : ∀ {m m' : Major}, m ≠ m' → ¬(dt.major = m ∧ x.type.major = m') :=
        fun h h' => h (h'.1.symm.trans (hm.symm.trans h'.2))
      rw [h1, h2, mixItem_eq_mixElem dt x old.type hnt,
        mixElem_mismatch dt.levelUp x old.type (hm ▸ hnn) (hne nofun) (hne nofun)]
      rfl
  · have h1 : (dt == x.type) = false := beq_eq_false_iff_ne.mpr fun e => hm (e ▸ rfl)
    rw [classify_mix .put dt.levelUp x old.type hl hm, h1, mixItem_eq_mixElem dt x old.type hnt]
    cases mixElem dt.levelUp x old.type with
    | ok s => cases s <;> rfl
    | _ => rfl

theorem setItemV_preserves {P} {x : Val} {idx : Nat} {a0 r x' : Val} (hx : uniformP P x = true) (ha : uniformP P a0 = true)
    (h : setItemV x idx a0 = .ok (r, x')) :
    r = x' ∧ uniformP P x' = true ∧
      ∃ decl items items', x = .tup decl items ∧ x' = .tup decl items' ∧ items'.length = items.length ∧
        items'.map Val.type = decl := by
  cases x with
  | tup decl items =>
    obtain ⟨hd, hsc, hP, hmap, hall⟩ := tup_parts hx
    have hlen := tup_length P hx
    have hl : a0.type.level = 0 := Decidable.by_contra fun hl => by simp [setItemV, Val.isNull, hl] at h
    have hidx : idx < decl.length := Decidable.by_contra fun hidx => by simp [setItemV, Val.isNull, hl, hidx, idxErr] at h
    obtain ⟨dt, old, hdt, hold, hold_ty, hdts⟩ := tup_item P hx hidx
    obtain ⟨_, hnt, hnn, _⟩ := scalarTy_facts dt hdts
    rw [setItemV_eq decl items idx a0 dt old hl hnt hnn hdt hold] at h
    obtain ⟨sl, hc, h⟩ := Lemmas.Res.bind_eq_ok _ _ _ h
    cases sl <;> cases h
    rename_i v
    -- the stored value: the argument itself, of type `dt.levelUp.levelDown`, or what the mixing branch makes of it
    have hv : v.type = dt ∧ uniformP P v = true := by
      refine classify_elems (Q := fun v => v.type = dt ∧ uniformP P v = true) hc (fun v _ _ hm => ?_)
        (fun ad es e => by rw [e] at hl; cases hl) (fun hty _ => ⟨hty, ha⟩) v (List.mem_singleton.2 rfl)
      obtain ⟨hf, ⟨hm', _, hty⟩ | ⟨_, _, _, _, rfl⟩⟩ := mixElem_one hm
      · have ho : dt.major ≠ .obj := by rcases hm' with h | h <;> rw [show dt.major = _ from h] <;> nofun
        exact ⟨hty.trans (scalarTy_plain dt hdts ho).symm, uniformP_flat P hf⟩
      · exact ⟨hold_ty, rfl⟩
    have hm : (listPut items idx v).map Val.type = decl := by
      rw [map_listPut, hmap, hv.1]; exact listPut_self decl idx dt hdt
    refine ⟨rfl, ?_, decl, items, _, rfl, rfl, length_listPut items idx v (hlen ▸ hidx), hm⟩
    refine tup_intro P hd hsc hP hm fun y hy => ?_
    rcases mem_listPut hy with h | rfl
    · exact List.all_eq_true.1 hall y h
    · exact scalarVal_of_type hv.2 (by rw [hv.1]; exact hdts)
  | null t => simp [setItemV, Val.isNull, idxErr] at h
  | _ => simp [setItemV, Val.isNull] at h

/-- the model's outcome satisfies a Spec outcome -/
def Sat (r : Res (Val × Val)) : SOut → Prop
  | .ok res x => r = .ok (res, x)
  | .reject .index => r = .err Gen.EXC_RT_INDEX_RANGE_S
  | .reject .range => r = .err Gen.EXC_RT_OUT_OF_RANGE
  | .reject _ => ∃ c a, r = .err c a
  | .either res x => r = .ok (res, x) ∨ ∃ c a, r = .err c a

/-- a refusal the Spec names: the index error, OUT_OF_RANGE, or any error -/
def RejectAs {α} (r : Res α) : SErr → Prop
  | .index => r = .err Gen.EXC_RT_INDEX_RANGE_S
  | .range => r = .err Gen.EXC_RT_OUT_OF_RANGE
  | _ => ∃ c a, r = .err c a

theorem sat_reject (r : Res (Val × Val)) (e : SErr) : Sat r (.reject e) ↔ RejectAs r e := by
  cases e <;> exact Iff.rfl

theorem RejectAs.bind {α β} {r : Res α} {e : SErr} (h : RejectAs r e) (f : α → Res β) : RejectAs (r >>= f) e := by
  cases e with
  | index | range => rw [show r = _ from h]; rfl
  | type | any => obtain ⟨c, a, h⟩ := h; rw [h]; exact ⟨c, a, rfl⟩

/-- a uniform table or tuple has no scalar type (a table has a level, a tuple the major `tup`): every typed accessor refuses it -/
theorem accessors_refuse {P v} (hu : uniformP P v = true) (hf : v.flat = false) :
    v.asInt = .err Gen.EXC_RT_NOT_INTEGER ∧ v.asStr = .err Gen.EXC_RT_NOT_LITERAL ∧ v.asRaw = .err Gen.EXC_RT_NOT_TABCHAR := by
  cases v with
  | tab t d es =>
    have : t.level ≠ 0 := Nat.ne_of_gt (tab_level_pos hu)
    simp [Val.asInt, Val.asStr, Val.asRaw, Val.type, this]
  | tup d items => simp [Val.asInt, Val.asStr, Val.asRaw, Val.type, makeTupleTy_major]
  | _ => cases hf

/-! The model reads a position as the Spec's `pos` does: the same index where `pos` gives one, … -/
theorem memPos_ok {p : Val} {n i : Nat} (h : Spec.pos p n = .ok i) : memPos p n = .ok i ∧ i < n := by
  cases p <;> try cases h
  rename_i pi
  simp only [Spec.pos] at h
  split at h <;> cases h
  rename_i hr
  have : inRange pi n = true := decide_eq_true hr
  rw [memPos_int, this]
  exact ⟨rfl, by omega⟩

/-- … and the refusal `pos` names otherwise (INDEX_RANGE for a null and an out-of-range integer, NOT_INTEGER for
everything that is not an integer), which is then the outcome of the call whatever follows the position stage. -/
theorem memPos_reject (P) {p : Val} {n : Nat} {e : SErr} (hp : uniformP P p = true) (h : Spec.pos p n = .error e)
    (f : Nat → Res (Val × Val)) : Sat (memPos p n >>= f) (.reject e) := by
  refine (sat_reject _ e).2 (RejectAs.bind ?_ f)
  cases p with
  | int pi =>
    simp only [Spec.pos] at h
    split at h <;> cases h
    rename_i hr
    have : inRange pi n = false := decide_eq_false hr
    rw [memPos_int, this]; rfl
  | null t => cases h; rfl
  | tab | tup => cases h; exact ⟨Gen.EXC_RT_NOT_INTEGER, [], by simp [memPos, Val.isNull, (accessors_refuse hp rfl).1]⟩
  | _ => cases h; exact ⟨_, _, rfl⟩

/-- the position stage of put / insert / delete against the Spec's `pos`: the refusal `pos` names, or whatever follows a valid
index -/
theorem memPos_sat (P) {p : Val} {n : Nat} (hp : uniformP P p = true) {f : Nat → Res (Val × Val)} {g : Nat → SOut}
    (h : ∀ i, i < n → Sat (f i) (g i)) :
    Sat (memPos p n >>= f) (match Spec.pos p n with | .error e => .reject e | .ok i => g i) := by
  cases hpos : Spec.pos p n with
  | error e => exact memPos_reject P hp hpos f
  | ok i => obtain ⟨hm, hlt⟩ := memPos_ok hpos; rw [hm]; exact h i hlt

end BlocV.C09
