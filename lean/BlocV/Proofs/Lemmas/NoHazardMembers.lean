/-
  For C01 (whole programs): the container members of Model/Members.lean at the level of values. For EVERY receiver (table, string,
  bytes, tuple, null, anything else), every argument list and either value of the constant flag, `memberCall` reaches no hazard and
  both the result and the receiver-after are deep-well-formed again (`okVal`): `memberCall_nhr`, an instance of what one member
  call returns (`nontab_ret`; on a table `C09.tab_no_hazard`, `C09.tab_edit`).
-/
import BlocV.Proofs.Lemmas.NoHazardInterp
namespace BlocV.NHI
variable {bad : Hazard → Bool}

theorem okVals_of_tab {t : Ty} {d : List Ty} {es : List Val} (h : okVal (.tab t d es) = true) : okVals es = true := by
  simp only [okVal_tab, Bool.and_eq_true] at h
  exact h.2

theorem okVal_tab_of {t : Ty} {d : List Ty} {es es' : List Val} (h : okVal (.tab t d es) = true) (h' : okVals es' = true) :
    okVal (.tab t d es') = true := by
  simp only [okVal_tab, Bool.and_eq_true] at h ⊢
  exact ⟨h.1, h'⟩

theorem okVal_of_flat {v : Val} (h : v.flat = true) : okVal v = true := by
  cases v <;> first | rfl | cases h

theorem classify_elems_ok {k : Kind} {t : Ty} {a : Val} {nullTy : Ty} {s : Slot} (ha : okVal a = true) (h : classify k t a nullTy = .ok s) :
    ∀ v ∈ s.elems, okVal v = true :=
  C09.classify_elems h (fun _ _ _ hm => okVal_of_flat (C09.mixElem_one hm).1)
    (fun _ _ e => (okVals_iff _).1 (okVals_of_tab (e ▸ ha))) fun _ _ => ha

theorem okVal_nullTabConcat {recv a0 : Val} (hr : okVal recv = true) (h0 : okVal a0 = true) : okVal (nullTabConcat recv a0) = true := by
  fun_cases nullTabConcat recv a0
  -- the receiver, the argument, or a new table of the argument alone
  · exact hr
  · exact h0
  · simp [okVal_tab, makeTupleTy_level, h0]
  · exact hr
  · exact hr
  · simp [okVal_tab, Ty.levelUp, h0]

/-- result and receiver-after of a member call -/
abbrev okPair (p : Val × Val) : Prop := okVal p.1 = true ∧ okVal p.2 = true

theorem memberCall_nhr (m : Member) (recv : Val) (args : List Val) (c : Bool) (hr : okVal recv = true) (ha : okVals args = true) :
    NHR bad okPair (memberCall m recv args c) := by
  have hargs := (okVals_iff args).1 ha
  have h : Ret okV (memberCall m recv args c) := by
    refine nontab_ret okVal_of_flat hr (fun a h => tabOk_of_okVal (hargs a h)) hargs (okVal_nullTabConcat hr) m c
      fun t d es e => ?_
    subst e
    have hl : t.level > 0 := Nat.pos_of_ne_zero (wfArg_of_okVal hr t d es rfl)
    refine ⟨C09.tab_no_hazard (fun _ => hl) fun a h => wfArg_of_okVal (hargs a h), fun r x' h => ?_⟩
    have hes := (okVals_iff es).1 (okVals_of_tab hr)
    obtain ⟨hres, es', rfl, hes'⟩ := C09.tab_edit hl h
    -- an element afterwards is an old one or comes out of the classification of an argument
    have hx' : okVal (.tab t d es') = true := okVal_tab_of hr ((okVals_iff es').2 fun e he => (hes' e he).elim (hes e)
      fun ⟨a, hea, _, _, _, _, hc, hv⟩ => classify_elems_ok (hargs a (C09.elemArg_mem hea)) hc e hv)
    refine ⟨?_, hx'⟩
    rcases hres with rfl | h | ⟨i, rfl⟩
    · exact hx'
    · exact hes r h
    · exact okVal_int i
  exact NHR.mk' h.1 fun p e => h.2 p.1 p.2 e

/-- closes a goal that has a hypothesis `r = .haz _` where `r` is a typed accessor, `charArg` or `classify` applied to a
deep-well-formed (non-null) argument -/
macro "mem_haz" : tactic => `(tactic| first
  | exact (haz_absurd ‹_ = Res.haz _› (asInt_no_hazard (tabOk_of_okVal ‹_›) (by nn_tac))).elim
  | exact (haz_absurd ‹_ = Res.haz _› (asStr_no_hazard (tabOk_of_okVal ‹_›) (by nn_tac))).elim
  | exact (haz_absurd ‹_ = Res.haz _› (asRaw_no_hazard (tabOk_of_okVal ‹_›) (by nn_tac))).elim
  | exact (haz_absurd ‹_ = Res.haz _› (charArg_nh ‹_› (by nn_tac))).elim
  | exact (haz_absurd ‹_ = Res.haz _› (C09.classify_no_hazard _ _ _ _ (wfArg_of_okVal ‹_›))).elim)

/-- closes `NHR bad okPair r` for `r` an error, `.unmodelled`, a hazard `mem_haz` refutes, or `.ok` of values built from the elements /
bytes of the receiver whose well-formedness is the hypothesis `hr` -/
macro "mem_close" hr:ident : tactic => `(tactic| first
  | exact NHR.err
  | exact NHR.unm
  | mem_haz
  | (refine NHR.ok ⟨?_, ?_⟩ <;> first
      | assumption
      | exact okVal_int _ | exact okVal_str _ | exact okVal_raw _ | exact okVal_null _
      | (simp only [okVal_tab, Bool.and_eq_true] at $hr:ident
         simp only [okVal_tab, Bool.and_eq_true]
         refine ⟨($hr:ident).1, ?_⟩
         first
           | exact okVals_listPut _ _ _ ($hr:ident).2 ‹_›
           | exact okVals_listDel _ _ ($hr:ident).2
           | (apply okVals_listIns _ _ _ ($hr:ident).2; first | assumption | (simp; assumption) | (apply okVals_reverse; assumption))
           | (rw [okVals_append]; simp [($hr:ident).2]; assumption))))

end BlocV.NHI
