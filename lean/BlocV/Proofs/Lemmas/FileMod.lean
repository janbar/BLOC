/-
  The 4096-byte chunk loop of `read` is `take`, `fwrite` as a walk over the file is
  the closed form of the POSIX specification, `run` distributes over `++`.
-/
import BlocV.Model.Mod.File

namespace BlocV.Mod.File
open BlocV.Spec.File (readAt writeAt padTo)

/-- The loop of `Read_S` / `Read_B` delivers exactly `take n` of what follows the position, for EVERY request `n`
    (below, equal to, above 4096, multiple of 4096 or not), and advances the position by that much. -/
theorem readLoop_eq (c : Bytes) : ∀ (fuel pos : Nat) (n : Int) (acc : Bytes), n.toNat ≤ fuel * 4096 →
    readLoop true c fuel pos n acc = (acc ++ (c.drop pos).take n.toNat, pos + ((c.drop pos).take n.toNat).length) := by
  intro fuel
  induction fuel with
  | zero =>
    intro pos n acc h
    have : n.toNat = 0 := by omega
    simp [readLoop, this]
  | succ fuel ih =>
    intro pos n acc h
    unfold readLoop
    by_cases hn : n > 0
    · simp only [hn, if_true, freadAt]
      -- one chunk of `want` bytes: a short one ends the loop, a full one leaves `n - 4096` to read
      generalize hw : (if n > 4096 then 4096 else n.toNat) = want
      have hw1 : want ≤ 4096 ∧ want ≤ n.toNat ∧ (want < 4096 → want = n.toNat) := by
        subst hw; split <;> omega
      by_cases hlt : ((c.drop pos).take want).length < 4096
      · rw [if_pos hlt]
        -- it is all that was asked for, or all there is
        rw [List.length_take] at hlt
        rw [List.take_eq_take_iff.mpr (show min want _ = min n.toNat _ by omega)]
      · rw [if_neg hlt]
        have hle := List.length_take_le want (c.drop pos)
        have hw4 : want = 4096 := by omega
        subst hw4
        have hlen : ((c.drop pos).take 4096).length = 4096 := by omega
        rw [ih _ _ _ (by rw [hlen]; omega), hlen]
        have hn' : n.toNat = 4096 + (n - (4096 : Nat)).toNat := by omega
        rw [hn', List.take_add, ← List.drop_drop]
        simp only [List.append_assoc, List.length_append, hlen, Nat.add_assoc]
    · have : n.toNat = 0 := by omega
      simp [hn, this]

theorem readFuel_ok (n : Int) : n.toNat ≤ readFuel n * 4096 := by
  unfold readFuel; omega

theorem readLoop_noread' (c : Bytes) (fuel pos : Nat) (n : Int) : readLoop false c fuel pos n [] = ([], pos) := by
  cases fuel with
  | zero => simp [readLoop]
  | succ f =>
    unfold readLoop
    by_cases hn : n > 0 <;> simp [hn, freadAt]

theorem readLoop_noread (c : Bytes) (fuel pos : Nat) (n : Int) : (readLoop false c fuel pos n []).1 = [] := by
  rw [readLoop_noread']

theorem fwriteBytes_eq_writeAt (c : Bytes) (pos : Nat) (d : Bytes) : fwriteBytes c pos d = writeAt c pos d := by
  fun_induction fwriteBytes c pos d with
  | case1 c pos => simp [writeAt]
  | case2 d hd => simp [writeAt, padTo]
  | case3 pos d hd ih =>
    have hne : d ≠ [] := hd
    rw [ih]
    simp [writeAt, padTo, hne, List.replicate_succ]
  | case4 x c b d ih =>
    rw [ih]
    by_cases hd : d = []
    · subst hd; simp [writeAt, padTo]
    · simp [writeAt, padTo, hd, Nat.add_comm]
  | case5 x c pos d hd ih =>
    have hne : d ≠ [] := hd
    rw [ih]
    simp [writeAt, padTo, hne, Nat.add_assoc, Nat.add_comm 1, Nat.succ_sub_succ]
    rw [← Nat.add_assoc, List.drop_succ_cons]

theorem writeAt_end (c d : Bytes) : writeAt c c.length d = c ++ d := by
  by_cases hd : d = []
  · simp [writeAt, hd]
  · simp [writeAt, padTo, hd]

theorem readAt_writeAt (c : Bytes) (pos : Nat) (d : Bytes) : readAt (writeAt c pos d) pos d.length = d := by
  by_cases hd : d = []
  · simp [readAt, hd]
  · have hl : ((padTo c pos).take pos).length = pos := by
      simp [padTo, List.length_take]; omega
    simp only [writeAt, hd, if_false, readAt, List.append_assoc]
    rw [List.drop_left' hl, List.take_left]

theorem run_append (w : World) (a b : List Op) :
    run w (a ++ b) = ((run (run w a).1 b).1, (run w a).2 ++ (run (run w a).1 b).2) := by
  induction a generalizing w with
  | nil => simp [run]
  | cons op ops ih => simp [run, ih]

theorem run_cons (w : World) (op : Op) (ops : List Op) :
    run w (op :: ops) = ((run (step w op).1 ops).1, (step w op).2 :: (run (step w op).1 ops).2) := by
  simp [run]

end BlocV.Mod.File
