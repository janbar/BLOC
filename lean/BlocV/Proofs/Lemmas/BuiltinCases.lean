/-
  The built-ins of Model/Builtins.lean run in `Res` on arguments that are already suspended computations, as the interpreter
  supplies them. Three instances of the walk of Lemmas/BuiltinWalk.lean: no hazard (`Walk.res True`: `evalBuiltin_no_hazard_of`,
  for C01 and C10), the result types (`okWalk`: the `_type` lemmas, for C02), and what `substr` / `subraw` can return
  (`okWalk` again: `substrLike_ok_shape`, for C10).
-/
import BlocV.Proofs.Lemmas.BuiltinWalk

namespace BlocV
open Num

@[simp] theorem liftR_res {α} (r : Res α) : (liftR r : Res α) = r := rfl
@[simp] theorem liftM_res {α} (r : Res α) : (liftM r : Res α) = r := rfl
@[simp] theorem argTypeErr_res {α} : (argTypeErr : Res α) = .err Gen.EXC_RT_FUNC_ARG_TYPE_S := rfl
@[simp] theorem rerr_res {α} (c : Nat) : (rerr c : Res α) = .err c := rfl

theorem asStr_nh' {a : Val} (hw : a.tabOk = true) (hn : (!a.isNull) = true) : a.asStr.isHazard = false :=
  asStr_no_hazard hw (by simpa using hn)

@[simp] theorem isHazard_ok {α} (a : α) : (Res.ok a).isHazard = false := rfl
@[simp] theorem isHazard_argTypeErr {α} : (argTypeErr : Res α).isHazard = false := rfl
@[simp] theorem isHazard_rerr {α} (c : Nat) : (rerr c : Res α).isHazard = false := rfl

/-- Arguments as the interpreter supplies them: computations that do not themselves reach a hazard and whose values
are well-formed. -/
def ArgOk (t : Res Val) : Prop := t.isHazard = false ∧ ∀ v, t = .ok v → v.tabOk = true
def ArgsOk (args : List (Res Val)) : Prop := ∀ t ∈ args, ArgOk t

theorem ArgsOk.walk {args : List (Res Val)} (h : ArgsOk args) : (Walk.res True).Args args :=
  fun t ht => ⟨fun _ => (h t ht).1, fun v e _ => (h t ht).2 v e⟩

/-- The length of a string / byte-array value fits `int64_t` — what every `std::string::size()` /
`std::vector::size()` satisfies; `substr`/`subraw` store it into an `int64_t` and do signed arithmetic on it. -/
def Val.lenOk : Val → Bool
  | .str s => decide (s.length < 2 ^ 63)
  | .raw s => decide (s.length < 2 ^ 63)
  | _ => true

def ArgsLen (args : List (Res Val)) : Prop := ∀ t ∈ args, ∀ v, t = .ok v → v.lenOk = true

theorem substrRange_nh_len {v : Val} {s : Bytes} (hl : v.lenOk = true) (hs : v = .str s ∨ v = .raw s) (a0 b : Int64) :
    (substrRange (lenI s) a0 b).isHazard = false := by
  have hlen : s.length < 2 ^ 63 := by rcases hs with rfl | rfl <;> simpa [Val.lenOk] using hl
  exact substrRange_no_hazard _ _ _ (by rw [Lemmas.lenI_toInt s hlen]; omega)

/-- Dispatch: EVERY modelled built-in — `substr`, `subraw`, `hex` since their signed index arithmetic is guarded in /repo
(3378b71, 126118b; findings C01.bi.substr.overflow / subraw.overflow / hex.overflow), `abs` and `pow` since 22cd3e7, 512d78c
(findings C01.bi.abs.overflow / C01.bi.pow.floatcast). The length hypothesis is only needed by `substr` and `subraw`. -/
theorem evalBuiltin_no_hazard_of (fmt : F64 → Bytes) (name : String) (args : List (Res Val)) (r : Res Val)
    (h : ArgsOk args) (hl : name = "substr" ∨ name = "subraw" → ArgsLen args)
    (hr : evalBuiltin (m := Res) fmt name args = some r) : r.isHazard = false :=
  (evalBuiltin_walk (Walk.res True) fmt name args h.walk (fun v => v.tabOk = true ∧ v.lenOk = true) (fun _ hv _ => hv.1)
    (fun hn => ⟨fun t ht => ⟨fun _ => (h t ht).1, fun v e => ⟨(h t ht).2 v e, hl hn t ht v e⟩⟩,
      fun _ _ a b hv hs _ => substrRange_nh_len hv.2 hs a b⟩) r hr).1 trivial

/-- Argument values as a call with level-0 arguments supplies them. -/
def ArgTy (t : Res Val) : Prop := ∀ v, t = .ok v → v.wf = true ∧ v.type.level = 0
def ArgsTy (args : List (Res Val)) : Prop := ∀ t ∈ args, ArgTy t
theorem ArgsTy.head {t : Res Val} {ts : List (Res Val)} (h : ArgsTy (t :: ts)) : ArgTy t := h t (List.mem_cons_self ..)
theorem ArgsTy.tail {t : Res Val} {ts : List (Res Val)} (h : ArgsTy (t :: ts)) : ArgsTy ts :=
  fun x hx => h x (List.mem_cons_of_mem _ hx)

theorem ty_of_major {v : Val} {m : Major} (hw : v.wf = true ∧ v.type.level = 0) (hm : v.type.major = m)
    (hm' : m ≠ .obj ∧ m ≠ .tup := by decide) : v.type = { major := m } :=
  type_eq_of_wf hw.1 hw.2 hm rfl hm'.1 hm'.2

/-- The walk in `Res` for what a built-in returns, if anything: `Q` of the value (no claim about hazards). -/
def okWalk : Walk Res where
  T Q r := Res.okP Q r
  ok _ := True
  sound := False
  W _ := True
  pure := okP_pure
  bind {_ _ _ _ x f} hx hf := okP_bind x f fun a e => hf a (hx a e)
  lift _ hq := hq
  ok_nh _ := trivial
  W_tab h := h.elim
  W_ok _ := trivial
  W_mkTab _ _ := trivial
  W_mkTup _ _ := trivial

theorem okP_leaf {α β} {P : β → Prop} {r : Res α} {f : α → Res β} (hf : ∀ a, Res.okP P (f a)) : Res.okP P (liftM r >>= f) :=
  okWalk.leafOk trivial fun a _ => hf a

/-! A fresh result has its type by `rfl`; an argument handed through has the major type the body tested, hence (level 0,
no minor) that type: `ty_of_major`. A leaf's value does not matter: `okP_leaf`. -/

theorem strMap_type (f : Bytes → Bytes) (args : List (Res Val)) (h : ArgsTy args) :
    Res.okP (fun v => v.type = Ty.str) (strMap (m := Res) f args) := by
  unfold strMap
  split
  · refine okWalk.bind h.head fun val hv => ?_
    split
    · exact okP_pure rfl
    · rename_i hm
      exact okWalk.ite (okP_pure (ty_of_major hv hm)) fun _ =>
        okP_leaf fun _ => okP_pure rfl
    · exact okP_err
  · exact okP_err

theorem biStrlen_type (args : List (Res Val)) (h : ArgsTy args) :
    Res.okP (fun v => v.type = Ty.int) (biStrlen (m := Res) args) := by
  unfold biStrlen
  split
  · refine okWalk.bind h.head fun val _ => ?_
    split
    · exact okP_pure rfl
    · exact okWalk.ite (okP_pure rfl) fun _ => okP_leaf fun _ => okP_pure rfl
    · exact okP_err
  · exact okP_err

theorem biChr_type (args : List (Res Val)) (h : ArgsTy args) :
    Res.okP (fun v => v.type = Ty.str) (biChr (m := Res) args) := by
  unfold biChr
  split
  · refine okWalk.bind h.head fun val _ => ?_
    split
    · exact okP_pure rfl
    · exact okWalk.ite (okP_pure rfl) fun _ => okP_leaf fun _ =>
        okWalk.ite okP_err fun _ => okP_pure rfl
    · exact okWalk.ite (okP_pure rfl) fun _ => okP_leaf fun _ =>
        okWalk.ite okP_err fun _ => okP_leaf fun _ => okP_pure rfl
    · exact okP_err
  · exact okP_err

theorem biStr_type (fmt : F64 → Bytes) (args : List (Res Val)) (h : ArgsTy args) :
    Res.okP (fun v => v.type = Ty.str) (biStr (m := Res) fmt args) := by
  unfold biStr
  split
  · exact okP_pure rfl
  · refine okWalk.bind h.head fun val hv => okWalk.ite (okP_pure rfl) fun _ => ?_
    split
    iterate 3 exact okP_leaf fun _ => okP_pure rfl
    · rename_i hm; exact okP_pure (ty_of_major hv hm)
    · exact okP_leaf fun _ => okP_pure rfl
    · exact okP_err

theorem biInt_type (args : List (Res Val)) (h : ArgsTy args) :
    Res.okP (fun v => v.type = Ty.int) (biInt (m := Res) args) := by
  unfold biInt
  split
  · exact okP_pure rfl
  · refine okWalk.bind h.head fun val hv => okWalk.ite (okP_pure rfl) fun _ => ?_
    split
    · refine okP_leaf fun s => okWalk.ite ?_ fun _ => ?_
      all_goals split
      all_goals first | exact okP_err | exact okP_pure rfl
    · refine okP_leaf fun s => ?_
      split
      · exact okP_err
      · exact okP_err
      · exact okP_pure rfl
    · exact okP_leaf fun _ => okP_leaf fun _ => okP_pure rfl
    · rename_i hm; exact okP_pure (ty_of_major hv hm)
    · exact okP_unm
    · exact okP_leaf fun _ => okP_pure rfl
    · exact okP_err

theorem biHash_type (args : List (Res Val)) (h : ArgsTy args) :
    Res.okP (fun v => v.type = Ty.int) (biHash (m := Res) args) := by
  unfold biHash
  split
  · refine okWalk.bind h.head fun val _ => ?_
    extract_lets maxSize jp
    have hk : ∀ u n, Res.okP (fun v => v.type = Ty.int) (jp u n) := fun u n => by
      dsimp only [jp]
      split
      · exact okP_pure rfl
      · exact okWalk.ite (okP_pure rfl) fun _ => okP_leaf fun _ => okP_pure rfl
      · exact okWalk.ite (okP_pure rfl) fun _ => okP_leaf fun _ => okP_pure rfl
      · exact okP_err
    split
    · refine okWalk.bind h.tail.head fun a1 _ => ?_
      split
      · exact hk () _
      · exact okWalk.ite (okP_leaf fun _ => okWalk.ite okP_err fun _ => hk () _) fun _ => hk () _
      · exact okWalk.ite (okP_leaf fun _ => okWalk.ite okP_err fun _ =>
          okP_leaf fun _ => hk () _) fun _ => hk () _
      · exact okP_err
    · exact hk () _
  · exact okP_err

theorem biStrpos_type (args : List (Res Val)) (h : ArgsTy args) :
    Res.okP (fun v => v.type = Ty.int) (biStrpos (m := Res) args) := by
  unfold biStrpos
  split
  · refine okWalk.bind h.head fun val _ => okWalk.bind h.tail.head fun a1 _ => ?_
    split
    · exact okP_pure rfl
    · refine okWalk.ite (okP_pure rfl) fun _ => ?_
      extract_lets s jp jp2
      have hk : ∀ u s, Res.okP (fun v => v.type = Ty.int) (jp u s) := fun u s =>
        okP_leaf fun _ => okP_leaf fun _ => by split <;> exact okP_pure rfl
      have hk2 : ∀ u s, Res.okP (fun v => v.type = Ty.int) (jp2 u s) := fun u s => okWalk.ite okP_err fun _ => hk () s
      split
      · refine okWalk.bind h.tail.tail.head fun a2 _ => ?_
        split
        · exact okP_pure rfl
        · exact okWalk.ite (okP_leaf fun _ => hk2 () _) fun _ => hk2 () _
        · exact okWalk.ite (okP_leaf fun _ => okP_leaf fun _ => hk2 () _) fun _ => hk2 () _
        · exact okP_err
      · exact hk () _
    · exact okP_err
  · exact okP_err

theorem biReplace_type (args : List (Res Val)) (h : ArgsTy args) :
    Res.okP (fun v => v.type = Ty.str) (biReplace (m := Res) args) := by
  unfold biReplace
  split
  · refine okWalk.bind h.head fun val hv => okWalk.bind h.tail.head fun a1 _ => ?_
    split
    · exact okP_pure rfl
    · rename_i hm
      have hval : val.type = Ty.str := ty_of_major hv hm
      extract_lets jp
      have hk : ∀ u, Res.okP (fun v => v.type = Ty.str) (jp u) := fun u => by
        refine okWalk.ite (okP_pure hval) fun _ => okWalk.bind h.tail.tail.head fun a2 _ => ?_
        extract_lets jp2
        have hk2 : ∀ u, Res.okP (fun v => v.type = Ty.str) (jp2 u) := fun u =>
          okP_leaf fun _ => okP_leaf fun _ => okWalk.ite (okP_pure hval) fun _ =>
            okWalk.ite (okP_pure rfl) fun _ => okP_leaf fun _ => okP_pure rfl
        split
        · exact hk2 ()
        · exact hk2 ()
        · exact okP_err
      split
      · exact okP_pure hval
      · exact okWalk.ite (okP_pure hval) fun _ => hk ()
      · exact okP_err
    · exact okP_err
  · exact okP_err

theorem biRaw_type (args : List (Res Val)) (h : ArgsTy args) :
    Res.okP (fun v => v.type = Ty.raw) (biRaw (m := Res) args) := by
  unfold biRaw
  split
  · exact okP_pure rfl
  · refine okWalk.bind h.head fun val hv => okWalk.ite (okP_pure rfl) fun _ => ?_
    extract_lets v jp
    have hk : ∀ n, Res.okP (fun v => v.type = Ty.raw) (jp n) := fun n => by
      refine okWalk.ite okP_err fun _ => ?_
      extract_lets jp2 jp3
      have hk3 : ∀ u v, Res.okP (fun v => v.type = Ty.raw) (jp3 u v) := fun _ _ => okWalk.ite okP_err fun _ => okP_pure rfl
      split
      · refine okWalk.bind h.tail.head fun a1 _ => okWalk.ite ?_ fun _ => hk3 () _
        split
        · exact okP_leaf fun _ => hk3 () _
        · exact okP_leaf fun _ => okP_leaf fun _ => hk3 () _
        · exact okP_err
      · exact okP_pure rfl
    split
    · exact okP_leaf fun _ => okP_pure rfl
    · exact okP_leaf fun _ => hk _
    · exact okP_leaf fun _ => okP_leaf fun _ => hk _
    · rename_i hm; exact okP_pure (ty_of_major hv hm)
    · exact okP_err

theorem lrSubstr_type (left : Bool) (args : List (Res Val)) (h : ArgsTy args) :
    Res.okP (fun v => v.type = Ty.str) (lrSubstr (m := Res) left args) := by
  unfold lrSubstr
  split
  · refine okWalk.bind h.head fun val hv => okWalk.ite (okP_pure rfl) fun _ => okWalk.ite okP_err fun hm => ?_
    have hval : val.type = Ty.str := ty_of_major hv (by simpa using hm)
    refine okWalk.bind h.tail.head fun a1 _ => okP_leaf fun p => ?_
    split
    · exact okP_pure hval
    · refine okWalk.ite (okP_pure hval) fun _ => okP_leaf fun s => okWalk.ite (okP_pure hval) fun _ => ?_
      exact okWalk.ite (okP_pure rfl) fun _ => okP_pure rfl
  · exact okP_err

theorem b64enc_type (args : List (Res Val)) (h : ArgsTy args) :
    Res.okP (fun v => v.type = Ty.str) (biB64 (m := Res) true args) := by
  unfold biB64
  split
  · refine okWalk.bind h.head fun a _ => okWalk.ite (okP_pure rfl) fun _ => ?_
    split
    · exact okP_leaf fun _ => okP_pure rfl
    · exact okP_leaf fun _ => okP_pure rfl
    · exact okP_err
  · exact okP_err

/-- Static result type of a built-in whose header gives a constant type (generated table `Gen.builtinTypes`,
extracted from the `type()` method of blocc/builtin/builtin_*.h). -/
def builtinStaticTy (name : String) : Option Ty :=
  match Gen.builtinTypes.find? (·.1 == name) with
  | some (_, .const m) => some { major := m }
  | _ => none

end BlocV

namespace BlocV.Lemmas

theorem argsOk_of_wf {args : List Val} (hwf : ∀ v ∈ args, wfVal v = true) : ArgsOk (args.map .ok) :=
  List.forall_mem_map.2 fun v hv => ⟨rfl, fun _ e => by cases e; exact wfVal_tabOk (hwf v hv)⟩

theorem wfVal_lenOk {v : Val} (h : wfVal v = true) : v.lenOk = true := by
  cases v
  case str => exact h
  case raw => exact h
  all_goals rfl

theorem argsLen_of_wf {args : List Val} (hwf : ∀ v ∈ args, wfVal v = true) : ArgsLen (args.map .ok) :=
  List.forall_mem_map.2 fun v hv _ e => by cases e; exact wfVal_lenOk (hwf v hv)

/-- What `substr`/`subraw` can return at all, whatever the argument list. -/
def SubShape (nullTy : Ty) (mk : Bytes → Val) (args : List Val) (x : Val) : Prop :=
  x = .null nullTy ∨ args.head? = some x ∨
  ∃ s sub, (args.head? = some (.str s) ∨ args.head? = some (.raw s)) ∧ x = mk sub ∧ sub <:+: s

theorem substrLike_ok_shape {major : Major} {nullTy : Ty} {get : Val → Res Bytes} {mk : Bytes → Val}
    (hget : ∀ {v s}, get v = .ok s → v = .str s ∨ v = .raw s)
    (args : List Val) (x : Val) (h : substrLike (m := Res) major nullTy get mk (args.map .ok) = .ok x) :
    SubShape nullTy mk args x :=
  -- `A v`: `v` is the first argument; `B`: nothing; `Q`: the shape; of the two leaves `okWalk` asks nothing
  substrLike_walk_operand okWalk (fun v => args.head? = some v) (fun _ => True) (SubShape nullTy mk args)
    (fun _ _ => trivial) (fun _ hv => .inr (.inl hv)) (.inl rfl)
    (fun v s b hv hs hb => .inr (.inr ⟨s, b, (hget hs).imp (fun (e : v = .str s) => e ▸ hv) (fun (e : v = .raw s) => e ▸ hv), rfl, hb⟩))
    (fun _ _ hs => hs.elim) (fun _ _ _ _ _ _ => trivial) _
    (fun t ht x e => by subst e; simpa [List.head?_map] using ht)
    (fun _ _ _ _ => trivial) x h

end BlocV.Lemmas
