/-
  Lemmas about Model/World.lean.

  The idea everything rests on: `apply` is LOCAL. An operation replaces one entry of the context map —
  its target — by a value computed from that entry, the entry it reads (the source of a `clone`, else
  the target itself), the programs and the fuel (`ctxAfter`); and it replaces the shared cells by
  `sharedAfter`, which differs from the old ones in the written kinds only (`apply_eq`). Footprints,
  commutation and every per-context invariant are read off that one equation.

  The function table: `declare` replaces an entry in place or appends a new signature, so the old
  signatures stay where they are and none occurs twice (`sigs_declare`); looking a signature up is indexing
  the table at the signature's first position, so in a table that continues the compile-time one a call node's
  index reaches what the look-up by name finds (`callByIndex_eq_callByName`); a well-formed declaration
  sequence only appends (`declare_wf_prefix`), and executing one of its declarations in any table that
  continues the compiled one puts back what is there (`reinstall_stable_of_wf`): the calls of its body
  resolve as they did when it was compiled, so its private symbols come out the same (`decl_congr`).
-/
import BlocV.Model.World
import BlocV.Proofs.Lemmas.CliInterp

namespace BlocV.World
open BlocV.Lemmas.CliInterp (sigP resolves)

/-- The facts about `Gen.sharedCells` / `Gen.threadLocalCells` that Proofs/C14.lean states one by one, evaluated
in ONE kernel run: each of them needs `cellKind` of every cell, and together they need it once. -/
theorem cells_table :
    (Gen.sharedCells.all (fun c => (cellKind c).isSome) = true ∧
      Gen.threadLocalCells.all (fun c => (threadCellKind c).isSome) = true) ∧
    (Gen.threadLocalCells.filter (fun c => threadCellKind c == some .whatBuffer) = [("blocc/exception.h", "buf")] ∧
      Gen.sharedCells.all (fun c => c.1 != "blocc/exception.h") = true ∧
      cellKind ("blocc/exception.h", "buf") = none) ∧
    (∀ k ∈ [SharedKind.stmtLevel, .constValue, .typeVolatile, .errorRecord, .rngState, .pluginRegistry, .objectRefcount,
        .functorProto, .errorTuple, .perContext, .processConfig], Gen.sharedCells.any (fun c => cellKind c == some k) = true) ∧
    Gen.sharedCells.filter (fun c => match cellKind c with | some k => writtenKinds.contains k | none => false) =
      [("blocc/bloc_capi.cpp", "bloc_error"), ("blocc/bloc_capi.cpp", "bloc_error_msg"), ("blocc/statement.h", "_level")] := by
  decide +kernel

theorem upd_same {f : CtxId → Option Ctx} {c : CtxId} {v : Option Ctx} : upd f c v c = v := if_pos rfl

theorem upd_other {f : CtxId → Option Ctx} {c d : CtxId} {v : Option Ctx} (h : d ≠ c) : upd f c v d = f d := if_neg h

theorem upd_self {f : CtxId → Option Ctx} {c : CtxId} {v : Option Ctx} (h : f c = v) : upd f c v = f := by
  funext d
  unfold upd
  split
  · subst d; exact h.symm
  · rfl

theorem upd_comm {f : CtxId → Option Ctx} {c d : CtxId} {u v : Option Ctx} (h : c ≠ d) :
    upd (upd f c u) d v = upd (upd f d v) c u := by
  funext e
  unfold upd
  by_cases hd : e = d
  · rw [if_pos hd, if_neg (hd ▸ Ne.symm h), if_pos hd]
  · rw [if_neg hd, if_neg hd]

theorem updShared_other {s : Shared} {k j : SharedKind} {v : CellVal} (h : j ≠ k) : updShared s k v j = s j := if_neg h

theorem appendLevels_other {s : Shared} {ws : List (StmtRef × Nat)} {j : SharedKind} (h : j ≠ .stmtLevel) :
    appendLevels s ws j = s j := by
  unfold appendLevels
  cases s .stmtLevel with
  | levels log => exact updShared_other h
  | _ => rfl

theorem appendLevels_levels {s : Shared} {ws log : List (StmtRef × Nat)} (h : s .stmtLevel = .levels log) :
    appendLevels s ws .stmtLevel = .levels (ws ++ log) := by
  simp only [appendLevels, h, updShared, if_true]

theorem recordError_other {s : Shared} {code : Nat} {arg : Bytes} {j : SharedKind}
    (h : j ≠ .errorRecord) : recordError s code arg j = s j := updShared_other h

/-- the context an operation reads (`clone` reads `src`; every other operation its target) -/
def Op.source : Op → CtxId
  | .clone src _ => src
  | op => op.target

theorem Op.source_eq (op : Op) (h : ∀ s, op ≠ .clone s op.target) : op.source = op.target := by
  cases op with
  | clone s d => exact absurd rfl (h s)
  | _ => rfl

/-- What `op` makes of its target `tg`, given the context it reads (`rd`), the programs and the fuel. -/
def ctxAfter (progs : List (List Stmt)) (fuel : Nat) (op : Op) (rd tg : Option Ctx) : Option Ctx :=
  match op with
  | .compile _ pid => tg.map fun ctx =>
    let funcs := declare ctx.funcs (progs.getD pid [])
    { ctx with funcs := funcs, st := { ctx.st with vars :=
        (mainDecls funcs (progs.getD pid [])).foldl (fun vs (n, t) => if vs.any (·.1 == n) then vs else vs ++ [(n, Val.null t)]) ctx.st.vars } }
  | .start _ pid => tg.map fun ctx =>
    if ctx.running then ctx else
    if ctx.retPending then { ctx with prog := pid, pc := 0, result := some (.ok none), st := { ctx.st with returned := none } }
    else { ctx with prog := pid, pc := 0, running := true, result := none, st := { ctx.st with returned := none } }
  | .step _ => tg.map fun ctx => (stepCtx progs fuel ctx).1
  | .clone _ _ => match rd with
    | none => tg
    | some s => some (cloneCtx s)
  | .purge _ => tg.map purgeCtx
  | .free _ => none
  | .host _ h => tg.map (hostCtx h)

/-- The shared cells after `op`: only a statement step writes any. -/
def sharedAfter (w : World) : Op → Shared
  | .step c => match w.ctxs c with
    | none => w.shared
    | some ctx =>
      match (stepCtx w.progs w.fuel ctx).2.2 with
      | some (code, arg) => recordError (appendLevels w.shared (stepCtx w.progs w.fuel ctx).2.1) code arg
      | none => appendLevels w.shared (stepCtx w.progs w.fuel ctx).2.1
  | _ => w.shared

theorem apply_eq (w : World) (op : Op) :
    apply w op = { w with ctxs := upd w.ctxs op.target (ctxAfter w.progs w.fuel op (w.ctxs op.source) (w.ctxs op.target)),
                          shared := sharedAfter w op } := by
  cases op with
  | free c => rfl
  | clone s d =>
    simp only [apply, ctxAfter, sharedAfter, Op.target, Op.source]
    cases h : w.ctxs s <;> simp only [upd_self]
  | start c pid =>
    simp only [apply, ctxAfter, sharedAfter, Op.target]
    cases h : w.ctxs c with
    | none => simp only [Option.map_none, upd_self h]
    | some ctx =>
      simp only [Option.map_some]
      split
      · simp only [upd_self h]
      · split <;> rfl
  | compile c _ | step c | purge c | host c _ =>
    simp only [apply, ctxAfter, sharedAfter, Op.target]
    cases h : w.ctxs c with
    | none => simp only [Option.map_none, upd_self h]
    | some ctx => rfl

/-- The shared cells after `op` are the old ones, or — a statement step of a live context — the old ones with that
step's `_level` writes appended, the error record apart. -/
theorem sharedAfter_cases (w : World) (op : Op) :
    sharedAfter w op = w.shared ∨ ∃ c x, w.ctxs c = some x ∧
      ∀ k, k ≠ .errorRecord → sharedAfter w op k = appendLevels w.shared (stepCtx w.progs w.fuel x).2.1 k := by
  cases op with
  | step c =>
    simp only [sharedAfter]
    cases hx : w.ctxs c with
    | none => exact .inl rfl
    | some x =>
      refine .inr ⟨c, x, hx, fun k hk => ?_⟩
      dsimp only
      cases (stepCtx w.progs w.fuel x).2.2 with
      | none => rfl
      | some e => exact recordError_other hk
  | _ => exact .inl rfl

theorem sharedAfter_other (w : World) (op : Op) (k : SharedKind) (hk : k ∉ writtenKinds) : sharedAfter w op k = w.shared k := by
  have h1 : k ≠ .stmtLevel := fun e => hk (e ▸ List.mem_cons_self)
  have h2 : k ≠ .errorRecord := fun e => hk (e ▸ List.mem_cons_of_mem _ List.mem_cons_self)
  rcases sharedAfter_cases w op with e | ⟨_, _, _, e⟩
  · rw [e]
  · exact (e k h2).trans (appendLevels_other h1)

theorem apply_progs (w : World) (op : Op) : (apply w op).progs = w.progs := by rw [apply_eq]

theorem apply_fuel (w : World) (op : Op) : (apply w op).fuel = w.fuel := by rw [apply_eq]

theorem apply_other (w : World) (op : Op) (d : CtxId) (h : d ≠ op.target) : (apply w op).ctxs d = w.ctxs d := by
  rw [apply_eq]
  exact upd_other h

theorem apply_target (w : World) (op : Op) :
    (apply w op).ctxs op.target = ctxAfter w.progs w.fuel op (w.ctxs op.source) (w.ctxs op.target) := by
  rw [apply_eq]
  exact upd_same

theorem apply_shared_other (w : World) (op : Op) (k : SharedKind) (hk : k ∉ writtenKinds) :
    (apply w op).shared k = w.shared k := by
  rw [apply_eq]
  exact sharedAfter_other w op k hk

theorem clone_ctx (w : World) (src dst : CtxId) (s : Ctx) (h : w.ctxs src = some s) :
    (apply w (.clone src dst)).ctxs dst = some (cloneCtx s) := by
  have := apply_target w (.clone src dst)
  simp only [Op.target, Op.source, ctxAfter, h] at this
  exact this

theorem step_ctx (w : World) (c : CtxId) (x : Ctx) (h : w.ctxs c = some x) :
    (step w c).ctxs c = some (stepCtx w.progs w.fuel x).1 := by
  have := apply_target w (.step c)
  simp only [Op.target, ctxAfter, h, Option.map_some] at this
  exact this

theorem initWorld_ctx {progs : List (List Stmt)} {fuel : Nat} {c : CtxId} {x : Ctx} (h : (initWorld progs fuel).ctxs c = some x) :
    x = {} := by
  simp only [initWorld] at h
  split at h <;> cases h
  rfl

theorem apply_levels (w : World) (op : Op) (log : List (StmtRef × Nat)) (h : w.shared .stmtLevel = .levels log) :
    ∃ ws, (apply w op).shared .stmtLevel = .levels (ws ++ log) ∧
      (ws = [] ∨ ∃ c x, w.ctxs c = some x ∧ ws = (stepCtx w.progs w.fuel x).2.1) := by
  rw [apply_eq]
  rcases sharedAfter_cases w op with e | ⟨c, x, hx, e⟩
  · exact ⟨[], e ▸ h, .inl rfl⟩
  · exact ⟨_, (e _ (by decide)).trans (appendLevels_levels h), .inr ⟨c, x, hx, rfl⟩⟩

/-- Operations on different contexts, neither reading what the other writes, commute on the contexts: each
finds the entries it reads as the other found them, and the two updates are of different entries. -/
theorem apply_comm (w : World) (a b : Op) (h : a.target ≠ b.target) (ha : a.source ≠ b.target) (hb : b.source ≠ a.target) :
    (apply (apply w a) b).ctxs = (apply (apply w b) a).ctxs := by
  have key : ∀ a b : Op, b.target ≠ a.target → b.source ≠ a.target → (apply (apply w a) b).ctxs =
      upd (upd w.ctxs a.target (ctxAfter w.progs w.fuel a (w.ctxs a.source) (w.ctxs a.target)))
        b.target (ctxAfter w.progs w.fuel b (w.ctxs b.source) (w.ctxs b.target)) := by
    intro a b h1 h2
    rw [apply_eq (apply w a) b, apply_progs, apply_fuel, apply_other w a _ h1, apply_other w a _ h2, apply_eq w a]
  rw [key a b h.symm hb, key b a h ha, upd_comm h]

theorem stepOutcome_frame (ctx : Ctx) (lw : List (StmtRef × Nat)) (r : Res Flow × St) :
    (stepOutcome ctx lw r).1.execLevel = ctx.execLevel ∧ (stepOutcome ctx lw r).1.funcs = ctx.funcs ∧
    (stepOutcome ctx lw r).2.1 = lw := by
  unfold stepOutcome
  split <;> exact ⟨rfl, rfl, rfl⟩

theorem reinstall_eq {fs fs' : List Func} {s : Stmt} (h : reinstall fs s = some fs') :
    fs' = fs ∨ fs' = declare fs [s] := by
  cases s with
  | funcS n ps rt b c =>
    simp only [reinstall] at h
    split at h
    · exact .inr (Option.some.inj h).symm
    · cases h
  | _ => exact .inl (Option.some.inj h).symm

/-- The frame of one step of `ctx` with result `r`: the exec level is kept, the function table is left or has one
declaration re-installed in it (`declare … [s]`; `[]` = unchanged), and the `_level` writes are none, or those of the
statement executed and of the bodies of the functions in the table. -/
abbrev StepFrame (progs : List (List Stmt)) (ctx : Ctx) (r : Ctx × List (StmtRef × Nat) × Option (Nat × Bytes)) : Prop :=
  r.1.execLevel = ctx.execLevel ∧
  (∃ prog, r.1.funcs = declare ctx.funcs prog) ∧
  (r.2.1 = [] ∨ ∃ stmt, (progs.getD ctx.prog [])[ctx.pc]? = some stmt ∧
    r.2.1 = stmtLevelWrites ctx.prog ctx.pc ctx.execLevel stmt ++ (ctx.funcs.map funcLevelWrites).flatten)

theorem stepCtx_frame (progs : List (List Stmt)) (fuel : Nat) (ctx : Ctx) : StepFrame progs ctx (stepCtx progs fuel ctx) := by
  have out := stepOutcome_frame
  -- `StepFrame` names the result once, so each `split` works on one copy of `stepCtx`: written out, the conjunction has five and is slow to check
  unfold stepCtx
  split
  · exact ⟨rfl, ⟨[], rfl⟩, .inl rfl⟩
  split
  · exact ⟨rfl, ⟨[], rfl⟩, .inl rfl⟩
  split
  · exact ⟨(out _ _ _).1, ⟨[], (out _ _ _).2.1⟩, .inl (out _ _ _).2.2⟩
  split
  · exact ⟨rfl, ⟨[], rfl⟩, .inl rfl⟩
  rename_i stmt hstmt
  split
  · exact ⟨(out _ _ _).1, ⟨[], (out _ _ _).2.1⟩, .inl (out _ _ _).2.2⟩
  rename_i fs' hre
  refine ⟨(out _ _ _).1, ?_, .inr ⟨stmt, hstmt, (out _ _ _).2.2⟩⟩
  rw [(out _ _ _).2.1]
  rcases reinstall_eq hre with e | e
  · exact ⟨[], e⟩
  · exact ⟨[stmt], e⟩

/-- One operation, seen from a context `c` that is live after it: `c` was live before and its function
table has been `declare`d further at the same exec level (compile, a re-installing step; `[]` =
unchanged — every operation on another context, too); or `c` was purged; or it is the new clone of a
live context. -/
theorem apply_ctx_cases (w : World) (op : Op) (c : CtxId) (y : Ctx) (h : (apply w op).ctxs c = some y) :
    (∃ x prog, w.ctxs c = some x ∧ y.funcs = declare x.funcs prog ∧ y.execLevel = x.execLevel) ∨
    (op = .purge c ∧ ∃ x, w.ctxs c = some x ∧ y = purgeCtx x) ∨
    (∃ s sx, op = .clone s c ∧ w.ctxs s = some sx ∧ y = cloneCtx sx) := by
  by_cases ht : c = op.target
  · subst ht
    rw [apply_target] at h
    cases op with
    | free c => cases h
    | clone s d =>
      simp only [ctxAfter, Op.source, Op.target] at h ⊢
      cases hs : w.ctxs s with
      | none => rw [hs] at h; exact .inl ⟨y, [], h, rfl, rfl⟩
      | some sx => rw [hs] at h; exact .inr (.inr ⟨s, sx, rfl, hs, (Option.some.inj h).symm⟩)
    | purge c =>
      obtain ⟨x, hx, e⟩ := Option.map_eq_some_iff.mp h
      exact .inr (.inl ⟨rfl, x, hx, e.symm⟩)
    | compile c pid =>
      obtain ⟨x, hx, e⟩ := Option.map_eq_some_iff.mp h
      exact .inl ⟨x, w.progs.getD pid [], hx, e ▸ rfl, e ▸ rfl⟩
    | start c pid =>
      obtain ⟨x, hx, e⟩ := Option.map_eq_some_iff.mp h
      refine .inl ⟨x, [], hx, ?_⟩
      subst e
      split
      · exact ⟨rfl, rfl⟩
      · split <;> exact ⟨rfl, rfl⟩
    | step c =>
      obtain ⟨x, hx, e⟩ := Option.map_eq_some_iff.mp h
      obtain ⟨hl, ⟨prog, hp⟩, _⟩ := stepCtx_frame w.progs w.fuel x
      exact .inl ⟨x, prog, hx, e ▸ hp, e ▸ hl⟩
    | host c hc =>
      obtain ⟨x, hx, e⟩ := Option.map_eq_some_iff.mp h
      refine .inl ⟨x, [], hx, ?_⟩
      subst e
      cases hc <;> exact ⟨rfl, rfl⟩
  · exact .inl ⟨y, [], apply_other w op c ht ▸ h, rfl, rfl⟩

theorem apply_none (w : World) (op : Op) (c : CtxId) (h : (apply w op).ctxs c = none) : w.ctxs c = none ∨ op = .free c := by
  by_cases ht : c = op.target
  · subst ht
    rw [apply_target] at h
    cases op with
    | free c => exact .inr rfl
    | clone s d =>
      simp only [ctxAfter, Op.source] at h
      split at h
      · exact .inl h
      · cases h
    | _ => exact .inl (Option.map_eq_none_iff.mp h)
  · exact .inl (apply_other w op c ht ▸ h)

theorem run_append (w : World) (a b : List Op) : run w (a ++ b) = run (run w a) b := List.foldl_append

theorem run_invariant {P : World → Prop} {ops : List Op} (h : ∀ w, ∀ op ∈ ops, P w → P (apply w op)) :
    ∀ w, P w → P (run w ops) :=
  fun _ hw => List.foldlRecOn ops apply hw fun v hv op hop => h v op hop hv

theorem run_progs (w : World) (ops : List Op) : (run w ops).progs = w.progs :=
  run_invariant (P := fun v => v.progs = w.progs) (fun v op _ hv => (apply_progs v op).trans hv) w rfl

theorem run_fuel (w : World) (ops : List Op) : (run w ops).fuel = w.fuel :=
  run_invariant (P := fun v => v.fuel = w.fuel) (fun v op _ hv => (apply_fuel v op).trans hv) w rfl

/-- the context after `n` steps of its own -/
def stepsCtx (progs : List (List Stmt)) (fuel : Nat) : Nat → Ctx → Ctx
  | 0, x => x
  | n + 1, x => stepsCtx progs fuel n (stepCtx progs fuel x).1

theorem run_steps (c : CtxId) : ∀ (n : Nat) (w : World) (x : Ctx), w.ctxs c = some x →
    (run w (List.replicate n (.step c))).ctxs c = some (stepsCtx w.progs w.fuel n x)
  | 0, _, _, h => h
  | n + 1, w, x, h => by
    have := run_steps c n (apply w (.step c)) _ (step_ctx w c x h)
    rwa [apply_progs, apply_fuel] at this

theorem stepsCtx_idle (progs : List (List Stmt)) (fuel : Nat) (y : Ctx) (h : y.running = false) :
    ∀ m, stepsCtx progs fuel m y = y
  | 0 => rfl
  | m + 1 => by
    show stepsCtx progs fuel m (stepCtx progs fuel y).1 = y
    rw [stepCtx, h]
    exact stepsCtx_idle progs fuel y h m

theorem run_others (w : World) (ops : List Op) (c : CtxId) (h : ∀ op ∈ ops, op.target ≠ c) : (run w ops).ctxs c = w.ctxs c :=
  run_invariant (P := fun v => v.ctxs c = w.ctxs c) (fun v op hop hv => (apply_other v op c (h op hop).symm).trans hv) w rfl

/-- two worlds that context `c` cannot tell apart: what `ctxAfter` of an operation on `c` reads, short of a clone's source -/
def Agree (c : CtxId) (w w' : World) : Prop := w.ctxs c = w'.ctxs c ∧ w.progs = w'.progs ∧ w.fuel = w'.fuel

theorem run_filter_target (c : CtxId) (ops : List Op) (hno : ∀ s, Op.clone s c ∉ ops) :
    ∀ w w', Agree c w w' → Agree c (run w ops) (run w' (ops.filter fun op => op.target == c)) := by
  induction ops with
  | nil => exact fun _ _ h => h
  | cons op ops ih =>
    intro w w' ⟨hc, hp, hf⟩
    have ih := ih fun s hm => hno s (List.mem_cons_of_mem _ hm)
    by_cases ht : op.target = c
    · rw [List.filter_cons_of_pos (p := fun op : Op => op.target == c) (beq_iff_eq.mpr ht)]
      refine ih _ _ ⟨?_, (apply_progs w op).trans (hp.trans (apply_progs w' op).symm),
        (apply_fuel w op).trans (hf.trans (apply_fuel w' op).symm)⟩
      have hs : op.source = c := (op.source_eq fun s e => hno s (ht ▸ e ▸ List.mem_cons_self)).trans ht
      rw [← ht, apply_target, apply_target, hs, ht, hc, hp, hf]
    · rw [List.filter_cons_of_neg (p := fun op : Op => op.target == c) (by simpa using ht)]
      exact ih _ _ ⟨(apply_other w op c (Ne.symm ht)).trans hc, (apply_progs w op).trans hp, (apply_fuel w op).trans hf⟩

theorem others_ops_independent (w : World) (pre mid post : List Op) (c : CtxId)
    (hno : ∀ s, Op.clone s c ∉ pre ++ post) (hmid : ∀ op ∈ mid, op.target ≠ c) :
    (run w (pre ++ mid ++ post)).ctxs c = (run w (pre ++ post)).ctxs c := by
  have hp : ∀ s, Op.clone s c ∉ post := fun s hm => hno s (List.mem_append_right _ hm)
  rw [run_append, run_append, run_append]
  -- after `mid` the world looks to `c` as before it
  exact (run_filter_target c post hp _ (run w pre) ⟨run_others _ mid c hmid, run_progs _ _, run_fuel _ _⟩).1.trans
    (run_filter_target c post hp _ _ ⟨rfl, rfl, rfl⟩).1.symm

theorem sameSig_iff (f g : Func) : sameSig f g = true ↔ sigOf f = sigOf g := by
  simp [sameSig, sigOf]

theorem any_sameSig_iff (fs : List Func) (f : Func) : fs.any (sameSig f) = true ↔ sigOf f ∈ sigs fs := by
  simp only [List.any_eq_true, sameSig_iff, sigs, List.mem_map, eq_comm (a := sigOf f)]

theorem resolves_iff {fs : List Func} {name : String} {n : Nat} : resolves fs name n = true ↔ (name, n) ∈ sigs fs := by
  simp [resolves, sigP, sigs, sigOf, List.find?_isSome, and_comm]

theorem sigs_addFunc (fs : List Func) (f : Func) :
    sigs (addFunc fs f) = if sigOf f ∈ sigs fs then sigs fs else sigs fs ++ [sigOf f] := by
  unfold addFunc
  simp only [any_sameSig_iff]
  split
  · simp only [sigs, List.map_map]
    apply List.map_congr_left
    intro g _
    simp only [Function.comp]
    split
    · rename_i hs; exact (sameSig_iff f g).mp hs
    · rfl
  · simp only [sigs, List.map_append, List.map_cons, List.map_nil]

theorem addFunc_new (fs : List Func) (f : Func) (h : sigOf f ∉ sigs fs) : addFunc fs f = fs ++ [f] :=
  if_neg fun ha => h ((any_sameSig_iff fs f).mp ha)

theorem declare_cons (fs : List Func) (st : Stmt) (prog : List Stmt) :
    declare fs (st :: prog) = declare (declare fs [st]) prog := rfl

/-- the private symbols the compilation of `function n(ps) … ` computes in a context whose table is `fs` -/
def declsOf (fs : List Func) (n : String) (ps : List (String × Ty)) (rt : Ty) (b : List Stmt) (c : List (String × List Stmt)) :
    List (String × Ty) :=
  let f0 : Func := { name := n, params := ps, ret := rt, body := b, catches := c }
  (declCatches (addFunc fs f0) 1000 (declList (addFunc fs f0) 1000 (ps.map fun (pn, pt) => (pn, pt, pt)) b) c).first

theorem declare_one_func (fs : List Func) (n : String) (ps : List (String × Ty)) (rt : Ty) (b : List Stmt) (c : List (String × List Stmt)) :
    declare fs [.funcS n ps rt b c] =
      addFunc fs { name := n, params := ps, ret := rt, body := b, catches := c, decls := declsOf fs n ps rt b c } := rfl

theorem declare_new_func (fs : List Func) (n : String) (ps : List (String × Ty)) (rt : Ty) (b : List Stmt)
    (c : List (String × List Stmt)) (h : (n, ps.length) ∉ sigs fs) :
    declare fs [.funcS n ps rt b c] =
      fs ++ [{ name := n, params := ps, ret := rt, body := b, catches := c, decls := declsOf fs n ps rt b c }] :=
  (declare_one_func fs n ps rt b c).trans (addFunc_new fs _ h)

theorem declare_one (fs : List Func) (st : Stmt) : declare fs [st] = fs ∨ ∃ f, declare fs [st] = addFunc fs f := by
  cases st with
  | funcS n ps rt b c => exact .inr ⟨_, declare_one_func fs n ps rt b c⟩
  | _ => exact .inl rfl

/-- `createOrReplace` never moves or removes an entry — the old table's signatures are the start of the new
table's, position by position: a redefinition replaces in place, a new (name, arity), an OVERLOAD included,
is appended — and it never holds a signature twice. -/
theorem sigs_declare (prog : List Stmt) : ∀ fs : List Func,
    sigs fs <+: sigs (declare fs prog) ∧ ((sigs fs).Nodup → (sigs (declare fs prog)).Nodup) := by
  induction prog with
  | nil => exact fun fs => ⟨List.prefix_refl _, id⟩
  | cons st prog ih =>
    intro fs
    rw [declare_cons]
    rcases declare_one fs st with e | ⟨f, e⟩ <;> rw [e] <;> obtain ⟨h1, h2⟩ := ih _
    · exact ⟨h1, h2⟩
    · rw [sigs_addFunc] at h1 h2
      by_cases hm : sigOf f ∈ sigs fs
      · rw [if_pos hm] at h1 h2; exact ⟨h1, h2⟩
      · rw [if_neg hm] at h1 h2
        refine ⟨(List.prefix_append _ _).trans h1, fun nd => h2 ?_⟩
        rw [List.nodup_append]
        exact ⟨nd, List.pairwise_singleton _ _, fun a ha b hb e => hm (List.mem_singleton.mp hb ▸ e ▸ ha)⟩

theorem linked_iff {l : List Sig} {fs : List Func} : linked l fs = true ↔ l <+: sigs fs := List.isPrefixOf_iff_prefix

theorem symLinked_iff {l : List String} {vars : List (String × Val)} : symLinked l vars = true ↔ l <+: vars.map (·.1) :=
  List.isPrefixOf_iff_prefix

theorem linked_self (fs : List Func) : linked (sigs fs) fs = true := linked_iff.mpr (List.prefix_refl _)

theorem symLinked_self (vars : List (String × Val)) : symLinked (vars.map (·.1)) vars = true :=
  symLinked_iff.mpr (List.prefix_refl _)

theorem find_sig_eq_getElem (sg : Sig) : ∀ fs : List Func, fs.find? (fun f => sigOf f == sg) = fs[(sigs fs).idxOf sg]?
  | [] => rfl
  | a :: r => by
    rw [sigs, List.map_cons, List.idxOf_cons, List.find?_cons]
    cases sigOf a == sg with
    | true => rfl
    | false => exact find_sig_eq_getElem sg r

theorem find_by_sig {fs : List Func} (nd : (sigs fs).Nodup) : ∀ g ∈ fs, fs.find? (fun f => sigOf f == sigOf g) = some g := by
  intro g hg
  obtain ⟨i, hi, rfl⟩ := List.getElem_of_mem hg
  have hi' : i < (fs.map sigOf).length := by rwa [List.length_map]
  rw [find_sig_eq_getElem, sigs, ← List.getElem_map sigOf (h := hi'), List.Nodup.idxOf_getElem (xs := fs.map sigOf) nd,
    List.getElem?_eq_getElem hi]

/-- A call node holds the index of its signature in the compile-time table `l`; in a running table that continues `l`
that is where the signature first occurs, which is the entry the look-up by name and arity finds. -/
theorem callByIndex_eq_callByName {l : List Sig} {fs : List Func} {name : String} {arity : Nat}
    (hl : linked l fs = true) (hm : (name, arity) ∈ l) : callByIndex l fs name arity = callByName fs name arity := by
  obtain ⟨t, ht⟩ := linked_iff.mp hl
  have hi : l.idxOf? (name, arity) = some (l.idxOf (name, arity)) := by
    simp [List.idxOf?, List.idxOf, List.findIdx?_eq_some_of_exists, hm]
  rw [callByIndex, hi]
  show fs[l.idxOf (name, arity)]? = fs.find? (fun f => sigOf f == (name, arity))
  rw [find_sig_eq_getElem, ← ht, List.idxOf_append, if_pos hm]

theorem eq_of_sigOf_eq {fs : List Func} (nd : (sigs fs).Nodup) {g g' : Func} (hg : g ∈ fs) (hg' : g' ∈ fs)
    (h : sigOf g = sigOf g') : g = g' := by
  have a := find_by_sig nd g hg
  rw [h, find_by_sig nd g' hg'] at a
  exact (Option.some.inj a).symm

theorem addFunc_eq_self {fs : List Func} (nd : (sigs fs).Nodup) {f : Func} (hin : f ∈ fs) : addFunc fs f = fs := by
  rw [addFunc, if_pos (List.any_eq_true.2 ⟨f, hin, (sameSig_iff f f).2 rfl⟩)]
  refine (List.map_congr_left fun g hg => ?_).trans (List.map_id _)
  split
  · exact eq_of_sigOf_eq nd hin hg ((sameSig_iff f g).1 ‹_›)
  · rfl

/-- `registerSymbol` appends new symbols to the storage pool and never moves one. -/
theorem names_register_prefix (decls : List (String × Ty)) : ∀ vars : List (String × Val),
    vars.map (·.1) <+: (decls.foldl (fun vs (n, t) => if vs.any (·.1 == n) then vs else vs ++ [(n, Val.null t)]) vars).map (·.1) := by
  induction decls with
  | nil => exact fun vars => List.prefix_refl _
  | cons d ds ih =>
    intro vars
    simp only [List.foldl_cons]
    split
    · exact ih vars
    · exact ((List.prefix_append vars _).map _).trans (ih _)

theorem argsOK_eq_all (S : String → Nat → Bool) (fuel : Nat) (args : List Expr) : argsOK S fuel args = args.all (exprOK S fuel) :=
  List.all_of_cons (by rw [argsOK]) (fun _ _ => by rw [argsOK]) args

theorem typeOfExpr_congr {S : String → Nat → Bool} {fs gs : List Func}
    (hfind : ∀ name k, S name k = true → fs.find? (sigP name k) = gs.find? (sigP name k)) :
    ∀ (fuel : Nat) (tab : List (String × Ty)) (e : Expr), exprOK S fuel e = true →
      typeOfExpr fs tab fuel e = typeOfExpr gs tab fuel e := by
  intro fuel
  induction fuel with
  | zero => intro tab e _; rfl
  | succ fuel ih =>
    intro tab e h
    have hm : ∀ args, argsOK S fuel args = true → args.map (typeOfExpr fs tab fuel) = args.map (typeOfExpr gs tab fuel) :=
      fun args ha => List.map_congr_left fun a hin => ih tab a (List.all_eq_true.mp (argsOK_eq_all S fuel args ▸ ha) a hin)
    cases e with
    | call name args =>
      rw [exprOK] at h
      unfold typeOfExpr
      split <;> rename_i heq <;> first | (cases heq; rw [hm _ h]) | cases heq
    | fcall name args =>
      exact congrArg (fun o => (o.map (·.ret)).getD Ty.none) (hfind name args.length (by rwa [exprOK] at h))
    | item e n =>
      -- `ItemExpression::type`: the declaration is static only for `error@N` and `tup(…)@N`
      cases e with
      | call name args =>
        by_cases hn : name = "tup"
        · subst hn
          simp only [typeOfExpr, hm args (by rwa [exprOK] at h)]
        · rw [typeOfExpr, typeOfExpr] <;> first | rfl | (intro args' hc; cases hc; exact hn rfl) | (intro hc; cases hc)
      | _ => simp only [typeOfExpr]
    | _ => simp_all only [exprOK, typeOfExpr, Bool.and_eq_true]

theorem decl_congr {S : String → Nat → Bool} {fs gs : List Func}
    (hfind : ∀ name k, S name k = true → fs.find? (sigP name k) = gs.find? (sigP name k)) : ∀ fuel : Nat,
    (∀ t st, stmtOK S fuel st = true → declStmt fs fuel t st = declStmt gs fuel t st) ∧
    (∀ t l, listOK S fuel l = true → declList fs fuel t l = declList gs fuel t l) ∧
    (∀ t l, rulesOK S fuel l = true → declRules fs fuel t l = declRules gs fuel t l) ∧
    (∀ t l, catchesOK S fuel l = true → declCatches fs fuel t l = declCatches gs fuel t l) := by
  have hE := typeOfExpr_congr hfind
  intro fuel
  induction fuel with
  | zero => exact ⟨fun _ _ _ => by simp only [declStmt], fun _ _ _ => by simp only [declList],
      fun _ _ _ => by simp only [declRules], fun _ _ _ => by simp only [declCatches]⟩
  | succ fuel ih =>
    obtain ⟨ihS, ihL, ihR, ihC⟩ := ih
    refine ⟨fun t st h => ?_, fun t l h => ?_, fun t l h => ?_, fun t l h => ?_⟩
    · cases st <;> simp only [stmtOK, Bool.and_eq_true] at h <;> simp only [declStmt, hE, ihL, ihR, ihC, h]
    · cases l <;> simp only [listOK, Bool.and_eq_true] at h <;> simp only [declList, ihS, ihL, h]
    · rcases l with _ | ⟨⟨c, body⟩, rest⟩ <;> simp only [rulesOK, Bool.and_eq_true] at h <;> simp only [declRules, ihL, ihR, h]
    · rcases l with _ | ⟨⟨c, body⟩, rest⟩ <;> simp only [catchesOK, Bool.and_eq_true] at h <;> simp only [declCatches, ihL, ihC, h]

/-- What `wfDecls` says of a leading declaration, in the terms of the table `fs` it is compiled into. -/
theorem wfDecls_func {fs : List Func} {n : String} {ps : List (String × Ty)} {rt : Ty} {b : List Stmt}
    {c : List (String × List Stmt)} {rest : List Stmt} (h : wfDecls (sigs fs) (.funcS n ps rt b c :: rest) = true) :
    (n, ps.length) ∉ sigs fs ∧
    listOK (fun name k => (sigs fs ++ [(n, ps.length)]).contains (name, k)) 1000 b = true ∧
    catchesOK (fun name k => (sigs fs ++ [(n, ps.length)]).contains (name, k)) 1000 c = true ∧
    wfDecls (sigs (declare fs [.funcS n ps rt b c])) rest = true := by
  simp only [wfDecls, Bool.and_eq_true, Bool.not_eq_true'] at h
  have hnew : (n, ps.length) ∉ sigs fs := fun hm => Bool.false_ne_true (h.1.1.1.symm.trans (List.contains_iff_mem.mpr hm))
  refine ⟨hnew, h.1.1.2, h.1.2, ?_⟩
  rw [declare_new_func fs n ps rt b c hnew, sigs, List.map_append]
  exact h.2

theorem declare_wf_prefix (rest : List Stmt) : ∀ fs : List Func, wfDecls (sigs fs) rest = true → fs <+: declare fs rest := by
  induction rest with
  | nil => exact fun fs _ => List.prefix_refl _
  | cons st rest ih =>
    intro fs h
    rw [declare_cons]
    cases st with
    | funcS n ps rt b c =>
      obtain ⟨hnew, _, _, hrest⟩ := wfDecls_func h
      refine List.IsPrefix.trans ?_ (ih _ hrest)
      rw [declare_new_func fs n ps rt b c hnew]
      exact List.prefix_append _ _
    | _ => exact ih fs h

/-- A well-formed declaration, compiled into `fs0` and executed in ANY table `T` that continues the one its compilation
left, puts back what is there: its signature was new to `fs0` and its calls are to `fs0` or to itself, so the private
symbols computed against `T` are the compiled ones. -/
theorem reinstall_compiled {fs0 T : List Func} {n : String} {ps : List (String × Ty)} {rt : Ty} {b : List Stmt}
    {c : List (String × List Stmt)} {rest : List Stmt} (h : wfDecls (sigs fs0) (.funcS n ps rt b c :: rest) = true)
    (hpre : declare fs0 [.funcS n ps rt b c] <+: T) (ndT : (sigs T).Nodup) :
    reinstall T (.funcS n ps rt b c) = some T := by
  obtain ⟨hnew, hb, hc, _⟩ := wfDecls_func h
  let f0 : Func := { name := n, params := ps, ret := rt, body := b, catches := c }
  let F : Func := { f0 with decls := declsOf fs0 n ps rt b c }
  rw [declare_new_func fs0 n ps rt b c hnew] at hpre
  have hF : F ∈ T := hpre.subset (List.mem_append_right _ (List.mem_singleton_self F))
  have hin : T.any (sameSig f0) = true := List.any_eq_true.2 ⟨F, hF, (sameSig_iff f0 F).2 rfl⟩
  -- the private symbols are computed against `T` with `f0` in the place of `F`: for the calls of the body that is `fs0 ++ [f0]`
  have hfind : ∀ name k, (sigs fs0 ++ [(n, ps.length)]).contains (name, k) = true →
      (addFunc T f0).find? (sigP name k) = (addFunc fs0 f0).find? (sigP name k) := by
    intro name k hk
    obtain ⟨extra, he⟩ := hpre.map fun g => if sameSig f0 g then f0 else g
    have hφ : fs0.map (fun g => if sameSig f0 g then f0 else g) = fs0 :=
      (List.map_congr_left fun g hg => if_neg fun hsame =>
        hnew (List.mem_map.2 ⟨g, hg, ((sameSig_iff f0 g).1 hsame).symm⟩)).trans (List.map_id fs0)
    rw [addFunc, if_pos hin, ← he, addFunc_new fs0 f0 hnew, List.map_append, List.map_cons, List.map_nil,
      if_pos ((sameSig_iff f0 F).2 rfl), hφ]
    exact List.find?_append.trans (Option.or_of_isSome (resolves_iff.2 (by simpa [sigs, sigOf, f0] using hk)))
  obtain ⟨_, hL, _, hC⟩ := decl_congr hfind 1000
  have hdecls : declsOf T n ps rt b c = declsOf fs0 n ps rt b c := by
    show (declCatches (addFunc T f0) 1000 (declList (addFunc T f0) 1000 _ b) c).first = _
    rw [hL _ b hb, hC _ c hc]
    rfl
  rw [reinstall, declare_one_func, hdecls, addFunc_eq_self ndT hF]
  exact if_pos hin

/-- A well-formed declaration sequence compiled into `fs0`: in every table `T` that continues the compiled one and holds
each signature once — the compiled table itself, or what later compilations make of it —, executing any of its
declarations puts back exactly what the compilation had put there. -/
theorem reinstall_stable_of_wf (prog : List Stmt) (T : List Func) (ndT : (sigs T).Nodup) : ∀ fs0 : List Func,
    wfDecls (sigs fs0) prog = true → declare fs0 prog <+: T → ∀ s ∈ prog, reinstall T s = some T := by
  induction prog with
  | nil => intro fs0 _ _ s hs; cases hs
  | cons st rest ih =>
    intro fs0 h hT
    rw [declare_cons] at hT
    refine List.forall_mem_cons.mpr ?_
    cases st with
    | funcS n ps rt b c =>
      have hrest := (wfDecls_func h).2.2.2
      exact ⟨reinstall_compiled h ((declare_wf_prefix rest _ hrest).trans hT) ndT, ih _ hrest hT⟩
    | _ => exact ⟨rfl, ih fs0 h hT⟩

end BlocV.World
