/-
  The lock invariant of `forall` (Model/Interp.lean `lockS`/`lockL`/`lockE`). Code the parser accepts while the table
  variable `t` is locked never changes the number of elements of `t`. The induction shares the steps of Lemmas/Interp.lean
  (`eval_rules` … `exec_rules`) but not `interp_all`: which variables may be written depends on the syntactic side condition,
  the set of locked names grows inside a `forall`, and `member` and `let` need an argument of their own (`member_lock_step`,
  `letS_lock_step`).
-/
import BlocV.Proofs.Lemmas.Basics
import BlocV.Proofs.Lemmas.Interp
import BlocV.Proofs.Lemmas.Vars
import BlocV.Proofs.Lemmas.MemberEqs
namespace BlocV.Lemmas

def KeepLen (t : String) (s s' : St) : Prop := tableSize (lookupVar s'.vars t) = tableSize (lookupVar s.vars t)

theorem keepLen_rel (t : String) : StRel (KeepLen t) := .of_eq fun s => tableSize (lookupVar s.vars t)

theorem keepLen_vars {t : String} {s s' : St} (h : s'.vars = s.vars) : KeepLen t s s' := by
  unfold KeepLen; rw [h]

theorem keepLen_set_ne {t n : String} {v : Val} {s : St} (h : n ≠ t) : KeepLen t s { s with vars := setVar s.vars n v } := by
  unfold KeepLen
  show tableSize (lookupVar (setVar s.vars n v) t) = _
  rw [lookup_setVar_ne h]

theorem keepLen_set_same {t n : String} {v : Val} {s : St} (h : tableSize v = tableSize (lookupVar s.vars n)) :
    KeepLen t s { s with vars := setVar s.vars n v } := by
  by_cases hn : n = t
  · subst hn
    unfold KeepLen
    show tableSize (lookupVar (setVar s.vars n v) n) = _
    rw [lookup_setVar, h]
  · exact keepLen_set_ne hn

theorem forallStep_size {tbl : Val} {i : Nat} {v tbl' : Val} (h : forallStep tbl i v = .ok tbl') : tableSize tbl' = tableSize tbl := by
  obtain ⟨t, d, es, old, rfl, hold, -, rfl⟩ := forallStep_ok h
  exact length_listPut es i v (List.getElem?_eq_some_iff.mp hold).1

theorem memberCall_keeps (m : Member) (recv : Val) (args : List Val) (r rv' : Val)
    (hm : memberMutates m = false) (h : memberCall m recv args false = .ok (r, rv')) : rv' = recv := by
  unfold memberCall at h
  split at h
  · exact mAt_keeps _ _ _ _ h
  · cases hm
  · cases hm
  · cases hm
  · cases hm
  · exact mCount_keeps _ _ _ h
  · cases h

theorem not_mem_of_contains {L : List String} {n : String} (h : (!L.contains n) = true) : n ∉ L := by
  simpa using h

theorem contains_ne {L : List String} {n t : String} (ht : t ∈ L) (h : (!L.contains n) = true) : n ≠ t :=
  fun e => not_mem_of_contains h (e ▸ ht)

theorem lockEs_eq_all (L : List String) (as : List Expr) : lockEs L as = as.all (lockE L) :=
  List.all_of_cons rfl (fun _ _ => rfl) as

theorem lockL_eq_all (L : List String) (l : List Stmt) : lockL L l = l.all (lockS L) :=
  List.all_of_cons rfl (fun _ _ => rfl) l

theorem lockCatches_eq_all (L : List String) (cs : List (String × List Stmt)) : lockCatches L cs = cs.all fun c => lockL L c.2 :=
  List.all_of_cons rfl (fun _ _ => rfl) cs

theorem lockEs_mem (L : List String) : ∀ (args : List Expr), lockEs L args = true → ∀ a ∈ args, lockE L a = true :=
  fun args h => List.all_eq_true.1 (lockEs_eq_all L args ▸ h)

theorem lockCatches_find (L : List String) (p : String × List Stmt → Bool) : ∀ (cs : List (String × List Stmt)) (n : String) (h : List Stmt),
    lockCatches L cs = true → cs.find? p = some (n, h) → lockL L h = true :=
  fun cs _ _ hl hf => List.all_find? (q := fun c => lockL L c.2) (lockCatches_eq_all L cs ▸ hl) hf

/-- the lock set in the body of a `forall` (`lockS`, case `forallS`) only grows -/
theorem mem_forall_lock (L : List String) (t it : String) (src : Expr) (ht : t ∈ L) :
    t ∈ (match src with
      | .var t' => if L.contains t' then it :: t' :: L else t' :: L
      | _ => L) := by
  split
  · split <;> simp [ht]
  · exact ht

theorem any_it_of_sameIters (s s' : St) (n : String) (h : SameIters s s') :
    s.iters.any (·.it == n) = s'.iters.any (·.it == n) := by
  unfold SameIters at h
  have e : ∀ l : List Iter, l.any (·.it == n) = (l.map iterKey).any (·.1 == n) := by
    intro l; rw [List.any_map]; rfl
  rw [e, e, h]

/-- a receiver the parser accepted under the lock and that designates a LOCKED variable is that variable itself (a chain of in-place
members on it would have been refused at its innermost call) -/
theorem rootVar_locked (L : List String) (n : String) (hn : n ∈ L) : ∀ (recv : Expr), lockE L recv = true → rootVar recv = some n → recv = .var n
  | .var m, _, h2 => by simp only [rootVar, Option.some.injEq] at h2; rw [h2]
  | .member m r args, h1, h2 => by
    simp only [rootVar] at h2
    split at h2
    · rename_i hm
      simp only [lockE, Bool.and_eq_true] at h1
      have hr := rootVar_locked L n hn r h1.1.2 h2
      subst hr
      have := h1.1.1
      simp [hm] at this
      exact absurd hn this
    · cases h2
  | .lit _, _, h2 | .un _ _, _, h2 | .bin _ _ _, _, h2 | .call _ _, _, h2 | .fcall _ _, _, h2 | .errorE, _, h2
  | .item _ _, _, h2 => by cases h2

def AllLock (t : String) (funcs : List Func) (fuel : Nat) : Prop :=
  (∀ L depth e, t ∈ L → lockE L e = true → Pres (KeepLen t) (eval funcs depth fuel e)) ∧
  (∀ L depth name args, t ∈ L → lockEs L args = true → Pres (KeepLen t) (callFunc funcs depth fuel name args)) ∧
  (∀ L depth args, t ∈ L → lockEs L args = true → Pres (KeepLen t) (evalArgs funcs depth fuel args)) ∧
  (∀ L depth body catches, t ∈ L → lockL L body = true → lockCatches L catches = true → Pres (KeepLen t) (execBlock funcs depth fuel body catches)) ∧
  (∀ L depth l, t ∈ L → lockL L l = true → Pres (KeepLen t) (execList funcs depth fuel l)) ∧
  (∀ L depth st, t ∈ L → lockS L st = true → Pres (KeepLen t) (exec funcs depth fuel st)) ∧
  (∀ L depth es, t ∈ L → lockEs L es = true → Pres (KeepLen t) (evalPrint funcs depth fuel es)) ∧
  (∀ L depth rules, t ∈ L → lockRules L rules = true → Pres (KeepLen t) (execIf funcs depth fuel rules))

theorem AllLock.evalArgs {t : String} {funcs : List Func} {fuel : Nat} (h : AllLock t funcs fuel) :
    ∀ L depth args, t ∈ L → lockEs L args = true → Pres (KeepLen t) (BlocV.evalArgs funcs depth fuel args) := h.2.2.1
theorem AllLock.execList {t : String} {funcs : List Func} {fuel : Nat} (h : AllLock t funcs fuel) :
    ∀ L depth l, t ∈ L → lockL L l = true → Pres (KeepLen t) (BlocV.execList funcs depth fuel l) := h.2.2.2.2.1

theorem keepLen_brules (t : String) : BRules (fun {_} x => Pres (KeepLen t) x) where
  toMRules := Pres.mrules (keepLen_rel t)
  quiet _ h := Pres.modifySt fun s => keepLen_vars (h s).1
  push _ := Pres.modifySt fun _ => keepLen_vars rfl
  tick := Pres.tick (keepLen_rel t) fun _ => keepLen_vars rfl

/-- The variable `n` a receiver designates is locked: the receiver is `n` itself and the member is not one that works in place, so
what is written back is what `n` held before receiver and arguments ran (no iterator is named `n` afterwards, so none was then). -/
theorem member_locked_writeback {funcs depth fuel L n m recv args s s1 s2 rv r rv' avs} (hn : n ∈ L)
    (hmut : (match recv with
      | .var n => !(memberMutates m && L.contains n)
      | _ => true) = true)
    (hrecv : lockE L recv = true) (hroot : rootVar recv = some n) (hr : eval funcs depth fuel recv s = (.ok rv, s1))
    (ha : evalArgs funcs depth fuel args s1 = (.ok avs, s2)) (hm : memberCall m rv avs false = .ok (r, rv'))
    (hany : ¬ s2.iters.any (·.it == n) = true) : s1 = s ∧ rv' = lookupVar s.vars n := by
  obtain rfl := rootVar_locked L n hn recv hrecv hroot
  have hc : L.contains n = true := List.contains_iff_mem.2 hn
  have hnm : memberMutates m = false := by
    simp only [hc, Bool.and_true, Bool.not_eq_true'] at hmut; exact hmut
  obtain rfl := memberCall_keeps m rv avs r rv' hnm hm
  obtain ⟨rfl, hv⟩ := eval_var_run hr
  have i2 := ((sameIters_all funcs fuel).evalArgs depth args).run ha
  exact ⟨rfl, hv ((any_it_of_sameIters s1 s2 n i2).trans (eq_false_of_ne_true hany))⟩

section steps
variable {t : String} {funcs : List Func} {fuel : Nat} (ih : AllLock t funcs fuel) {L : List String} (ht : t ∈ L) (depth : Nat)
include ih ht

theorem member_lock_step {m : Member} {recv : Expr} {args : List Expr} (he : lockE L (.member m recv args) = true) :
    Pres (KeepLen t) (eval funcs depth (fuel + 1) (.member m recv args)) := by
  have hR := keepLen_rel t
  obtain ⟨ihE, -, ihA, -, -, -, -, -⟩ := ih
  rw [eval]
  simp only [lockE, Bool.and_eq_true] at he
  obtain ⟨⟨hmut, hrecv⟩, hargs⟩ := he
  refine ⟨fun s => ?_⟩
  refine bind_snd_cases ((ihE L depth recv ht hrecv).h s) fun rv s1 hr h1 => ?_
  refine bind_snd_cases (hR.trans h1 ((ihA L depth args ht hargs).h s1)) fun avs s2 ha h12 => ?_
  refine bind_snd_cases (x := liftM (memberCall m rv avs false)) h12 fun p s2' hm _ => ?_
  obtain ⟨r, rv'⟩ := p
  rw [liftM_app, Prod.mk.injEq] at hm
  obtain ⟨hm, rfl⟩ := hm
  cases hroot : rootVar recv with
  | none => exact h12
  | some n =>
    refine bind_snd_cases (x := getSt) h12 fun _ _ hg _ => ?_
    cases hg
    rw [evalM_ite_app]
    split
    · exact h12
    · rename_i hany
      show KeepLen t s ({ s2 with vars := setVar s2.vars n rv' } : St)
      refine hR.trans h12 ?_
      by_cases hn : n = t
      · subst hn
        obtain ⟨-, rfl⟩ := member_locked_writeback ht hmut hrecv hroot hr ha hm hany
        exact keepLen_set_same h12.symm
      · exact keepLen_set_ne hn

/-- `n` is not locked, so it is not `t`; but `n` may be an iterator into `t`: then an element of `t` is replaced, the number of
elements stays. -/
theorem letS_lock_step {n : String} {e : Expr} (hs : lockS L (.letS n e) = true) :
    Pres (KeepLen t) (exec funcs depth (fuel + 1) (.letS n e)) := by
  have hR := keepLen_rel t
  have B := keepLen_brules t
  simp only [lockS, Bool.and_eq_true] at hs
  have he := ih.1 L depth e ht hs.2
  have hn : n ≠ t := contains_ne ht hs.1
  rw [exec]
  refine B.tick (B.bind B.getSt fun _ => ?_)
  split
  · exact B.bind he fun _ => B.bind (Pres.modifySt fun _ => keepLen_set_ne hn) fun _ => B.pure _
  · refine ite_rule _ (B.lift _) (B.bind he fun v => Pres.getSt_bind fun s2 => ?_)
    cases hf2 : s2.iters.find? (·.it == n) with
    | none => exact hR.refl _
    | some b =>
      refine bind_snd_cases (x := liftM (forallStep (s2.iterTable b) b.idx v)) (hR.refl _) fun tbl' _ hst _ => ?_
      rw [liftM_app, Prod.mk.injEq] at hst
      obtain ⟨hst, rfl⟩ := hst
      cases hsrc : b.src with
      | some t' =>
        show KeepLen t s2 ({ s2 with vars := setVar s2.vars t' tbl' } : St)
        apply keepLen_set_same
        rw [forallStep_size hst, iterTable_src hsrc]
      | none => exact keepLen_vars rfl

theorem lock_needsE {e : Expr} (he : lockE L e = true) : NeedsE (fun {_} x => Pres (KeepLen t) x) funcs depth fuel e := by
  have ⟨ihE, ihC, _, _, _, _, _, _⟩ := ih
  cases e
  case un | item => exact ihE L _ _ ht he
  case bin op a b =>
    have h := Bool.and_eq_true_iff.1 he
    exact ⟨ihE L _ _ ht h.1, ihE L _ _ ht h.2⟩
  case call => exact fun a ha => ihE L _ a ht (lockEs_mem L _ he a ha)
  case fcall => exact ihC L _ _ _ ht he
  case member => exact member_lock_step ih ht depth he
  all_goals trivial

theorem lock_needsS {st : Stmt} (hs : lockS L st = true) : NeedsS (fun {_} x => Pres (KeepLen t) x) funcs depth fuel st := by
  have ⟨ihE, _, _, ihB, ihL, _, ihP, ihI⟩ := ih
  cases st
  case letS => exact letS_lock_step ih ht depth hs
  case doS => exact ihE L _ _ ht hs
  case printS => exact ihP L _ _ ht hs
  case ifS => exact ihI L _ _ ht hs
  case whileS c body =>
    have h := Bool.and_eq_true_iff.1 hs
    exact ⟨ihE L _ _ ht h.1, ihL L _ _ ht h.2⟩
  case forS v b e step dir body =>
    simp only [lockS, Bool.and_eq_true] at hs
    obtain ⟨⟨⟨⟨hv, hb⟩, he⟩, hstep⟩, hbody⟩ := hs
    exact ⟨fun _ => Pres.modifySt fun _ => keepLen_set_ne (contains_ne ht hv), ihE L _ _ ht hb, ihE L _ _ ht he,
      fun se hse => by rw [Option.mem_def] at hse; subst hse; exact ihE L _ _ ht hstep, ihL L _ _ ht hbody⟩
  case forallS it src dir body =>
    simp only [lockS, Bool.and_eq_true] at hs
    obtain ⟨⟨hit, hsrc⟩, hbody⟩ := hs
    exact ⟨ihE L _ _ ht hsrc, fun desc k b => Pres.forallRun (keepLen_rel t) (fun _ _ => keepLen_vars rfl) it
      (fun _ _ => keepLen_set_ne (contains_ne ht hit)) desc k b (ihL _ depth body (mem_forall_lock L t it src ht) hbody)⟩
  case beginS body catches =>
    have h := Bool.and_eq_true_iff.1 hs
    exact ihB L _ _ _ ht h.1 h.2
  case returnS e =>
    cases e
    · trivial
    · exact ihE L _ _ ht hs
  all_goals trivial
end steps

/-- Code the parser accepts while table `t` is locked (`lockS`/`lockL`/`lockE` with `t ∈ L`) never changes the
number of elements of `t`, whatever it does and however it ends. -/
theorem lock_all (t : String) (funcs : List Func) : ∀ fuel, AllLock t funcs fuel := by
  have hR := keepLen_rel t
  have B := keepLen_brules t
  have M := B.toMRules
  intro fuel
  induction fuel with
  | zero =>
    refine ⟨?_, ?_, ?_, ?_, ?_, ?_, ?_, ?_⟩
    · intro L d e _ _; unfold eval; exact M.failE _ _
    · intro L d n a _ _; unfold callFunc; exact M.failE _ _
    · intro L d a _ _; unfold evalArgs; exact M.failE _ _
    · intro L d b c _ _ _; unfold execBlock; exact M.failE _ _
    · intro L d l _ _; unfold execList; exact M.failE _ _
    · intro L d s _ _; unfold exec; exact M.failE _ _
    · intro L d l _ _; unfold evalPrint; exact M.failE _ _
    · intro L d l _ _; unfold execIf; exact M.failE _ _
  | succ fuel ih =>
    have ⟨ihE, _, ihA, _, ihL, ihS, ihP, ihI⟩ := ih
    refine ⟨fun L d e ht he => eval_rules M e (lock_needsE ih ht d he),
      fun L d n args ht ha => callFunc_rules M (ihA L d args ht ha) fun f vals =>
        ⟨fun caller => keepLen_vars (by rw [finishCall_snd])⟩,
      fun L d args ht ha => evalArgs_rules M args fun a as e => ?_,
      fun L d body catches ht hb hc => Pres.block hR (ihL L d body ht hb) fun p n h hf =>
        ⟨ihL L d h ht (lockCatches_find L p catches n h hc hf), fun _ _ => keepLen_vars rfl⟩,
      fun L d l ht hl => execList_rules M l fun a as e => ?_,
      fun L d st ht hs => exec_rules B st (lock_needsS ih ht d hs),
      fun L d es ht hl => evalPrint_rules B es fun a as e => ?_,
      fun L d rules ht hl => execIf_rules M rules fun c b rest e => ?_⟩
    · subst e
      have h := Bool.and_eq_true_iff.1 ha
      exact ⟨ihE L _ _ ht h.1, ihA L _ _ ht h.2⟩
    · subst e
      have h := Bool.and_eq_true_iff.1 hl
      exact ⟨ihS L _ _ ht h.1, ihL L _ _ ht h.2⟩
    · subst e
      have h := Bool.and_eq_true_iff.1 hl
      exact ⟨ihE L _ _ ht h.1, ihP L _ _ ht h.2⟩
    · subst e
      simp only [lockRules, Bool.and_eq_true] at hl
      exact ⟨fun x hx => by rw [Option.mem_def] at hx; subst hx; exact ihE L _ _ ht hl.1.1, ihL L _ _ ht hl.1.2, ihI L _ _ ht hl.2⟩
end BlocV.Lemmas
