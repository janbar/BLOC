/-
  The two `Res` leaves that the walk of Lemmas/BuiltinWalk.lean takes as hypotheses, for its instance `evalWalk` in the interpreter's
  monad: the item read of `@N` (`itemAtV_nhr`) and the index arithmetic of `substr` / `subraw` (`substrRange_nb`) — the one hazard
  the model has left, on a length ≥ 2^63. With the second, the dispatch of EVERY modelled built-in (`evalBuiltin_nh`).
-/
import BlocV.Proofs.Lemmas.NoHazardInterp
namespace BlocV.NHI
variable {bad : Hazard → Bool} {I : St → Prop}

theorem sadd_nhr (hb : bad .signedOverflow = false) (a b : Int64) : NHR bad (fun _ => True) (sadd a b) :=
  NHR.ite _ (fun _ => NHR.ok trivial) fun _ => NHR.haz hb
theorem ssub_nhr (hb : bad .signedOverflow = false) (a b : Int64) : NHR bad (fun _ => True) (ssub a b) :=
  NHR.ite _ (fun _ => NHR.ok trivial) fun _ => NHR.haz hb

theorem substrRange_nb (hb : bad .signedOverflow = false) (c a0 b : Int64) : nb bad (substrRange c a0 b) := by
  unfold substrRange
  extract_lets jp
  have tail : ∀ a, NHR bad (fun _ => True) (jp a) := fun a => NHR.ite _ (fun _ => NHR.ok trivial) fun _ =>
    NHR.bind (ssub_nhr hb _ _) fun _ _ => NHR.ok trivial
  exact (NHR.ite _ (fun _ => NHR.bind (sadd_nhr hb _ _) fun a _ => tail a) fun _ => tail a0).1

theorem itemAtV_nhr (v : Val) (i : Nat) (hv : okVal v = true) : NHR bad okV (itemAtV v i) := by
  fun_cases itemAtV v i
  · exact NHR.err
  · simp only [okVal_tup, Bool.and_eq_true] at hv
    exact NHR.ok (okVals_getElem? _ _ _ hv.2 ‹_›)
  · -- a tuple has as many items as its declaration
    rename_i hlt hnone _
    simp only [okVal_tup, Bool.and_eq_true, beq_iff_eq] at hv
    rw [List.getElem?_eq_none_iff] at hnone
    omega
  · exact NHR.err
  · exact NHR.err

/-- every modelled built-in, run in the interpreter's monad; `substr` / `subraw` need `bad .signedOverflow = false` (their index
arithmetic overflows on a string of 2^63 bytes or more) or are excluded by name -/
theorem evalBuiltin_nh (hb : bad .signedOverflow = false ∨ (name ≠ "substr" ∧ name ≠ "subraw")) {fmt : Num.F64 → Bytes}
    {args : List (EvalM Val)} (h : NArgs bad I args)
    {r : EvalM Val} (hr : evalBuiltin (m := EvalM) fmt name args = some r) : NH bad I okV r :=
  evalBuiltin_walk (evalWalk bad I) fmt name args h okV (fun _ hv => hv)
    (fun hn => ⟨h, fun _ _ _ _ _ _ => substrRange_nb (hb.resolve_right fun e => hn.elim e.1 e.2) _ _ _⟩) r hr
end BlocV.NHI
