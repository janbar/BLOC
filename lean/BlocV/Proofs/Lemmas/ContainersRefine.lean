/-
  Model = Spec for the container members (Proofs/C09.lean `*_refines`): the model's classification of an element argument is the
  Spec's `fit` / `addOf` (`classify_fit`, `classify_addOf`), the bytes functions of MemberEqs.lean against `Spec.seq*`, `tab(n, x)` against `Spec.specTab`; `uniformP` is monotone in the declarations in play.
-/
import BlocV.Proofs.Lemmas.Containers
import BlocV.Proofs.Lemmas.Float
import BlocV.Proofs.Lemmas.Int64

namespace BlocV.C09
open BlocV.Spec BlocV.Lemmas

mutual
  theorem uniformP_mono (P Q : List Ty → Bool) (h : ∀ d, P d = true → Q d = true) :
      ∀ v, uniformP P v = true → uniformP Q v = true
    | .tab t d es, hu => by
      obtain ⟨hh, hp, hes⟩ := tab_parts hu
      exact tab_intro hh (fun hm => h d (hp hm)) (uniformAll_mono P Q h _ es hes)
    | .tup d items, hu => by
      obtain ⟨hd, hsc, hP, hm, hall⟩ := tup_parts hu
      exact tup_intro Q hd hsc (h d hP) hm (List.all_eq_true.1 hall)
    | .null _, _ | .bool _, _ | .int _, _ | .num _, _ | .imag _ _, _ | .str _, _ | .raw _, _ | .obj _ _, _ => rfl
  theorem uniformAll_mono (P Q : List Ty → Bool) (h : ∀ d, P d = true → Q d = true) :
      ∀ e vs, uniformAll P e vs = true → uniformAll Q e vs = true
    | _, [], _ => by simp
    | e, v :: vs, hu => by
      rw [uniformAll_cons] at hu ⊢
      simp only [Bool.and_eq_true] at hu ⊢
      exact ⟨⟨hu.1.1, uniformP_mono P Q h v hu.1.2⟩, uniformAll_mono P Q h e vs hu.2⟩
end

theorem uniformIn_uniform {P : List Ty → Bool} {v : Val} (h : UniformIn P v) : Uniform v :=
  uniformP_mono P (fun _ => true) (fun _ _ => rfl) v h

/-- a uniform value is in the domain of every `Spec.specX` -/
theorem spec_dom {P : List Ty → Bool} {v : Val} (h : UniformIn P v) {α} (o : Option α) :
    (if (!uniform v) = true then none else o) = o := by
  rw [show uniform v = true from uniformIn_uniform h]; exact if_neg nofun

theorem etyOf_major (a : Val) : (etyOf a).major = a.type.major := by rw [etyOf_eq, mkETy_major]

theorem etyOf_level (a : Val) : (etyOf a).level = a.type.level := by rw [etyOf_eq, mkETy_level]

theorem elemETy_major (t : Ty) (d : List Ty) : (elemETy t d).major = t.major := mkETy_major ..

theorem elemETy_level (t : Ty) (d : List Ty) : (elemETy t d).level = t.level - 1 := mkETy_level ..

/-- converse of `ety_of_type_eq`: a uniform value with canonical minor that has the Spec's element type has the
implementation's element type, and is not a null tuple -/
theorem type_of_ety_eq {P t d} (hh : headerOk t d = true) (hct : canonTy t = true)
    {a : Val} (ha : uniformP P a = true) (hca : canonTy a.type = true)
    (he : etyOf a = elemETy t d) : a.type = t.levelDown ∧ (a.type.major = .tup → a.isNull = false) := by
  obtain ⟨h1, h2⟩ := header_exact (P := fun _ => true) hh fun _ => rfl
  obtain ⟨b1, b2, b3, b4⟩ := type_parts_of_ety h1 ha he
  -- `canonTy` does not look at the level: `hct` is also `canonTy t.levelDown`
  refine ⟨canonTy_eq hca (ty' := t.levelDown) hct b1 b2 b3, fun hm => ?_⟩
  -- a header of tuples carries a declaration, so `a` does (`b4`); a null would carry none
  have := (uniform_exact ha).2
  rw [b4, h2, ← b1] at this
  cases hn : a.isNull
  · rfl
  · exact absurd hm (this.2 (.inr hn))

theorem fit_exact {e : ETy} {a : Val} (h : etyOf a = e) : fit e a = .exact a := by
  unfold fit; simp [h]

theorem levelDown_ne (t : Ty) (h : 1 ≤ t.level) : t.levelDown ≠ t := by
  intro e
  have := congrArg Ty.level e
  simp [Ty.levelDown] at this
  omega

/-- what the Spec's `fit` says about the model's classification of an element argument (which is not a table of the
receiver's own type: that is the splice case of insert / concat) -/
def SlotRel (k : Kind) (ign : Bool) (f : Fit) (r : Res Slot) : Prop :=
  match f with
  | .exact v => r = .ok (if ign then (if k == .put then .mismatch else .nothing) else .one v)
  | .conv v => ign = false ∧ r = .ok (.one v)
  | .bad => ign = false ∧ ∃ c x, r = .err c x
  | .no => r = .ok .mismatch ∨ (ign = true ∧ r = .ok (if k == .put then .mismatch else .nothing))

/-- no exact match, not an untyped null, not a number (or typed null) of the other numeric type for a level-0 numeric
element type: the value does not fit -/
theorem fit_ne {e : ETy} {a : Val} (h : etyOf a ≠ e) (hu : isUntypedNull a = false)
    (hx : ¬(e.level = 0 ∧ a.type.level = 0 ∧
      ((e.major = .int ∧ a.type.major = .num) ∨ (e.major = .num ∧ a.type.major = .int)))) : fit e a = .no := by
  unfold fit
  rw [if_neg (by simpa using h), hu, if_neg Bool.false_ne_true]
  split
  · rename_i h1
    simp only [Bool.and_eq_true, beq_iff_eq] at h1
    split
    · exact absurd ⟨h1.1, rfl, .inl ⟨h1.2, rfl⟩⟩ hx
    · rename_i ty
      refine if_neg fun hc => hx ?_
      simp only [Bool.and_eq_true, beq_iff_eq] at hc
      exact ⟨h1.1, hc.2, .inl ⟨h1.2, hc.1⟩⟩
    · rfl
  · split
    · rename_i h1
      simp only [Bool.and_eq_true, beq_iff_eq] at h1
      split
      · exact absurd ⟨h1.1, rfl, .inr ⟨h1.2, rfl⟩⟩ hx
      · rename_i ty
        refine if_neg fun hc => hx ?_
        simp only [Bool.and_eq_true, beq_iff_eq] at hc
        exact ⟨h1.1, hc.2, .inr ⟨h1.2, hc.1⟩⟩
      · rfl
    · rfl

theorem tyOfETy_elem_nontup (t : Ty) (d : List Ty) (hnt : t.major ≠ .tup) :
    tyOfETy (elemETy t d) = { major := t.major, minor := normMinor t, level := t.level - 1 } := by
  unfold elemETy; rw [mkETy_nontup t d _ hnt]; rfl

/-- a scalar typed null of the other numeric type fits a level-0 numeric element type as the null of that type (`either`) -/
theorem fit_null_cross (t : Ty) (d : List Ty) (nt : Ty) (hl : t.level - 1 = 0) (hnl : nt.level = 0)
    (hc : crossNum t.major nt.major = true) : fit (elemETy t d) (.null nt) = .conv (numNull t.major) := by
  rcases (crossNum_iff _ _).1 hc with ⟨h1, h2⟩ | ⟨h1, h2⟩ <;>
  · have hne : (etyOf (.null nt) == elemETy t d) = false := beq_eq_false_iff_ne.mpr fun h => by
      have := congrArg ETy.major h
      rw [etyOf_major, elemETy_major, h1] at this
      exact absurd (h2.symm.trans this) (by decide)
    unfold fit
    simp [hne, isUntypedNull, elemETy_major, elemETy_level, h1, h2, hl, hnl, numNull, Ty.int, Ty.num]

theorem isUntypedNull_eq (a : Val) : isUntypedNull a = (a.isNull && (a.type.major == .none && a.type.level == 0)) := by
  cases a <;> rfl

/-- the only ignored null of level 0 is a null tuple -/
theorem fit_ign_lvl0 (e : ETy) (a : Val) (hi : ignoredNull a = true) (hl : a.type.level = 0) (he : e.major ≠ .tup) :
    fit e a = .no := by
  rw [ignoredNull_eq, Bool.and_eq_true] at hi
  have hm : a.type.major = .tup := by simpa [hl] using hi.2
  refine fit_ne (fun h => he (by rw [← h, etyOf_major, hm])) (by rw [isUntypedNull_eq, hm]; simp) fun h => ?_
  rw [hm] at h
  exact h.2.2.elim (fun h => nomatch h.2) (fun h => nomatch h.2)

theorem null_of_major_none {P} {a : Val} (ha : uniformP P a = true) (h : a.type.major = .none) : ∃ ty, a = .null ty := by
  cases a with
  | null ty => exact ⟨ty, rfl⟩
  | tab t d es => exact absurd h ((headerOk_iff t d).1 (tab_parts ha).1).2.2.1
  | tup d i => rw [Val.type, makeTupleTy_major] at h; cases h
  | _ => cases h

/-- the model's classification of an element argument is the Spec's `fit` (outside the level-mixing region, with
declarations hashing injectively, canonical minors) -/
theorem classify_fit (P) (hinj : Inj P) (k : Kind) (t : Ty) (d : List Ty) (a : Val) (nullTy : Ty)
    (hh : headerOk t d = true) (hp : t.major = .tup → P d = true) (hct : canonTy t = true)
    (ha : uniformP P a = true) (hca : canonTy a.type = true) (hl : KF.levelBug t a = false)
    (hn : t.major ≠ .tup → nullTy = tyOfETy (elemETy t d))
    (hsame : ∀ ad vs, a = .tab t ad vs → k = .put) :
    SlotRel k (ignoredNull a) (fit (elemETy t d) a) (classify k t a nullTy) := by
  have hnone := ((headerOk_iff t d).1 hh).2.2.1
  by_cases hty : a.type.level > 0 ∨ a.type.major = t.major
  · -- both sides compare types: the Spec's exact type is the element type iff the implementation's is, null tuples apart
    rw [classify_typed hty fun hk _ ad vs e => hk (hsame ad vs e)]
    by_cases he : etyOf a = elemETy t d
    · rw [fit_exact he, if_pos (beq_iff_eq.2 (type_of_ety_eq hh hct ha hca he).1)]
      cases ignoredNull a <;> rfl
    · have hfit : fit (elemETy t d) a = .no := by
        refine fit_ne he ?_ ?_
        · rw [isUntypedNull_eq]
          rcases hty with h | h
          · simp [Nat.ne_of_gt h]
          · simp [h, hnone]
        · rw [elemETy_major]
          rintro ⟨_, h0, hc⟩
          rcases hty with h | h
          · omega
          · rw [h] at hc; rcases hc with ⟨h1, h2⟩ | ⟨h1, h2⟩ <;> rw [h1] at h2 <;> cases h2
      rw [hfit]
      cases hig : ignoredNull a
      · refine .inl (if_neg fun heq => he (ety_of_type_eq hinj hh hp ha (fun htup => ?_) (beq_iff_eq.1 heq)))
        rw [ignoredNull_eq, htup] at hig
        simpa using hig
      · exact .inr ⟨rfl, rfl⟩
  · obtain ⟨hlev, hm⟩ := not_or.1 hty
    have hlev0 : a.type.level = 0 := by omega
    have hw := wfArg_of_uniform ha
    rw [classify_mix k t a nullTy hlev0 hm, ignoredNull_eq]
    simp only [hlev, decide_false, Bool.false_or]
    have hety : etyOf a ≠ elemETy t d := fun e => hm (by rw [← etyOf_major, e, elemETy_major])
    have hety' : (etyOf a == elemETy t d) = false := by simpa using hety
    -- outside the level-mixing region the table has one dimension where the mixing branch stores a scalar
    have hlb := one_dim_of_not_levelBug hl hlev0
    by_cases hnn : a.type.major = .none
    · obtain ⟨ty, rfl⟩ := null_of_major_none ha hnn
      have h1 : ty.major = .none := hnn
      have h2 : ty.level = 0 := hlev0
      have hfit : fit (elemETy t d) (.null ty) =
          if t.major == .tup then .no else .exact (.null (tyOfETy (elemETy t d))) := by
        unfold fit; simp [hety', isUntypedNull, h1, h2, elemETy_major]
      rw [hfit, show (Val.null ty).type.major = .none from hnn]
      by_cases htup : t.major = .tup
      · simp [htup, SlotRel, mixElem]
      · have hnull := hn htup
        rw [tyOfETy_elem_nontup t d htup] at hnull ⊢
        simp only [htup, beq_iff_eq, ↓reduceIte, SlotRel, Val.isNull, Bool.true_and, reduceCtorEq]
        unfold mixElem
        cases htm : t.major with
        | int => simp [Val.type, h1, normMinor, htm, hlb (.inl htm) (.inr (.inr hnn)) hm, Ty.int]
        | num => simp [Val.type, h1, normMinor, htm, hlb (.inr htm) (.inr (.inr hnn)) hm, Ty.num]
        | tup => exact absurd htm htup
        | _ => simp [Val.type, h1, hnull, htm]
    · have hu : isUntypedNull a = false := by rw [isUntypedNull_eq]; simp [hnn]
      by_cases hc : crossNum t.major a.type.major = true
      · have hx := (crossNum_iff _ _).1 hc
        have hl0 := hlb (hx.imp (·.1) (·.1)) (hx.elim (fun h => .inl h.2) fun h => .inr (.inl h.2)) hm
        have hnt : (a.type.major == .tup) = false := by rcases hx with h | h <;> rw [h.2] <;> rfl
        rw [hnt]
        cases hnl : a.isNull
        · rcases hx with hin | hni
          · obtain ⟨x, rfl⟩ := eq_num_of hw.tabOk hlev0 hin.2 hnl
            have hfit : fit (elemETy t d) (.num x) =
                (match Num.truncInt x with
                 | some z => if -2 ^ 63 ≤ z ∧ z < 2 ^ 63 then .conv (.int (Int64.ofInt z)) else .bad
                 | none => .bad) := by
              unfold fit
              simp [hety', isUntypedNull, elemETy_major, elemETy_level, hl0, hin.1]
              try rfl
            have hmx : mixElem t (.num x) nullTy = Num.intOfDecimal x >>= fun i => .ok (.one (.int i)) := by
              unfold mixElem
              simp [hin.1, Val.type, Ty.num, Val.isNull, Val.asNum]
              cases Num.intOfDecimal x <;> rfl
            rw [hfit, hmx, intOfDecimal_eq_trunc]
            cases Num.truncInt x with
            | none => exact ⟨rfl, _, _, rfl⟩
            | some z =>
              by_cases hr : -2 ^ 63 ≤ z ∧ z < 2 ^ 63
              · simp only [hr, and_self, ↓reduceIte]; exact ⟨rfl, rfl⟩
              · simp only [hr, ↓reduceIte]; exact ⟨rfl, _, _, rfl⟩
          · obtain ⟨x, rfl⟩ := eq_int_of hw.tabOk hlev0 hni.2 hnl
            have hfit : fit (elemETy t d) (.int x) = .conv (.num (Num.bits x.toFloat)) := by
              unfold fit
              simp [hety', isUntypedNull, elemETy_major, elemETy_level, hl0, hni.1]
            rw [hfit]
            unfold mixElem
            simp [hni.1, Val.type, Ty.int, Val.isNull, Val.asInt, SlotRel]
        · obtain ⟨ty, rfl⟩ := null_of_isNull a hnl
          rw [fit_null_cross t d ty hl0 hlev0 hc, mixElem_null_cross t ty nullTy hc]
          exact ⟨rfl, rfl⟩
      · have hx := fun h => hc ((crossNum_iff _ _).2 h)
        rw [mixElem_mismatch t a nullTy hnn (fun h => hx (.inl h)) fun h => hx (.inr h), fit_ne hety hu fun h => by
          rw [elemETy_major] at h; exact hx h.2.2]
        exact .inl rfl

theorem etyOf_tab_same {P} (hinj : Inj P) {t d es at_ ad vs}
    (hx : uniformP P (.tab t d es) = true) (ha : uniformP P (.tab at_ ad vs) = true)
    (hct : canonTy t = true) (hca : canonTy at_ = true) :
    etyOf (.tab at_ ad vs) = etyOf (.tab t d es) ↔ at_ = t := by
  obtain ⟨a1, a2⟩ := uniform_exact ha
  obtain ⟨b1, b2⟩ := uniform_exact hx
  rw [etyOf_eq, etyOf_eq]
  constructor
  · intro he
    obtain ⟨h1, h2, h3, _⟩ := mkETy_inj a1 b1 he
    exact canonTy_eq hca hct h1 h2 h3
  · intro e
    have e' : (Val.tab at_ ad vs).type = (Val.tab t d es).type := e
    rw [e']
    exact mkETy_congr hinj _ (e' ▸ a1) b1 rfl rfl (by simp only [a2, b2, e', Val.isNull])

theorem fit_tab (e : ETy) (at_ ad vs) : fit e (.tab at_ ad vs) = .exact (.tab at_ ad vs) ∨ fit e (.tab at_ ad vs) = .no := by
  unfold fit
  by_cases h : etyOf (.tab at_ ad vs) = e
  · left; simp [h]
  · right
    have h' : (etyOf (.tab at_ ad vs) == e) = false := by simpa using h
    simp only [h', Bool.false_eq_true, ↓reduceIte, isUntypedNull]
    split <;> (try rfl) <;> split <;> rfl

theorem addOf_nonsplice (recv : Val) (t : Ty) (d : List Ty) (x : Val)
    (h : ∀ at_ ad vs, x = .tab at_ ad vs → etyOf x ≠ etyOf recv) :
    addOf recv t d x =
      if ignoredNull x then .nothing else
      match fit (elemETy t d) x with
      | .exact v => .elems [v] true
      | .conv v => .elems [v] false
      | .bad => .reject .any
      | .no => .reject .type := by
  unfold addOf
  split
  · rfl
  · split
    · rw [if_neg (by simpa using h _ _ _ rfl)]
      rcases fit_tab (elemETy t d) .. with e | e <;> rw [e]
    · rfl

theorem levelDown_tyOfETy (t : Ty) (d : List Ty) (hct : canonTy t = true) (hnt : t.major ≠ .tup) :
    t.levelDown = tyOfETy (elemETy t d) := by
  rw [tyOfETy_elem_nontup t d hnt]
  exact Ty.ext' _ _ rfl (beq_iff_eq.1 hct) rfl

/-- insert / concat on a table against the Spec's `addOf`: the elements of a table of the receiver's own type, or what `fit`
says of one element; `g` splices the new elements in -/
theorem classify_addOf (P) (hinj : Inj P) (k : Kind) (hk : k ≠ .put) {t : Ty} {d : List Ty} {es : List Val} {x : Val}
    (hx : uniformP P (.tab t d es) = true) (hct : canonTy t = true)
    (ha : uniformP P x = true) (hca : canonTy x.type = true) (hl : KF.levelBug t x = false) (g : List Val → Val) :
    Sat (classify k t x t.levelDown >>= fun s => match s with
        | .one v => .ok (g [v], g [v])
        | .many vs => .ok (g vs, g vs)
        | .nothing => .ok (.tab t d es, .tab t d es)
        | .mismatch => tyMismatch)
      (match (generalizing := false) addOf (.tab t d es) t d x with
        | .nothing => .either (.tab t d es) (.tab t d es)
        | .reject e => .reject e
        | .elems vs sure => if sure then .ok (g vs) (g vs) else .either (g vs) (g vs)) := by
  obtain ⟨hh, hpd, hes⟩ := tab_parts hx
  by_cases hsp : ∃ ad vs, x = .tab t ad vs
  · obtain ⟨ad, vs, rfl⟩ := hsp
    have hety := (etyOf_tab_same hinj hx ha hct hct).2 rfl
    have hlev := tab_level_pos ha
    have ha1 : addOf (.tab t d es) t d (.tab t ad vs) = .elems vs true := by
      unfold addOf
      simp [ignoredNull, hety]
    rw [ha1, classify_splice hk hlev]
    rfl
  · have hne : ∀ at_ ad vs, x = .tab at_ ad vs → etyOf x ≠ etyOf (.tab t d es) := by
      intro at_ ad vs e he
      subst e
      have := (etyOf_tab_same hinj hx ha hct hca).1 he
      subst this
      exact hsp ⟨ad, vs, rfl⟩
    rw [addOf_nonsplice _ _ _ _ hne]
    have rel := classify_fit P hinj k t d x t.levelDown hh hpd hct ha hca hl
      (levelDown_tyOfETy t d hct) (fun ad vs e => absurd ⟨ad, vs, e⟩ hsp)
    have hk' : (k == .put) = false := by simpa using hk
    generalize ignoredNull x = ign at rel ⊢
    generalize fit (elemETy t d) x = f at rel ⊢
    generalize classify k t x t.levelDown = r at rel ⊢
    cases f <;> simp only [SlotRel, hk'] at rel
    case exact v =>
      cases ign <;> rw [rel]
      · rfl
      · exact .inl rfl
    case conv v => obtain ⟨rfl, rfl⟩ := rel; exact .inl rfl
    case bad => obtain ⟨rfl, c, a, rfl⟩ := rel; exact ⟨c, a, rfl⟩
    case no =>
      rcases rel with rfl | ⟨rfl, rfl⟩
      · cases ign
        · exact ⟨_, _, rfl⟩
        · exact .inr ⟨_, _, rfl⟩
      · exact .inl rfl

theorem shape_of_type (P) (x : Val) (hx : uniformP P x = true) (hn : x.isNull = false) :
    (x.type = Ty.int → ∃ i, x = .int i) ∧ (x.type.major = .int → x.type.level = 0 → ∃ i, x = .int i) ∧
    (x.type.major = .str → x.type.level = 0 → ∃ b, x = .str b) ∧
    (x.type.major = .raw → x.type.level = 0 → ∃ b, x = .raw b) := by
  have h := fun hl => scalar_of (wfArg_of_uniform hx).tabOk hl hn
  exact ⟨fun e => (h (congrArg Ty.level e)).2.1 (congrArg Ty.major e), fun hm hl => (h hl).2.1 hm,
    fun hm hl => (h hl).2.2.2.1 hm, fun hm hl => (h hl).2.2.2.2 hm⟩

/-- the model's reading of a character-code argument is the Spec's `code` -/
theorem charArg_code {P} {x : Val} (hx : uniformP P x = true) (hn : x.isNull = false) :
    match Spec.code x with
    | .ok c => charArg x = .ok c
    | .error e => RejectAs (charArg x) e := by
  cases x with
  | int i =>
    rw [charArg_range]
    simp only [Spec.code]
    by_cases hc : 0 ≤ i.toInt ∧ i.toInt ≤ 255 <;> simp only [hc, and_self, ↓reduceIte] <;> rfl
  | null ty => cases hn
  | tab | tup => exact ⟨Gen.EXC_RT_NOT_INTEGER, [], by simp [charArg, (accessors_refuse hx rfl).1]⟩
  | _ => exact ⟨_, _, rfl⟩

theorem putBytes_sat (P) {mk : Bytes → Val} {s : Bytes} {p x : Val} (hp : uniformP P p = true) (hx : uniformP P x = true) :
    Sat (seqStore mk false s (putBytes s p x)) (Spec.seqPut mk s p x) := by
  unfold putBytes
  rw [seqStore_bind]
  refine memPos_sat P hp fun i hlt => ?_
  cases hnx : x.isNull with
  | true => cases x <;> cases hnx; exact ⟨_, _, rfl⟩
  | false =>
    have hc := charArg_code hx hnx
    simp only [Bool.false_eq_true, ↓reduceIte, seqStore_bind]
    cases hcode : Spec.code x with
    | ok b => rw [hcode] at hc; rw [hc]; simp only [Res.ok_bind, listPut_eq_set s i b hlt]; rfl
    | error e => rw [hcode] at hc; exact (sat_reject _ e).2 (hc.bind _)

theorem delBytes_sat (P) {mk : Bytes → Val} {s : Bytes} {p : Val} (hp : uniformP P p = true) :
    Sat (seqStore mk false s (delBytes s p)) (Spec.seqDelete mk s p) := by
  unfold delBytes
  rw [seqStore_bind]
  refine memPos_sat P hp fun i _ => ?_
  rw [listDel_eq_eraseIdx]; rfl

theorem seqArgM_refuses {P v} (isRaw : Bool) (o : Nat) (hu : uniformP P v = true) (hf : v.flat = false) :
    ∃ c a, seqArgM isRaw o v = .err c a := by
  obtain ⟨h1, h2, h3⟩ := accessors_refuse hu hf
  unfold seqArgM charArg
  rw [h1, h2, h3]
  split
  · exact ⟨_, _, rfl⟩
  · exact ⟨_, _, rfl⟩
  · cases isRaw <;> exact ⟨_, _, rfl⟩
  · exact ⟨_, _, rfl⟩

/-- the model's reading of the argument of insert / concat on a string or bytes value is the Spec's `seqArg` -/
theorem seqArgM_sat {P} (isRaw : Bool) (o : Nat) {x : Val} (hx : uniformP P x = true) (hn : x.isNull = false) :
    match Spec.seqArg isRaw x with
    | .ok b => seqArgM isRaw o x = .ok b
    | .error e => RejectAs (seqArgM isRaw o x) e := by
  cases x with
  | null ty => cases hn
  | str b => rfl
  | raw b => cases isRaw <;> first | rfl | exact ⟨_, _, rfl⟩
  | int i =>
    rw [show seqArgM isRaw o (.int i) = charArg (.int i) >>= fun c => .ok [c] from rfl, charArg_range]
    simp only [Spec.seqArg, Spec.code]
    by_cases hc : 0 ≤ i.toInt ∧ i.toInt ≤ 255 <;> simp only [hc, and_self, ↓reduceIte] <;> rfl
  | tab | tup => exact seqArgM_refuses isRaw o hx rfl
  | _ => exact ⟨_, _, rfl⟩

theorem insBytes_sat (P) {mk : Bytes → Val} {isRaw : Bool} {s : Bytes} {p x : Val}
    (hp : uniformP P p = true) (hx : uniformP P x = true) :
    Sat (seqStore mk false s (insBytes isRaw s p x)) (Spec.seqInsert (mk s) mk isRaw s p x) := by
  unfold insBytes
  rw [seqStore_bind]
  refine memPos_sat P hp fun i _ => ?_
  cases hnx : x.isNull with
  | true => exact Or.inl rfl
  | false =>
    have hc := seqArgM_sat isRaw (if isRaw then Gen.EXC_RT_MEMB_NOT_IMPL_S else Gen.EXC_RT_NOT_TABCHAR) hx hnx
    simp only [Bool.false_eq_true, ↓reduceIte, seqStore_bind]
    cases harg : Spec.seqArg isRaw x with
    | ok b => rw [harg] at hc; rw [hc]; rfl
    | error e => rw [harg] at hc; exact (sat_reject _ e).2 (hc.bind _)

theorem catBytes_sat (P) {mk : Bytes → Val} {isRaw : Bool} {s : Bytes} {x : Val} (hx : uniformP P x = true) :
    Sat (seqStore mk false s (catBytes isRaw s x)) (Spec.seqConcat (mk s) mk isRaw s x) := by
  unfold catBytes Spec.seqConcat
  cases hnx : x.isNull with
  | true => exact Or.inl rfl
  | false =>
    have hc := seqArgM_sat isRaw Gen.EXC_RT_MEMB_ARG_TYPE_S hx hnx
    simp only [Bool.false_eq_true, ↓reduceIte, seqStore_bind]
    cases harg : Spec.seqArg isRaw x with
    | ok b => rw [harg] at hc; rw [hc]; rfl
    | error e => rw [harg] at hc; exact (sat_reject _ e).2 (hc.bind _)

/-- from the relation between `fit` and `classify` (put, set@) to the Spec's outcome -/
theorem slotRel_sat (g : Val → Val) {ign : Bool} {f : Fit} {r : Res Slot} (rel : SlotRel .put ign f r) :
    Sat (r >>= fun s => match s with | .one v => .ok (g v, g v) | _ => tyMismatch)
      (match (generalizing := false) f with
        | .exact v => if ign then .either (g v) (g v) else .ok (g v) (g v)
        | .conv v => .either (g v) (g v)
        | .bad => .reject .any
        | .no => .reject .type) := by
  cases f <;> simp only [SlotRel] at rel
  case exact v =>
    cases ign <;> rw [rel]
    · rfl
    · exact .inr ⟨_, _, rfl⟩
  case conv v => rw [rel.2]; exact .inl rfl
  case bad => obtain ⟨_, c, x, h⟩ := rel; rw [h]; exact ⟨_, _, rfl⟩
  case no => rcases rel with h | ⟨_, h⟩ <;> rw [h] <;> exact ⟨_, _, rfl⟩

theorem levelUp8_eq (t : Ty) (h : t.level < 255) : levelUp8 t = t.levelUp := by
  unfold levelUp8 Ty.levelUp
  have : (t.level + 1) % 256 = t.level + 1 := by omega
  rw [this]

theorem tabFill_const (a : Val) (ty : Ty) (h : a.type = ty) : ∀ (k : Nat) (acc : List Val),
    tabFill (m := Res) (.ok a) ty k acc = .ok (acc ++ List.replicate k a) := by
  intro k
  induction k with
  | zero => intro acc; simp [tabFill, pure]
  | succ k ih =>
    intro acc
    have hne : (a.type != ty) = false := by simp [h]
    simp only [tabFill, bind, hne, Bool.false_eq_true, ↓reduceIte]
    rw [ih]
    simp [List.replicate_succ]

/-- `tab(n, x)` on two values (1048576 = 2^20 is the model's cut-off: larger counts are not modelled) -/
theorem biTab_vals (a0 x : Val) : biTab (m := Res) [.ok a0, .ok x] =
    if a0.isNull then (if x.type.level ≥ 254 then .err Gen.EXC_RT_OUT_OF_DIMENSION else .ok (.null (levelUp8 x.type)))
    else a0.asInt >>= fun n =>
      if n.toInt < 0 then .err Gen.EXC_RT_INDEX_RANGE_S else if n.toInt > 1048576 then .unmodelled else
      tabHeader x >>= fun td =>
        if n = 0 then .ok (.tab td.1 td.2 []) else
        tabFill (m := Res) (.ok x) (levelDown8 td.1) (idxOf n - 1) [x] >>= fun es => .ok (.tab td.1 td.2 es) := by
  unfold biTab
  cases hn : a0.isNull
  · simp only [bind, pure, hn, Bool.false_eq_true, ↓reduceIte, liftR, liftM, monadLift, rerr]
    cases a0.asInt <;> try rfl
    rename_i n
    have a : (n < 0) ↔ n.toInt < 0 := Int64.lt_iff_toInt_lt
    have b : (n > 1048576) ↔ n.toInt > 1048576 := by show (1048576 : Int64) < n ↔ _; rw [Int64.lt_iff_toInt_lt]; rfl
    simp only [a, b, beq_iff_eq]
  · simp only [bind, pure, hn, ↓reduceIte, liftR, liftM, monadLift, rerr, Gen.TYPE_LEVEL_MAX]
    by_cases h : x.type.level ≥ 254 <;> simp only [h, ↓reduceIte] <;> rfl

/-- the tail of `biTab_vals` past the header: the table of `n` copies -/
theorem tabFill_body (n : Int64) (x : Val) (t : Ty) (decl : List Ty) (h0 : 0 ≤ n.toInt) (hty : x.type = t.levelDown)
    (hl1 : 1 ≤ t.level) (hl2 : t.level ≤ 255) :
    (if n = 0 then (.ok (.tab t decl []) : Res Val) else
      tabFill (m := Res) (.ok x) (levelDown8 t) (idxOf n - 1) [x] >>= fun es => .ok (.tab t decl es)) =
    .ok (.tab t decl (List.replicate n.toInt.toNat x)) := by
  have hty8 : x.type = levelDown8 t := by
    rw [hty]; unfold levelDown8 Ty.levelDown
    rw [show (t.level + 255) % 256 = t.level - 1 by omega]
  by_cases hz : n = 0
  · subst hz; rfl
  · have hpos : n.toInt ≠ 0 := toInt_ne_zero hz
    have : idxOf n - 1 + 1 = n.toInt.toNat := by unfold idxOf; omega
    rw [if_neg hz, tabFill_const x _ hty8, ← this, List.replicate_succ]
    rfl

theorem tab_uniform_build {P} {t : Ty} {decl : List Ty} {x : Val} (k : Nat)
    (hh : headerOk t decl = true) (hp : t.major = .tup → P decl = true)
    (he : etyOf x = elemETy t decl) (hx : uniformP P x = true) :
    uniformP P (.tab t decl (List.replicate k x)) = true :=
  tab_intro hh hp ((uniformAll_iff ..).2 fun w hw => by rw [List.eq_of_mem_replicate hw]; exact ⟨he, hx⟩)

/-- `tabHeader` past its two refusals -/
theorem tabHeader_of (x : Val) (h1 : x.type.major ≠ .none) (h2 : x.type ≠ { major := .tup }) (h3 : x.type.level < 254) :
    tabHeader x = match x with
      | .tup decl _ => .ok (makeTupleTy decl 1, decl)
      | .tab t decl _ => if t.major == .tup then .ok (makeTupleTy decl ((t.level + 1) % 256), decl) else .ok (levelUp8 t, [])
      | _ => .ok (levelUp8 x.type, []) := by
  unfold tabHeader
  rw [if_neg (by simpa using ⟨h1, h2⟩), if_neg (by simp only [Gen.TYPE_LEVEL_MAX]; omega)]
  cases x <;> rfl

theorem tabHeader_refused (x : Val) (h : x.type.major = .none ∨ x.type = { major := .tup } ∨ x.type.level ≥ 254) :
    ∃ c, tabHeader x = .err c [] := by
  unfold tabHeader
  split
  · exact ⟨_, rfl⟩
  · rename_i h'
    rw [if_pos (by simp only [Gen.TYPE_LEVEL_MAX]; rcases h with h | h | h <;> simp_all)]
    exact ⟨_, rfl⟩

/-- the header `tab(n, x)` gives its table is the Spec's, for a uniform `x`: one dimension above `x` with `x`'s declaration,
a header under which `x` has the element type; refused where the Spec refuses -/
theorem tabHeader_uniform (P) (n : Int64) (x : Val) (hx : uniformP P x = true) (hz : KF.hashZero x = false)
    (h0 : 0 ≤ n.toInt) (h1 : n.toInt ≤ 1048576) :
    (∃ t decl, tabHeader x = .ok (t, decl) ∧ headerOk t decl = true ∧ (t.major = .tup → P decl = true) ∧
      etyOf x = elemETy t decl ∧ x.type = t.levelDown ∧
      Spec.specTab [.int n, x] = some (.ok (.tab t decl (List.replicate n.toInt.toNat x)) (.tab t decl (List.replicate n.toInt.toNat x)))) ∨
    ((∃ c, tabHeader x = .err c []) ∧ Spec.specTab [.int n, x] = some (.reject .any)) ∨
    ((∃ ty, x = .null ty ∧ ty.major = .tup) ∧ Spec.specTab [.int n, x] = none) := by
  have hneg : ¬ n.toInt < 0 := by omega
  have hbig : ¬ n.toInt > 1048576 := by omega
  generalize hS : Spec.specTab [.int n, x] = S
  unfold Spec.specTab at hS
  simp only [spec_dom hx, ↓reduceIte, hneg, hbig] at hS
  -- a value that is no container, of a type that is neither untyped nor a tuple type
  have scalar : x.type.major ≠ .none → x.type.major ≠ .tup → x.type.level < 254 →
      etyOf x = mkETy x.type [] x.type.level → tabHeader x = .ok (levelUp8 x.type, []) →
      S = some (.ok (.tab x.type.levelUp [] (List.replicate n.toInt.toNat x)) (.tab x.type.levelUp [] (List.replicate n.toInt.toNat x))) →
      ∃ t decl, tabHeader x = .ok (t, decl) ∧ headerOk t decl = true ∧ (t.major = .tup → P decl = true) ∧
        etyOf x = elemETy t decl ∧ x.type = t.levelDown ∧
        S = some (.ok (.tab t decl (List.replicate n.toInt.toNat x)) (.tab t decl (List.replicate n.toInt.toNat x))) := by
    intro hn hnt hl hety hhd hS
    obtain ⟨hh, he⟩ := header_levelUp x.type [] hn hl (.inr ⟨hnt, rfl⟩)
    exact ⟨_, _, hhd.trans (by rw [levelUp8_eq _ (by omega)]), hh, fun h => absurd h hnt, hety.trans he, rfl, hS⟩
  cases x with
  | tup decl items =>
    obtain ⟨hd, _, hP, _⟩ := tup_parts hx
    have hmin : (makeTupleTy decl 0).minor ≠ 0 := by simpa [KF.hashZero, hd] using hz
    obtain ⟨hh, he⟩ := tuple_header decl hd
    exact .inl ⟨_, _, tabHeader_of (.tup decl items) (by simp [Val.type, makeTupleTy_major]) (fun e => hmin (congrArg Ty.minor e))
      (by simp [Val.type, makeTupleTy_level]), hh, fun _ => hP, he, (makeTupleTy_levelUp decl 0) ▸ rfl, hS.symm⟩
  | tab t decl es =>
    obtain ⟨hh, hp, _⟩ := tab_parts hx
    obtain ⟨hl1, _, hn, hd⟩ := (headerOk_iff t decl).1 hh
    by_cases h254 : t.level ≥ 254
    · simp only [h254, ↓reduceIte] at hS
      exact .inr (.inl ⟨tabHeader_refused _ (.inr (.inr h254)), hS.symm⟩)
    · simp only [h254, ↓reduceIte] at hS
      obtain ⟨hh', he⟩ := header_levelUp t decl hn (by omega) hd
      refine .inl ⟨_, _, (tabHeader_of (.tab t decl es) hn (fun e => by have := congrArg Ty.level e; simp [Val.type] at this; omega)
        (by simpa [Val.type] using h254)).trans ?_, hh', hp, he, rfl, hS.symm⟩
      rcases hd with ⟨a1, _, a3⟩ | ⟨a1, a2⟩
      · have : makeTupleTy decl ((t.level + 1) % 256) = t.levelUp := by
          rw [Nat.mod_eq_of_lt (by omega), a3, makeTupleTy_levelUp, makeTupleTy_level]
        simp [a1, this]
      · simp [a1, a2, levelUp8_eq t (by omega)]
  | null ty =>
    by_cases hop : (ty.major == .none || ty.major == .tup && ty.minor == 0 && ty.level == 0) = true
    · simp only [hop, ↓reduceIte] at hS
      simp only [Bool.or_eq_true, Bool.and_eq_true, beq_iff_eq] at hop
      exact .inr (.inl ⟨tabHeader_refused _ (hop.imp id fun h => .inl (Ty.ext' _ _ h.1.1 h.1.2 h.2)), hS.symm⟩)
    · simp only [hop, Bool.false_eq_true, ↓reduceIte] at hS
      have hn : ty.major ≠ .none := fun h => hop (by simp [h])
      have ht : ty ≠ { major := .tup } := fun h => hop (by rw [h]; rfl)
      by_cases htup : ty.major = .tup
      · simp only [htup, beq_self_eq_true, ↓reduceIte] at hS; exact .inr (.inr ⟨⟨ty, rfl, htup⟩, hS.symm⟩)
      · by_cases h254 : ty.level ≥ 254
        · simp only [htup, h254, beq_iff_eq, ↓reduceIte] at hS
          exact .inr (.inl ⟨tabHeader_refused _ (.inr (.inr h254)), hS.symm⟩)
        · simp only [htup, h254, beq_iff_eq, ↓reduceIte] at hS
          have hl : ty.level < 254 := by omega
          exact .inl (scalar hn htup hl rfl (tabHeader_of (.null ty) hn ht hl) hS.symm)
  | _ =>
    exact .inl (scalar nofun nofun (Nat.zero_lt_succ _) rfl rfl hS.symm)

end BlocV.C09
