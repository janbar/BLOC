/-
  The table-driven transformations of the utf8 module (Model/Mod/Utf8Case.lean): a parser with a transformation installed
  stores the transformed `done` values of the plain parser (`emit`), non-zero ones only; the representation
  invariant `Inv` is kept; `Transform(func)` on a string of valid characters re-reads exactly those characters. The same
  for `capitalize` / `normalize`, which also read the parser's context.
-/
import BlocV.Proofs.Lemmas.Utf8Ops
import BlocV.Model.Mod.Utf8Case

namespace BlocV.Mod.Utf8
open BlocV.Spec.Utf8 (isScalar encode encodeAll pack)

/-- what a parser with `f` installed stores for the `done` values `raws` of the plain parser -/
def outF (cm : CharMap) (f : Func) (raws : List Nat) : List Nat := (raws.map (applyF cm f)).filter (· ≠ 0)

theorem outF_nil (cm : CharMap) (f : Func) : outF cm f [] = [] := rfl

theorem outF_cons_zero (cm : CharMap) (f : Func) (r : Nat) (rs : List Nat) (h : applyF cm f r = 0) :
    outF cm f (r :: rs) = outF cm f rs := by
  simp [outF, h]

theorem outF_cons_ne (cm : CharMap) (f : Func) (r : Nat) (rs : List Nat) (h : applyF cm f r ≠ 0) :
    outF cm f (r :: rs) = applyF cm f r :: outF cm f rs := by
  simp [outF, h]

theorem outF_length_le (cm : CharMap) (f : Func) (rs : List Nat) : (outF cm f rs).length ≤ rs.length :=
  Nat.le_trans (List.length_filter_le _ _) (Nat.le_of_eq (List.length_map _))

theorem outF_nop (cm : CharMap) (rs : List Nat) : outF cm .nop rs = rs.filter (· ≠ 0) := by
  have e : applyF cm .nop = id := by funext x; rfl
  simp [outF, e]

theorem foldl_writeByteF (cm : CharMap) (f : Func) (bs : List UInt8) : ∀ (s : UStr),
    bs.foldl (writeByteF cm f) s =
      { parser := endState s.parser (bs.map (·.toNat)),
        store := s.store ++ outF cm f (emit s.parser (bs.map (·.toNat))),
        rawSize := s.rawSize + bytesOf (outF cm f (emit s.parser (bs.map (·.toNat)))) } := by
  induction bs with
  | nil => intro s; obtain ⟨p, st, sr⟩ := s; simp [emit, endState, outF, bytesOf]
  | cons b bs ih =>
    intro s
    obtain ⟨p, st, sr⟩ := s
    simp only [List.foldl_cons, List.map_cons]
    rw [ih]
    rcases hs : step p b.toNat with ⟨e, q⟩
    cases e with
    | done raw =>
      by_cases h0 : applyF cm f raw = 0
      · simp [writeByteF, hs, h0, emit, endState, outF_cons_zero]
      · simp [writeByteF, hs, h0, emit, endState, outF_cons_ne, bytesOf_cons, Nat.add_assoc]
    | cont => simp [writeByteF, hs, emit, endState]
    | error => simp [writeByteF, hs, emit, endState]

theorem foldl_writeByteF_inv (cm : CharMap) (f : Func) (bs : List UInt8) (s : UStr) (h : Inv s) :
    Inv (bs.foldl (writeByteF cm f) s) := by
  rw [foldl_writeByteF]
  simp only [Inv, bytesOf_append]
  rw [h]

/-- `Transform(func)` in closed form, for EVERY object: the stored values are re-read through their bytes (each up to its
    first NUL byte) by a parser at rest with `f` installed -/
theorem transformT_eq (cm : CharMap) (f : Func) (t : TStr) :
    transformT cm f t =
      { u := (t.u.store.flatMap fun cp => (uString cp).takeWhile (· ≠ 0)).foldl (writeByteF cm f) {}, func := t.func } := by
  rw [transformT, List.foldl_flatMap]

theorem transformT_inv (cm : CharMap) (f : Func) (t : TStr) : Inv (transformT cm f t).u := by
  rw [transformT_eq]
  exact foldl_writeByteF_inv cm f _ {} inv_empty

theorem transformT_valid (cm : CharMap) (f : Func) (cps : List Nat) (hs : ∀ c ∈ cps, isScalar c = true ∧ c ≠ 0) (g : Func) :
    transformT cm f { u := ofBytes (encodeAll cps), func := g }
      = { u := { parser := .p0, store := outF cm f (cps.map pack), rawSize := bytesOf (outF cm f (cps.map pack)) }, func := g } := by
  obtain ⟨h1, h2⟩ := emit_encodeAll cps hs
  rw [transformT_eq, ofBytes_encodeAll cps hs, reread_bytes cps hs, foldl_writeByteF]
  simp [h1, h2]

theorem applyF_trCM (tr : CharMapT) : applyF (trCM tr) .upper = fun u => (tr u).getD u := by
  funext u
  simp only [applyF, trCM]
  cases tr u <;> rfl

/-- a `done` value of the parser is never 0 (`NullCodepoint`): `_p0` drops the NUL byte, every other `done` ends in a byte > 0x7f -/
theorem p0_done_ne_zero {bb u : Nat} {q : PSt} (h : p0 bb = (.done u, q)) : u ≠ 0 := by
  rcases lead_cases bb with c | c | c | c | c
  · intro z
    by_cases z' : bb = 0
    · rw [z'] at h; cases h
    · rw [p0_ascii bb z' c] at h; injection h with h _; injection h with h; exact z' (h.trans z)
  · rw [p0_invalid bb c] at h; cases h
  · rw [p0_lead2 bb c] at h; cases h
  · rw [p0_lead3 bb c] at h; cases h
  · rw [p0_lead4 bb c] at h; cases h

theorem step_done_ne_zero {p : PSt} {bb u : Nat} {q : PSt} (h : step p bb = (.done u, q)) : u ≠ 0 := by
  by_cases k : wants p bb
  · -- a byte that continues the sequence is > 0x7f, and a `done` value ends in it
    have pos : ∀ m, 0x80 ≤ bb → m + bb ≠ 0 := fun m hb => by omega
    cases p with
    | p0 => exact k.elim
    | p1u2 b0 | p2u3 b0 b1 | p3u4 b0 b1 b2 => cases (if_pos k).symm.trans h; exact pos _ k.1
    | p1u3 b0 | p1u4 b0 | p2u4 b0 b1 => cases (if_pos k).symm.trans h
  · exact p0_done_ne_zero ((step_restart k).symm.trans h)

/-- with `TransformNop` installed the parser is the plain one of Model/Mod/Utf8.lean -/
theorem writeByteF_nop (cm : CharMap) : writeByteF cm .nop = writeByte := by
  funext s c
  unfold writeByteF writeByte
  rcases hs : step s.parser c.toNat with ⟨e, q⟩
  cases e with
  | done u =>
    have := step_done_ne_zero hs
    simp [applyF, this]
  | cont => rfl
  | error => rfl

/-- what a parser with `f` installed and context `ctx` stores for the `done` values `raws`, and its context afterwards -/
def outC (cm : CharMapC) (f : FuncC) : Nat → List Nat → List Nat × Nat
  | ctx, [] => ([], ctx)
  | ctx, r :: rs =>
    if (doneC cm f ctx r).1 = 0 then outC cm f (doneC cm f ctx r).2 rs
    else ((doneC cm f ctx r).1 :: (outC cm f (doneC cm f ctx r).2 rs).1, (outC cm f (doneC cm f ctx r).2 rs).2)

theorem outC_length_le (cm : CharMapC) (f : FuncC) : ∀ (rs : List Nat) (ctx : Nat), (outC cm f ctx rs).1.length ≤ rs.length := by
  intro rs
  induction rs with
  | nil => intro ctx; simp [outC]
  | cons r rs ih =>
    intro ctx
    simp only [outC]
    have := ih (doneC cm f ctx r).2
    split
    · simp only [List.length_cons]; omega
    · simp only [List.length_cons]; omega

theorem foldl_writeByteC (cm : CharMapC) (f : FuncC) (bs : List UInt8) : ∀ (s : UStr) (ctx : Nat),
    bs.foldl (writeByteC cm f) (s, ctx) =
      ({ parser := endState s.parser (bs.map (·.toNat)),
         store := s.store ++ (outC cm f ctx (emit s.parser (bs.map (·.toNat)))).1,
         rawSize := s.rawSize + bytesOf (outC cm f ctx (emit s.parser (bs.map (·.toNat)))).1 },
       (outC cm f ctx (emit s.parser (bs.map (·.toNat)))).2) := by
  induction bs with
  | nil => intro s ctx; obtain ⟨p, st, sr⟩ := s; simp [emit, endState, outC, bytesOf]
  | cons b bs ih =>
    intro s ctx
    obtain ⟨p, st, sr⟩ := s
    simp only [List.foldl_cons, List.map_cons]
    rcases hs : step p b.toNat with ⟨e, q⟩
    cases e with
    | done raw =>
      by_cases h0 : (doneC cm f ctx raw).1 = 0
      · simp [writeByteC, hs, h0, ih, emit, endState, outC]
      · simp [writeByteC, hs, h0, ih, emit, endState, outC, bytesOf_cons, Nat.add_assoc]
    | cont => simp [writeByteC, hs, ih, emit, endState]
    | error => simp [writeByteC, hs, ih, emit, endState]

theorem transformC_eq (cm : CharMapC) (f : FuncC) (t : TStr) :
    transformC cm f t =
      { u := ((t.u.store.flatMap fun cp => (uString cp).takeWhile (· ≠ 0)).foldl (writeByteC cm f) ({}, CTX0)).1,
        func := t.func } := by
  rw [transformC, List.foldl_flatMap]

theorem transformC_inv (cm : CharMapC) (f : FuncC) (t : TStr) : Inv (transformC cm f t).u := by
  rw [transformC_eq, foldl_writeByteC]
  simp [Inv]

theorem transformC_valid (cm : CharMapC) (f : FuncC) (cps : List Nat) (hs : ∀ c ∈ cps, isScalar c = true ∧ c ≠ 0) (g : Func) :
    transformC cm f { u := ofBytes (encodeAll cps), func := g }
      = { u := { parser := .p0, store := (outC cm f CTX0 (cps.map pack)).1, rawSize := bytesOf (outC cm f CTX0 (cps.map pack)).1 },
          func := g } := by
  obtain ⟨h1, h2⟩ := emit_encodeAll cps hs
  rw [transformC_eq, ofBytes_encodeAll cps hs, reread_bytes cps hs, foldl_writeByteC]
  simp [h1, h2]

end BlocV.Mod.Utf8
