/-
  Lemmas for the extended storage model (Model/StoreX.lean). One relation between the state before and the state after a
  run (`Step A`: the pool invariant survives and, under the flag invariant, only roots of the footprint `A` are written
  in place and logged) and one judgment (`Run A Q m`: every successful run of `m` is such a step and its result satisfies
  `Q`) hold of every primitive and are kept by the monadic glue. `evalX_run` walks `evalX` once, by induction on the fuel,
  with the static footprint `fpE` and, as the postcondition, where the result of a literal or a storage expression lives
  (`LivesAt`); the theorems of Proofs/C05.lean about `evalX` are its projections.
-/
import BlocV.Model.StoreX

namespace BlocV.LemmasX

def NonTmp : Loc → Prop
  | .tmp _ => False
  | _ => True

/-- the root of a result that is `x` itself, a cell below it, or a new temporary -/
abbrev AtOrTmp (x : XLoc) (ρ : Loc) : Prop := NonTmp ρ → ρ = x.root

theorem flagInv_root {σ : Store} (h : FlagInv σ) {r : Loc} {c : Cell} (hr : NonTmp r) (hc : σ.root? r = some c) : c.lv = true := by
  cases r with
  | var i => exact h.1 c (List.mem_of_getElem? hc)
  | cst i => exact h.2 c (List.mem_of_getElem? hc)
  | tmp i => exact hr.elim

theorem flagInv_of_root {σ : Store} (h : ∀ r c, NonTmp r → σ.root? r = some c → c.lv = true) : FlagInv σ := by
  constructor
  · intro c hc
    obtain ⟨i, hi, rfl⟩ := List.getElem_of_mem hc
    exact h (.var i) _ trivial (by simp [Store.root?, hi])
  · intro c hc
    obtain ⟨i, hi, rfl⟩ := List.getElem_of_mem hc
    exact h (.cst i) _ trivial (by simp [Store.root?, hi])

theorem getX_some {σ : Store} {x : XLoc} {c : Cell} (h : σ.getX x = some c) :
    ∃ c0, σ.root? x.root = some c0 ∧ c.lv = c0.lv := by
  unfold Store.getX at h
  split at h
  · rename_i c0 hr
    split at h <;> cases h
    exact ⟨c0, hr, rfl⟩
  · cases h

theorem getX_flag {σ : Store} (hi : FlagInv σ) {x : XLoc} {c : Cell} (hg : σ.getX x = some c) (hn : NonTmp x.root) :
    c.lv = true := by
  obtain ⟨c0, hr, e⟩ := getX_some hg
  rw [e]; exact flagInv_root hi hn hr

theorem setX_some {σ σ' : Store} {x : XLoc} {v : Val} (h : σ.setX x v = some σ') :
    ∃ c0 v', σ.root? x.root = some c0 ∧ σ' = σ.set x.root { val := v', lv := c0.lv } := by
  unfold Store.setX at h
  split at h
  · rename_i c0 hr
    split at h <;> cases h
    exact ⟨c0, _, hr, rfl⟩
  · cases h

theorem root_set_ne {σ : Store} {ℓ r : Loc} {c : Cell} (hne : r ≠ ℓ) : (σ.set ℓ c).root? r = σ.root? r := by
  cases ℓ <;> cases r <;> simp only [Store.set, Store.root?] <;> try rfl
  all_goals
    rename_i i j
    have : i ≠ j := fun e => hne (by rw [e])
    simp [this]

theorem root_set_eq {σ : Store} {ℓ : Loc} {c0 c : Cell} (h : σ.root? ℓ = some c0) : (σ.set ℓ c).root? ℓ = some c := by
  cases ℓ <;> simp only [Store.set, Store.root?] at * <;>
    (rename_i i; have hi := (List.getElem?_eq_some_iff.mp h).1; simp [hi])

theorem alloc_vars (σ : Store) (v : Val) : (alloc σ v).2.vars = σ.vars ∧ (alloc σ v).2.csts = σ.csts := ⟨rfl, rfl⟩

/-- `Context::allocate` builds its Value from an rvalue (flags of a fresh value), `swap(Value&&)` into a temporary copies those
flags, the default `Cell` has a clear flag: no cell of the temporary pool ever carries LVALUE. -/
def PoolInv (σ : Store) : Prop := ∀ c ∈ σ.pool, c.lv = false

theorem poolInv_alloc (σ : Store) (v : Val) (h : PoolInv σ) : PoolInv (alloc σ v).2 := by
  intro c hc
  simp only [alloc] at hc
  split at hc
  · rcases List.mem_or_eq_of_mem_set hc with h1 | h1
    · exact h c h1
    · rw [h1]
  · simp only [List.mem_append, List.mem_replicate, List.mem_singleton] at hc
    rcases hc with (h1 | ⟨_, h1⟩) | h1
    · exact h c h1
    · rw [h1]; rfl
    · rw [h1]

theorem poolInv_setX {σ σ' : Store} {x : XLoc} {v : Val} (hs : σ.setX x v = some σ') (h : PoolInv σ) : PoolInv σ' := by
  obtain ⟨c0, v', hr, rfl⟩ := setX_some hs
  cases hx : x.root with
  | tmp i =>
    rw [hx] at hr
    intro c hc
    rcases List.mem_or_eq_of_mem_set hc with h1 | h1
    · exact h c h1
    · rw [h1]; exact h c0 (List.mem_of_getElem? hr)
  | _ => exact h

/-- What a run from `s` to `s'` guarantees about the cells that are not temporaries: the log grew by roots of `A` only (the
footprint of the run), a root outside the footprint is untouched, no slot appears or disappears and no flag changes. -/
def Frame (A : Loc → Prop) (s s' : XS) : Prop :=
  ∃ l, s'.log = l ++ s.log ∧ (∀ ρ ∈ l, A ρ) ∧
    ∀ r, NonTmp r → (s'.st.root? r).map (·.lv) = (s.st.root? r).map (·.lv) ∧ (r ∉ l → s'.st.root? r = s.st.root? r)

section
variable {A : Loc → Prop}

theorem Frame.trans {a b c : XS} (h1 : Frame A a b) (h2 : Frame A b c) : Frame A a c := by
  obtain ⟨l1, e1, a1, r1⟩ := h1
  obtain ⟨l2, e2, a2, r2⟩ := h2
  refine ⟨l2 ++ l1, by rw [e2, e1, List.append_assoc], fun ρ h => (List.mem_append.mp h).elim (a2 ρ) (a1 ρ), fun r hr => ?_⟩
  exact ⟨(r2 r hr).1.trans (r1 r hr).1, fun hn =>
    ((r2 r hr).2 fun h => hn (List.mem_append_left _ h)).trans ((r1 r hr).2 fun h => hn (List.mem_append_right _ h))⟩

theorem Frame.mono {B : Loc → Prop} {s s' : XS} (h : ∀ ρ, A ρ → B ρ) : Frame A s s' → Frame B s s'
  | ⟨l, e, a, r⟩ => ⟨l, e, fun ρ hρ => h ρ (a ρ hρ), r⟩

theorem Frame.flagInv {s s' : XS} (h : Frame A s s') (hi : FlagInv s.st) : FlagInv s'.st := by
  obtain ⟨_, _, _, hr⟩ := h
  refine flagInv_of_root fun r c hn hc => ?_
  have := (hr r hn).1
  rw [hc] at this
  obtain ⟨c0, hs, e⟩ := Option.map_eq_some_iff.mp this.symm
  exact e.symm.trans (flagInv_root hi hn hs)

/-- The frame in terms of the whole log afterwards. -/
theorem Frame.spec {s s' : XS} : Frame A s s' →
    (∃ fp, s'.log = fp ++ s.log) ∧ (∀ r, NonTmp r → r ∉ s'.log → s'.st.root? r = s.st.root? r) ∧
    (∀ r, NonTmp r → (s'.st.root? r).map (·.lv) = (s.st.root? r).map (·.lv))
  | ⟨l, e, _, hr⟩ => ⟨⟨l, e⟩, fun r hn hnl => (hr r hn).2 fun hm => hnl (e ▸ List.mem_append_left _ hm), fun r hn => (hr r hn).1⟩

/-- Same non-temporary cells and the same log: a run that wrote pool slots only. -/
theorem Frame.of_same {s s' : XS} (hl : s'.log = s.log) (hv : s'.st.vars = s.st.vars)
    (hc : s'.st.csts = s.st.csts) : Frame A s s' := by
  refine ⟨[], hl, nofun, fun r hr => ?_⟩
  have : s'.st.root? r = s.st.root? r := by
    cases r with
    | var i => simp only [Store.root?, hv]
    | cst i => simp only [Store.root?, hc]
    | tmp i => exact hr.elim
  exact ⟨by rw [this], fun _ => this⟩

/-- … and conversely: an empty footprint means identical variable slots and constant nodes and nothing logged. -/
theorem Frame.same {s s' : XS} : Frame (fun _ => False) s s' →
    s'.st.vars = s.st.vars ∧ s'.st.csts = s.st.csts ∧ s'.log = s.log
  | ⟨l, e, a, r⟩ => by
    have hl : l = [] := List.eq_nil_iff_forall_not_mem.mpr a
    subst hl
    exact ⟨List.ext_getElem? fun i => (r (.var i) trivial).2 nofun, List.ext_getElem? fun i => (r (.cst i) trivial).2 nofun, e⟩

/-- The relation every run of the storage-level evaluator keeps: the pool invariant survives, and from a state with the
flag invariant the run writes in place (and logs) roots of `A` only. -/
structure Step (A : Loc → Prop) (s s' : XS) : Prop where
  pool : PoolInv s.st → PoolInv s'.st
  frame : FlagInv s.st → Frame A s s'

theorem Step.refl (s : XS) : Step A s s := ⟨id, fun _ => .of_same rfl rfl rfl⟩

theorem Step.mono {B : Loc → Prop} {s s' : XS} (h : ∀ ρ, A ρ → B ρ) (hs : Step A s s') : Step B s s' :=
  ⟨hs.pool, fun hi => (hs.frame hi).mono h⟩

theorem Step.trans {a b c : XS} (h1 : Step A a b) (h2 : Step A b c) : Step A a c :=
  ⟨fun hp => h2.pool (h1.pool hp), fun hi => (h1.frame hi).trans (h2.frame ((h1.frame hi).flagInv hi))⟩

theorem Step.of_same {s s' : XS} (hp : PoolInv s.st → PoolInv s'.st)
    (h : FlagInv s.st → s'.log = s.log ∧ s'.st.vars = s.st.vars ∧ s'.st.csts = s.st.csts) : Step A s s' :=
  ⟨hp, fun hi => .of_same (h hi).1 (h hi).2.1 (h hi).2.2⟩

/-- The guarded write shared by LVAL1 / LVAL2 / takeArg: a cell read with a clear flag is, under the invariant, (inside)
a pool slot. -/
theorem Step.setX {s : XS} {x : XLoc} {c : Cell} {v : Val} {σ' : Store}
    (hg : s.st.getX x = some c) (hl : c.lv = false) (hs : s.st.setX x v = some σ') : Step A s { s with st := σ' } := by
  refine .of_same (poolInv_setX hs) fun hi => ?_
  obtain ⟨c0, v', _, rfl⟩ := setX_some hs
  cases hx : x.root with
  | tmp i => exact ⟨rfl, rfl, rfl⟩
  | _ => have := getX_flag hi hg (by rw [hx]; trivial); rw [hl] at this; cases this

def Run {α} (A : Loc → Prop) (Q : α → Prop) (m : XM α) : Prop :=
  ∀ s a s', m s = .ok (a, s') → Step A s s' ∧ Q a

abbrev Pres {α} (A : Loc → Prop) (m : XM α) : Prop := Run A (fun _ => True) m

theorem bind_ok {α β} {m : XM α} {f : α → XM β} {s : XS} {b : β} {s' : XS} (h : XM.bind m f s = .ok (b, s')) :
    ∃ a s1, m s = .ok (a, s1) ∧ f a s1 = .ok (b, s') := by
  simp only [XM.bind] at h
  split at h
  · exact ⟨_, _, ‹_›, h⟩
  all_goals cases h

theorem Run.mono {α} {B : Loc → Prop} {Q : α → Prop} {m : XM α} (h : ∀ ρ, A ρ → B ρ) (hm : Run A Q m) : Run B Q m :=
  fun s a s' hs => ⟨(hm s a s' hs).1.mono h, (hm s a s' hs).2⟩

theorem Run.post {α} {Q Q' : α → Prop} {m : XM α} (hm : Run A Q m) (h : ∀ a, Q a → Q' a) : Run A Q' m :=
  fun s a s' hs => ⟨(hm s a s' hs).1, h a (hm s a s' hs).2⟩

theorem Run.pres {α} {Q : α → Prop} {m : XM α} (hm : Run A Q m) : Pres A m := hm.post fun _ _ => trivial

theorem Run.of_pres {α} {Q : α → Prop} {m : XM α} (hm : Pres A m) (h : ∀ a, Q a) : Run A Q m := hm.post fun a _ => h a

theorem Run.of_eq {α} {m : XM α} (h : ∀ s a s', m s = .ok (a, s') → s' = s) : Pres A m :=
  fun s a s' hs => by rw [h s a s' hs]; exact ⟨.refl s, trivial⟩

theorem Run.pure {α} {Q : α → Prop} {a : α} (h : Q a) : Run A Q (XM.pure a) :=
  fun s a' s' hs => by simp only [XM.pure] at hs; cases hs; exact ⟨.refl s, h⟩

theorem Run.fail {α} {Q : α → Prop} (r : Res Unit) : Run A Q (XM.fail r : XM α) :=
  fun s a s' h => by cases r <;> simp only [XM.fail] at h <;> cases h

theorem Run.ite {α} {Q : α → Prop} {c : Prop} [Decidable c] {m1 m2 : XM α} (h1 : Run A Q m1) (h2 : Run A Q m2) :
    Run A Q (if c then m1 else m2) := by
  split <;> assumption

theorem Run.bind {α β} {Q : α → Prop} {Q' : β → Prop} {m : XM α} {f : α → XM β} (hm : Run A Q m)
    (hf : ∀ a, Q a → Run A Q' (f a)) : Run A Q' (XM.bind m f) := by
  intro s b s' h
  obtain ⟨a, s1, h1, h2⟩ := bind_ok h
  obtain ⟨f1, q1⟩ := hm s a s1 h1
  obtain ⟨f2, q2⟩ := hf a q1 s1 b s' h2
  exact ⟨f1.trans f2, q2⟩

theorem Run.seq {α β} {Q : α → Prop} {Q' : β → Prop} {m : XM α} {f : α → XM β} (hm : Run A Q m)
    (hf : ∀ a, Run A Q' (f a)) : Run A Q' (XM.bind m f) :=
  hm.bind fun a _ => hf a

/-! ### the primitives

Those that only read, and `takeArg`, are always followed by a continuation: their lemmas are stated in that form
(`Run.xget` …). A primitive whose result a type method may return says where that result lives (`run_…`: in a temporary,
or `AtOrTmp` the cell it was given; the last step of a storage expression decides `LivesAt`); of the others only the step
is stated (`pres_…`), with the hypothesis on the footprint that a write in place needs. -/

theorem Run.xget {β} {Q : β → Prop} {x : XLoc} {f : Cell → XM β} (h : ∀ c, Run A Q (f c)) : Run A Q (XM.bind (xget x) f) :=
  .seq (.of_eq fun s a s' h => by simp only [BlocV.xget] at h; split at h <;> cases h; rfl) h

theorem Run.logLen {β} {Q : β → Prop} {f : Nat → XM β} (h : ∀ n, Run A Q (f n)) : Run A Q (XM.bind logLen f) :=
  .seq (.of_eq fun s a s' h => by simp only [BlocV.logLen] at h; cases h; rfl) h

theorem Run.checkHeld {β} {Q : β → Prop} {x : XLoc} {n : Nat} {f : Unit → XM β} (h : ∀ u, Run A Q (f u)) :
    Run A Q (XM.bind (checkHeld x n) f) :=
  .seq (.of_eq fun s a s' h => by simp only [BlocV.checkHeld] at h; split at h <;> cases h; rfl) h

theorem Run.lift {α β} {Q : β → Prop} {r : Res α} {f : α → XM β} (h : ∀ a, Run A Q (f a)) : Run A Q (XM.bind (XM.lift r) f) :=
  .seq (.of_eq fun s a s' h => by cases r <;> simp only [XM.lift] at h <;> cases h; rfl) h

theorem pres_xendStatement : Pres A xendStatement := by
  intro s a s' h
  simp only [xendStatement] at h
  cases h
  exact ⟨.of_same id fun _ => ⟨rfl, rfl, rfl⟩, trivial⟩

theorem run_xalloc {v : Val} : Run A (fun x => ¬ NonTmp x.root) (xalloc v) := by
  intro s a s' h
  simp only [xalloc] at h
  cases h
  exact ⟨.of_same (poolInv_alloc _ _) fun _ => ⟨rfl, rfl, rfl⟩, id⟩

theorem pres_xalloc {v : Val} : Pres A (xalloc v) := run_xalloc.pres

/-- The one guarded write of the model (LVAL1, LVAL2, `takeArg`): a cell is overwritten only after its flag was read as
clear — under the invariant it is then (inside) a pool slot —; otherwise `m` runs. -/
theorem Run.guarded {α} {Q : α → Prop} {a : XLoc} {m : Cell → XM α} {w : Cell → Val} {r : Cell → α}
    (hm : ∀ c, Run A Q (m c)) (hr : ∀ c, Q (r c)) :
    Run A Q fun s =>
      match s.st.getX a with
      | some c =>
        if c.lv then m c s
        else
          match s.st.setX a (w c) with
          | some σ' => .ok (r c, { s with st := σ' })
          | none => .haz .oob
      | none => .haz .oob := by
  intro s b s' h
  dsimp only at h
  split at h
  · rename_i c hg
    split at h
    · exact hm c s b s' h
    · rename_i hl
      split at h <;> cases h
      exact ⟨.setX hg (by simpa using hl) ‹_›, hr c⟩
  · cases h

theorem run_xlval1 {v : Val} {a : XLoc} : Run A (fun x => AtOrTmp a x.root) (xlval1 v a) :=
  .guarded (m := fun _ => xalloc v) (w := fun _ => v) (r := fun _ => a) (fun _ => run_xalloc.post fun _ => Not.elim)
    fun _ _ => rfl

theorem pres_xlval1 {v : Val} {a : XLoc} : Pres A (xlval1 v a) := run_xlval1.pres

theorem pres_xlval2 {v : Val} {a b : XLoc} : Pres A (xlval2 v a b) :=
  .guarded (m := fun _ => xlval1 v b) (w := fun _ => v) (r := fun _ => a) (fun _ => pres_xlval1) fun _ => trivial

theorem Run.takeArg {β} {Q : β → Prop} {x : XLoc} {f : Val → XM β} (h : ∀ v, Run A Q (f v)) : Run A Q (XM.bind (takeArg x) f) :=
  .seq (Q := fun _ => True) (.guarded (m := fun c => XM.pure c.val) (w := fun c => .null c.val.type) (r := fun c => c.val)
    (fun _ => .pure trivial) fun _ => trivial) h

theorem pres_xplace {p : Place} {v : Val} {x1 x2 : XLoc} : Pres A (xplace p v x1 x2) := by
  cases p
  · exact .pure trivial
  · exact .pure trivial
  · exact pres_xlval1
  · exact pres_xlval2

theorem pres_xplaceBi {p : BiPlace} {v : Val} {xs : List XLoc} : Pres A (xplaceBi p v xs) := by
  unfold xplaceBi
  split
  · exact .pure trivial
  · exact pres_xalloc
  · exact pres_xlval1
  · exact pres_xlval2
  · exact .fail _

/-- A root cell replaced by one with the same flag, and logged: the write of an in-place member whose receiver cell is no
temporary, and the store into a variable slot. -/
theorem Frame.set {s : XS} {ρ : Loc} {c0 c : Cell} (hr : s.st.root? ρ = some c0) (hlv : c.lv = c0.lv) (hA : A ρ) :
    Frame A s { st := s.st.set ρ c, log := ρ :: s.log } := by
  refine ⟨[ρ], rfl, fun ρ' h => List.mem_singleton.mp h ▸ hA, fun r hn =>
    ⟨?_, fun hnl => root_set_ne fun e => hnl (e ▸ List.mem_singleton.mpr rfl)⟩⟩
  by_cases e : r = ρ
  · show Option.map _ ((s.st.set ρ c).root? r) = _
    rw [e, root_set_eq hr, hr]; exact congrArg some hlv
  · exact congrArg _ (root_set_ne e)

theorem pres_wrRecv {x : XLoc} {v : Val} (hx : NonTmp x.root → A x.root) : Pres A (wrRecv x v) := by
  intro s u s' h
  simp only [wrRecv] at h
  split at h
  · rename_i σ' hs
    cases h
    refine ⟨⟨poolInv_setX hs, fun _ => ?_⟩, trivial⟩
    obtain ⟨c0, v', hr, rfl⟩ := setX_some hs
    cases hroot : x.root with
    | tmp i => exact .of_same rfl rfl rfl
    | _ => rw [hroot] at hr hx; exact .set hr rfl (hx trivial)
  · cases h

theorem pres_xsetVar {i : Nat} {v : Val} (hA : A (.var i)) : Pres A (xsetVar i v) := by
  intro s r s' h
  simp only [xsetVar] at h
  split at h
  · rename_i hlt
    cases h
    have hc0 : s.st.root? (.var i) = some s.st.vars[i] := by simp [Store.root?, hlt]
    exact ⟨⟨id, fun hi => .set hc0 (flagInv_root hi (r := .var i) trivial hc0).symm hA⟩, trivial⟩
  · cases h

theorem pres_xstoreVar {i : Nat} {x : XLoc} (hA : A (.var i)) : Pres A (xstoreVar i x) := by
  unfold xstoreVar
  exact .ite (.pure trivial) (.takeArg fun _ => pres_xsetVar hA)

theorem run_finishInPlace {x : XLoc} {old res recv' : Val} {b : Bool} (hx : NonTmp x.root → A x.root) :
    Run A (fun y => AtOrTmp x y.root) (finishInPlace x old res recv' b) := by
  unfold finishInPlace
  exact .ite (run_xalloc.post fun _ => Not.elim) (.seq (pres_wrRecv hx) fun _ => .pure fun _ => rfl)

theorem run_atResult {x : XLoc} {recv a0 res : Val} : Run A (fun y => AtOrTmp x y.root) (atResult x recv a0 res) := by
  unfold atResult
  split
  · exact .pure fun _ => rfl
  · exact run_xalloc.post fun _ => Not.elim

theorem pres_tabStep {ev : XM XLoc} (hev : Pres A ev) (t : Ty) : ∀ k acc, Pres A (tabStep ev t k acc)
  | 0, _ => .pure trivial
  | k + 1, _ =>
    .seq hev fun _ => .xget fun _ => .ite (.fail _) (.takeArg fun _ => pres_tabStep hev t k _)

theorem pres_tupStep {ev : XExpr → XM XLoc} :
    ∀ as acc, (∀ a ∈ as, Pres A (ev a)) → Pres A (tupStep ev as acc)
  | [], _, _ => .pure trivial
  | a :: as, _, h =>
    .seq (h a List.mem_cons_self) fun _ => .xget fun _ => .ite (.fail _) (.ite (.fail _)
      (.takeArg fun _ => pres_tupStep as _ fun a' ha' => h a' (List.mem_cons_of_mem _ ha')))

theorem pres_biArgs {ev : XExpr → XM XLoc} :
    ∀ as acc, (∀ a ∈ as, Pres A (ev a)) → Pres A (biArgs ev as acc)
  | [], _, _ => .pure trivial
  | a :: as, _, h =>
    .seq (h a List.mem_cons_self) fun _ => .logLen fun _ =>
      pres_biArgs as _ fun a' ha' => h a' (List.mem_cons_of_mem _ ha')

theorem pres_biHeld : ∀ xn, Pres A (biHeld xn)
  | [] => .pure trivial
  | _ :: rest => .checkHeld fun _ => pres_biHeld rest

theorem pres_xgets : ∀ xs, Pres A (xgets xs)
  | [] => .pure trivial
  | _ :: rest => .xget fun _ => .seq (pres_xgets rest) fun _ => .pure trivial

/-- the variable half of `FlagInv`: what is known of a callee context before it sees the constant nodes (`inCallee`) -/
def VarsFlagged (σ : Store) : Prop := ∀ c ∈ σ.vars, c.lv = true

theorem varsFlagged_callee (f : XFun) : VarsFlagged (calleeStore f) := by
  intro c hc
  simp only [calleeStore, List.mem_map] at hc
  obtain ⟨t, _, rfl⟩ := hc
  rfl

/-- Parameter binding; it only ever stores flagged cells into the callee context. -/
theorem run_bindArgs {ev : XExpr → XM XLoc} :
    ∀ as k callee, VarsFlagged callee → (∀ a ∈ as, Pres A (ev a)) → Run A VarsFlagged (bindArgs ev as k callee)
  | [], _, _, hf, _ => .pure hf
  | a :: as, _, _, hf, h =>
    .seq (h a List.mem_cons_self) fun _ => .takeArg fun _ =>
      .ite (run_bindArgs as _ _ (fun c hc => (List.mem_or_eq_of_mem_set hc).elim (hf c) fun e => e ▸ rfl)
        fun a' ha' => h a' (List.mem_cons_of_mem _ ha')) (.fail _)

def stmtExprs : List XStmt → List (Option Nat × XExpr)
  | [] => []
  | .assign i e :: rest => (some i, e) :: stmtExprs rest
  | .doE e :: rest => (none, e) :: stmtExprs rest
  | .ret e :: rest => (none, e) :: stmtExprs rest

/-- A function body in its own context: the footprint holds its variables (assignment targets) and what its expressions log. -/
theorem pres_execBody {ev : XExpr → XM XLoc} (hvar : ∀ i, A (.var i)) :
    ∀ body, (∀ p ∈ stmtExprs body, Pres A (ev p.2)) → Pres A (execBody ev body)
  | [], _ => .pure trivial
  | .assign i e :: rest, h =>
    .seq (h (some i, e) List.mem_cons_self) fun _ => .seq (pres_xstoreVar (hvar i)) fun _ =>
      .seq pres_xendStatement fun _ => pres_execBody hvar rest fun p hp => h p (List.mem_cons_of_mem _ hp)
  | .doE e :: rest, h =>
    .seq (h (none, e) List.mem_cons_self) fun _ =>
      .seq pres_xendStatement fun _ => pres_execBody hvar rest fun p hp => h p (List.mem_cons_of_mem _ hp)
  | .ret e :: _, h =>
    .seq (h (none, e) List.mem_cons_self) fun _ => .takeArg fun _ => .pure trivial

/-- A call: the callee runs in its own context (own variables, own pool), starting from a state with the flag invariant;
the caller sees at most changed constant nodes, each of them logged. -/
theorem pres_inCallee {α} {B : Loc → Prop} {m : XM α} (hm : Pres B m) (callee : Store) (hf : VarsFlagged callee)
    (hsub : ∀ ρ, B ρ → ρ.isCst = true → A ρ) : Pres A (inCallee callee m) := by
  intro s a s' h
  simp only [inCallee] at h
  split at h
  · rename_i a0 s0 hms
    cases h
    refine ⟨⟨id, fun hi => ?_⟩, trivial⟩
    obtain ⟨l, e, hl, hr⟩ := (hm _ _ _ hms).1.frame ⟨hf, hi.2⟩
    rw [List.append_nil] at e
    refine ⟨s0.log.filter Loc.isCst, rfl, fun ρ hρ => ?_, fun r hn => ?_⟩
    · obtain ⟨h1, h2⟩ := List.mem_filter.mp hρ
      exact hsub ρ (hl ρ (e ▸ h1)) h2
    · cases r with
      | var i => exact ⟨rfl, fun _ => rfl⟩
      | cst i => exact ⟨(hr (.cst i) trivial).1, fun hn' => (hr (.cst i) trivial).2 fun hm' =>
          hn' (List.mem_filter.mpr ⟨e ▸ hm', rfl⟩)⟩
      | tmp i => exact hn.elim
  all_goals cases h

end

/-- the variable a storage expression is rooted at (`XExpr.isStorage`) -/
def rootVarX : XExpr → Option Nat
  | .var i => some i
  | .item r _ => rootVarX r
  | .setItem r _ _ => rootVarX r
  | .mem _ r _ => rootVarX r
  | _ => none

/-- the root an in-place member with receiver expression `r` can write: the variable a storage expression is rooted at,
or the constant node when the receiver is a literal (only reachable for literal types whose `isConst` path does not
allocate; the value level raises for all of them, the footprint does not rely on that). -/
def recvRoot (r : XExpr) : List Loc :=
  match r with
  | .cst j => [.cst j]
  | _ => if r.isStorage then (match rootVarX r with | some i => [.var i] | none => []) else []

theorem mem_recvRoot {e : XExpr} {ρ : Loc} (h : e.isStorage = true) : ρ ∈ recvRoot e ↔ (rootVarX e).map Loc.var = some ρ := by
  unfold recvRoot
  split
  · cases h
  · rw [if_pos h]
    cases rootVarX e
    · simp
    · simp [eq_comm]

theorem var_mem_recvRoot {r : XExpr} {i : Nat} (h : Loc.var i ∈ recvRoot r) : r.isStorage = true ∧ rootVarX r = some i := by
  unfold recvRoot at h
  split at h
  · cases List.mem_singleton.mp h
  · split at h
    · split at h
      · cases List.mem_singleton.mp h; exact ⟨‹_›, ‹_›⟩
      · cases h
    · cases h

/-- **Static footprint** of an expression: every variable slot / constant node its evaluation may write in place,
computed from the text (and, for calls, from the texts of the called functions: constant nodes only — a callee's
variables are its own). Same fuel discipline as `evalX`. -/
def fpE (F : List XFun) : Nat → XExpr → List Loc
  | 0, _ => []
  | fuel + 1, e =>
    match e with
    | .cst _ => []
    | .var _ => []
    | .tab0 => []
    | .un _ a => fpE F fuel a
    | .bin _ a b => fpE F fuel a ++ fpE F fuel b
    | .mem m r args =>
      (match m with | .count => [] | .at => [] | _ => recvRoot r) ++ fpE F fuel r ++ (args.map (fpE F fuel)).flatten
    | .item r _ => fpE F fuel r
    | .setItem r _ a => recvRoot r ++ fpE F fuel r ++ fpE F fuel a
    | .tab n a => fpE F fuel n ++ fpE F fuel a
    | .tup args => (args.map (fpE F fuel)).flatten
    | .bi _ args => (args.map (fpE F fuel)).flatten
    | .call f args =>
      (args.map (fpE F fuel)).flatten ++
        (match F[f]? with
         | some fn => (((stmtExprs fn.body).map (fun p => fpE F fuel p.2)).flatten).filter Loc.isCst
         | none => [])

/-- Where the cell a literal or a storage expression (`XExpr.isStorage`: variable, element, item, chained type method)
evaluates to lives: in a temporary, or at the static receiver root. -/
def LivesAt (e : XExpr) (ρ : Loc) : Prop := (e.isCst = true ∨ e.isStorage = true) → NonTmp ρ → ρ ∈ recvRoot e

/-- An element, an item, the result of a type method of a storage expression `e` (`e'`, rooted where `e` is): the cell of `e`
or a temporary. -/
theorem LivesAt.of_storage {e e' : XExpr} {x : XLoc} {ρ : Loc} (h : LivesAt e x.root) (hy : AtOrTmp x ρ)
    (hs : e'.isStorage = true → e.isStorage = true ∧ rootVarX e' = rootVarX e) (hc : e'.isCst = false) : LivesAt e' ρ := by
  intro hcs hn
  have hst : e'.isStorage = true := hcs.resolve_left (by rw [hc]; nofun)
  have hm := h (.inr (hs hst).1) (hy hn ▸ hn)
  rw [hy hn]
  exact (mem_recvRoot hst).mpr ((hs hst).2 ▸ (mem_recvRoot (hs hst).1).mp hm)

theorem pres_recvCell {A : Loc → Prop} {r : XExpr} {xr : XLoc} : Pres A (recvCell r xr) :=
  .xget fun _ => .ite pres_xalloc (.pure trivial)

/-- `MemberExpression::receiver()`: the cell handed on is a new temporary (a clone) or the evaluated cell itself, and under
the invariant a cell of (or inside) a variable slot or constant node is handed on as it is — not cloned — only when the
receiver expression is a literal or a storage expression. -/
theorem recvCell_root {r : XExpr} {xr x : XLoc} {s1 s2 : XS} (h : recvCell r xr s1 = .ok (x, s2)) (hn : NonTmp x.root) :
    x = xr ∧ (FlagInv s1.st → r.isCst = true ∨ r.isStorage = true) := by
  obtain ⟨c, s', hg, h⟩ := bind_ok h
  simp only [xget] at hg
  split at hg <;> cases hg
  rename_i hg
  split at h
  · simp only [xalloc] at h
    cases h
    exact hn.elim
  · rename_i hcond
    simp only [XM.pure] at h
    cases h
    refine ⟨rfl, fun hi => ?_⟩
    have hlv := getX_flag hi hg hn
    cases hc : r.isCst
    · cases hs : r.isStorage
      · exact (hcond (by simp [hlv, hc, hs])).elim
      · exact .inr rfl
    · exact .inl rfl

/-- The receiver protocol of the type methods and of `set@N`: evaluate the receiver expression, prepare the cell
(`recvCell`, unless `c`: `count` and `at` read the cell as it is), run the member on it. What is known of where the evaluated
cell lives holds of the prepared cell too. The member may write the prepared cell in place, so it is checked against every
footprint `B` that holds the root of that cell: when the cell is not a temporary it is the evaluated one and the receiver is
a literal or a storage expression (`recvCell_root`), so its root is the static receiver root, which `hroot` places in `A`. -/
theorem Run.receiver {β} {A : Loc → Prop} {Q : β → Prop} {ev : XM XLoc} {r : XExpr} {c : Prop} [Decidable c]
    {tail : XLoc → XM β} (hev : Run A (fun xr => LivesAt r xr.root) ev) (hroot : ¬ c → ∀ ρ ∈ recvRoot r, A ρ)
    (htail : ∀ x (B : Loc → Prop), LivesAt r x.root → (∀ ρ, A ρ → B ρ) → (¬ c → NonTmp x.root → B x.root) → Run B Q (tail x)) :
    Run A Q (XM.bind ev fun xr => XM.bind (if c then XM.pure xr else recvCell r xr) tail) := by
  refine hev.bind fun xr hxr => ?_
  by_cases hc : c
  · rw [if_pos hc]
    exact .bind (Q := (xr = ·)) (.pure rfl) fun x e => htail x A (e ▸ hxr) (fun _ h => h) fun h => (h hc).elim
  · rw [if_neg hc]
    intro s1 b s' h
    obtain ⟨x, s2, h1, h2⟩ := bind_ok h
    have f1 := (pres_recvCell (A := A) s1 x s2 h1).1
    have hx := recvCell_root h1
    obtain ⟨f2, q⟩ := htail x (fun ρ => A ρ ∨ (NonTmp ρ ∧ ρ = x.root))
      (fun hcs hn => by obtain ⟨rfl, _⟩ := hx hn; exact hxr hcs hn) (fun _ => Or.inl) (fun _ hn => Or.inr ⟨hn, rfl⟩) s2 b s' h2
    -- the footprint of the tail shrinks to `A` from the state before `recvCell`, where the flag invariant is at hand
    refine ⟨⟨fun hp => f2.pool (f1.pool hp), fun hi => (f1.frame hi).trans
      ((f2.frame ((f1.frame hi).flagInv hi)).mono fun ρ hρ => hρ.elim id fun ⟨hn, e⟩ => ?_)⟩, q⟩
    subst e
    obtain ⟨rfl, hcs⟩ := hx hn
    exact hroot hc _ (hxr (hcs hi) hn)

/-- **Every run of the evaluator is a `Step`** with the static footprint `fpE F fuel e` — a list computed from the program text
alone —, for every function table, fuel and expression of the extended language: the pool invariant survives, and from a state
with the flag invariant the run writes in place, and logs, only variable slots and constant nodes of the footprint. And the cell
a literal or a storage expression evaluates to lives at its static receiver root or in a temporary (`LivesAt`): the members and
`set@N` return the prepared receiver cell, an element of it, or a new temporary. One induction on the fuel, node by node. -/
theorem evalX_run (F : List XFun) : ∀ fuel e, Run (· ∈ fpE F fuel e) (fun x => LivesAt e x.root) (evalX F fuel e)
  | 0, e => by simp only [evalX]; exact .fail _
  | fuel + 1, e => by
    have ih := evalX_run F fuel
    have ihp := fun e => (ih e).pres
    -- an argument of a constructor, a built-in, a call or a member stays inside the footprint of the argument list
    have iharg : ∀ {args : List XExpr} {a}, a ∈ args → Pres (· ∈ (args.map (fpE F fuel)).flatten) (evalX F fuel a) :=
      fun ha => (ihp _).mono fun _ => List.mem_flatten_of_mem (List.mem_map_of_mem ha)
    cases e with
    | cst i | var i =>
      intro s a s' h
      simp only [evalX] at h
      split at h <;> cases h
      exact ⟨.refl s, fun _ _ => List.mem_singleton.mpr rfl⟩
    | un op a =>
      simp only [evalX, fpE]
      -- neither a literal nor a storage expression: `LivesAt` asks nothing of the result (`nofun`, here and in six more cases)
      exact Run.of_pres (.seq (ihp a) fun x => .xget fun c => .lift fun v => pres_xplace) fun _ => nofun
    | bin op a b =>
      simp only [evalX, fpE]
      exact Run.of_pres (.seq ((ihp a).mono fun _ => List.mem_append_left _) fun x1 => .xget fun c1 => .ite
        (.lift fun v => pres_xlval1)
        (.logLen fun n0 => .seq ((ihp b).mono fun _ => List.mem_append_right _) fun x2 =>
          .checkHeld fun _ => .xget fun _ => .xget fun _ =>
          .lift fun v => pres_xplace)) fun _ => nofun
    | item r idx =>
      simp only [evalX, fpE]
      exact .bind (ih r) fun x hx => .xget fun _ => .lift fun _ => .pure (hx.of_storage (fun _ => rfl) (fun h => ⟨h, rfl⟩) rfl)
    | tab0 => simp only [evalX]; exact .of_pres pres_xalloc fun _ => nofun
    | tab n a =>
      simp only [evalX, fpE]
      have ha : Pres (· ∈ fpE F fuel n ++ fpE F fuel a) (evalX F fuel a) := (ihp a).mono fun _ => List.mem_append_right _
      exact Run.of_pres (.seq ((ihp n).mono fun _ => List.mem_append_left _) fun x0 => .xget fun c0 => .ite
        (.seq ha fun x1 => .xget fun c1 => .ite (.fail _) pres_xalloc)
        (.lift fun k => .ite (.fail _) <| .ite (.fail _) <|
          .seq ha fun x1 => .xget fun c1 => .lift fun hd => .ite pres_xalloc <|
          .takeArg fun v1 => .seq (pres_tabStep ha _ _ _) fun es => pres_xalloc)) fun _ => nofun
    | tup args =>
      simp only [evalX, fpE]
      refine Run.of_pres ?_ fun _ => nofun
      split
      · exact pres_xalloc
      · exact .seq (pres_tupStep _ _ fun _ => iharg) fun _ => pres_xalloc
    | bi name args =>
      simp only [evalX, fpE]
      refine Run.of_pres (.seq (pres_biArgs _ _ fun _ => iharg) fun xn =>
        .seq (pres_biHeld _) fun _ => .seq (pres_xgets _) fun vs => ?_) fun _ => nofun
      split
      · exact .fail _
      · exact .lift fun v => pres_xplaceBi
    | call f args =>
      simp only [evalX, fpE]
      cases hfn : F[f]? with
      | none => exact .fail _
      | some fn =>
        refine .ite (.fail _) <| .bind
          (run_bindArgs _ _ _ (varsFlagged_callee fn) fun _ ha => (iharg ha).mono fun _ => List.mem_append_left _)
          fun callee hfl => Run.of_pres ?_ fun _ => nofun
        -- the callee may write its own variables and whatever its expressions write; the caller sees the constant nodes
        refine .seq (pres_inCallee (B := fun ρ => ρ.isCst = true → ρ ∈ _) (pres_execBody (fun i h => nomatch h) _
          fun p hp => (ihp p.2).mono fun ρ h hc => ?_) callee hfl fun ρ h hc => h hc) fun ret => ?_
        · exact List.mem_append_right _ (List.mem_filter.mpr ⟨List.mem_flatten_of_mem (List.mem_map_of_mem hp) h, hc⟩)
        · cases ret <;> exact pres_xalloc
    | setItem r idx a =>
      simp only [evalX, fpE]
      refine Run.receiver (c := False) ((ih r).mono fun _ h => List.mem_append_left _ (List.mem_append_right _ h))
        (fun _ ρ h => List.mem_append_left _ (List.mem_append_left _ h)) fun x B hx hAB hxB => ?_
      exact .xget fun c => .ite (.fail _) <| .logLen fun n0 =>
        .seq ((ihp a).mono fun _ h => hAB _ (List.mem_append_right _ h)) fun x0 => .checkHeld fun _ =>
        .xget fun c' => .xget fun c0 => .lift fun rr => .takeArg fun _ =>
        .seq (pres_wrRecv (hxB id)) fun _ => .pure (hx.of_storage (fun _ => rfl) (fun h => ⟨h, rfl⟩) rfl)
    | mem m r args =>
      simp only [evalX, fpE]
      refine Run.receiver ((ih r).mono fun _ h => List.mem_append_left _ (List.mem_append_right _ h))
        (fun hc ρ h => List.mem_append_left _ (List.mem_append_left _ ?_)) fun x B hx hAB hxB => .logLen fun n0 => ?_
      · cases m <;> first | exact h | exact absurd rfl hc
      have harg : ∀ a ∈ args, Pres B (evalX F fuel a) := fun _ ha => (iharg ha).mono fun _ h =>
        hAB _ (List.mem_append_right _ h)
      -- every type method ends in LVAL1 on the receiver cell, an element of it, or the end of an in-place change,
      -- and only that last step decides where the result lives
      have post : ∀ y : XLoc, AtOrTmp x y.root → LivesAt (.mem m r args) y.root := fun y hy =>
        hx.of_storage hy (fun h => ⟨(Bool.and_eq_true _ _ ▸ h).2, rfl⟩) rfl
      split
      case h_1 => exact .xget fun _ => .lift fun _ => run_xlval1.post post  -- `count`
      case h_2 =>  -- `at`
        exact .seq (harg _ (.head _)) fun _ => .checkHeld fun _ => .xget fun _ => .xget fun _ => .lift fun _ =>
          run_atResult.post post
      case h_3 =>  -- `delete`
        exact .seq (harg _ (.head _)) fun _ => .checkHeld fun _ => .xget fun _ => .xget fun _ => .lift fun _ =>
          (run_finishInPlace (hxB nofun)).post post
      case h_4 =>  -- `concat`
        exact .seq (harg _ (.head _)) fun _ => .checkHeld fun _ => .xget fun _ => .xget fun _ => .lift fun _ =>
          .takeArg fun _ => (run_finishInPlace (hxB nofun)).post post
      case h_5 | h_6 =>  -- `put`, `insert`: the same protocol
        exact .seq (harg _ (.head _)) fun _ => .checkHeld fun _ => .xget fun _ => .xget fun _ => .ite (.fail _) <|
          .logLen fun _ => .seq (harg _ (.tail _ (.head _))) fun _ => .checkHeld fun _ => .checkHeld fun _ =>
          .xget fun _ => .xget fun _ => .xget fun _ => .lift fun _ => .takeArg fun _ =>
          (run_finishInPlace (hxB nofun)).post post
      case h_7 => exact .fail _  -- any other member / arity

def RootFrom (P : Loc → Prop) (m : XM XLoc) : Prop := ∀ s x s', m s = .ok (x, s') → P x.root

/-- A storage expression evaluates to a temporary or to a cell of (or inside) the variable it is rooted at. -/
theorem storage_rootVar (F : List XFun) : ∀ fuel e, e.isStorage = true →
    RootFrom (fun ρ => NonTmp ρ → (rootVarX e).map Loc.var = some ρ) (evalX F fuel e) :=
  fun fuel e hst s x s' h hn => (mem_recvRoot hst).mp ((evalX_run F fuel e s x s' h).2 (.inr hst) hn)

def Logs {α} (A : List Loc) (m : XM α) : Prop :=
  ∀ s a s', FlagInv s.st → m s = .ok (a, s') → ∃ l, s'.log = l ++ s.log ∧ ∀ ρ ∈ l, ρ ∈ A

theorem Run.logs {α} {A : List Loc} {Q : α → Prop} {m : XM α} (h : Run (· ∈ A) Q m) : Logs A m := fun s a s' hi hs =>
  let ⟨l, e, hl, _⟩ := (h s a s' hs).1.frame hi
  ⟨l, e, hl⟩

theorem Logs.silent {α} {A : List Loc} {m : XM α} (h : ∀ s a s', m s = .ok (a, s') → s'.log = s.log) : Logs A m := by
  intro s a s' _ hs
  exact ⟨[], by simp [h s a s' hs], fun _ hρ => by cases hρ⟩

def LogsAt {α} (s : XS) (A : List Loc) (m : XM α) : Prop :=
  FlagInv s.st → ∀ a s', m s = .ok (a, s') → ∃ l, s'.log = l ++ s.log ∧ ∀ ρ ∈ l, ρ ∈ A

theorem LogsAt.mono {α} {s : XS} {A B : List Loc} {m : XM α} (h : ∀ ρ ∈ A, ρ ∈ B) (hm : LogsAt s A m) : LogsAt s B m := by
  intro hi a s' hs
  obtain ⟨l, e, hl⟩ := hm hi a s' hs
  exact ⟨l, e, fun ρ hρ => h ρ (hl ρ hρ)⟩

theorem LogsAt.silent {α} {s : XS} {A : List Loc} {m : XM α} (h : ∀ s a s', m s = .ok (a, s') → s'.log = s.log) : LogsAt s A m :=
  fun hi a s' hs => Logs.silent h s a s' hi hs

theorem LogsAt.ite {α} {s : XS} {A : List Loc} {c : Prop} [Decidable c] {m1 m2 : XM α} (h1 : LogsAt s A m1) (h2 : LogsAt s A m2) :
    LogsAt s A (if c then m1 else m2) := by split <;> assumption

def PPool {α} (m : XM α) : Prop := ∀ s a s', PoolInv s.st → m s = .ok (a, s') → PoolInv s'.st

theorem Run.ppool {α} {A : Loc → Prop} {Q : α → Prop} {m : XM α} (h : Run A Q m) : PPool m := fun s a s' hp hs => (h s a s' hs).1.pool hp

theorem ppool_xendStatement : PPool xendStatement := (pres_xendStatement (A := fun _ => True)).ppool

theorem ppool_xstoreVar (i : Nat) (x : XLoc) : PPool (xstoreVar i x) := (pres_xstoreVar (A := fun _ => True) trivial).ppool

/-- The combinator `if (!a0.lvalue() || !a1.lvalue()) { a0.swap(v); return a0; }` (seeded change C05-m7). It is not the model's
LVAL2: `C05.reuse_only_temporaries` is false of it, as the example next to that theorem shows. -/
def xlval2Merged (v : Val) (a b : XLoc) : XM XLoc := fun s =>
  match s.st.getX a, s.st.getX b with
  | some ca, some cb =>
    if !ca.lv || !cb.lv then
      match s.st.setX a v with
      | some σ' => .ok (a, { s with st := σ' })
      | none => .haz .oob
    else xalloc v s
  | _, _ => .haz .oob

end BlocV.LemmasX
