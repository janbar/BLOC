/-
  The `for` specification of Spec/Loops.lean: closed form of `upFrom`, independence of the fuel; `downFrom` is `upFrom` on
  the negated values.
-/
import BlocV.Spec.Loops
namespace BlocV.Lemmas

/-- number of values `cur, cur+step, … ≤ max` -/
def upCount (cur max step : Int) : Nat := if cur > max then 0 else ((max - cur) / step).toNat + 1
def downCount (cur min step : Int) : Nat := if cur < min then 0 else ((cur - min) / step).toNat + 1

theorem upCount_step (cur max step : Int) (hs : 0 < step) (h : ¬ cur > max) :
    upCount cur max step = upCount (cur + step) max step + 1 := by
  unfold upCount
  simp only [h, if_false]
  by_cases h2 : cur + step > max
  · simp only [h2, if_true]
    rw [Int.ediv_eq_zero_of_lt (by omega) (by omega)]
    rfl
  · simp only [h2, if_false]
    have e : max - cur = (max - (cur + step)) + 1 * step := by omega
    have h3 : 0 ≤ (max - (cur + step)) / step := Int.ediv_nonneg (by omega) (by omega)
    rw [e, Int.add_mul_ediv_right _ _ (by omega : step ≠ 0)]
    omega

theorem upFrom_eq_map (max step : Int) (hs : 0 < step) : ∀ (k : Nat) (cur : Int),
    Spec.upFrom k cur max step = (List.range (min k (upCount cur max step))).map (fun (i : Nat) => cur + (i : Int) * step) := by
  intro k
  induction k with
  | zero => intro cur; simp [Spec.upFrom]
  | succ k ih =>
    intro cur
    unfold Spec.upFrom
    by_cases h : cur > max
    · simp [h, upCount]
    · simp only [h, if_false]
      rw [upCount_step cur max step hs h, Nat.add_min_add_right, List.range_succ_eq_map, ih]
      simp only [List.map_cons, List.map_map]
      congr 1
      · simp
      · apply List.map_congr_left
        intro i _
        simp only [Function.comp, Nat.succ_eq_add_one, Int.natCast_add, Int.add_mul]
        omega

theorem downFrom_eq_neg (mn step : Int) : ∀ (k : Nat) (cur : Int),
    Spec.downFrom k cur mn step = (Spec.upFrom k (-cur) (-mn) step).map (- ·)
  | 0, _ => rfl
  | k + 1, cur => by
    unfold Spec.downFrom Spec.upFrom
    by_cases h : cur < mn
    · rw [if_pos h, if_pos (by omega)]; rfl
    · rw [if_neg h, if_neg (by omega), downFrom_eq_neg mn step k, show -(cur - step) = -cur + step by omega]
      simp

theorem downCount_eq (cur mn step : Int) : downCount cur mn step = upCount (-cur) (-mn) step := by
  unfold downCount upCount
  rw [show -mn - -cur = cur - mn by omega]
  by_cases h : cur < mn
  · rw [if_pos h, if_pos (by omega)]
  · rw [if_neg h, if_neg (by omega)]

theorem downFrom_eq_map (mn step : Int) (hs : 0 < step) (k : Nat) (cur : Int) :
    Spec.downFrom k cur mn step = (List.range (min k (downCount cur mn step))).map (fun (i : Nat) => cur - (i : Int) * step) := by
  rw [downFrom_eq_neg, upFrom_eq_map _ step hs, downCount_eq, List.map_map]
  refine List.map_congr_left fun i _ => ?_
  simp only [Function.comp]
  omega

theorem upCount_le {cur max step : Int} (hs : 0 < step) (h : cur ≤ max) : upCount cur max step ≤ (max - cur).toNat + 1 := by
  unfold upCount
  have h1 : ¬ cur > max := by omega
  simp only [h1, if_false]
  have := Int.ediv_le_self (b := step) (a := max - cur) (by omega)
  have h3 : 0 ≤ (max - cur) / step := Int.ediv_nonneg (by omega) (by omega)
  omega

theorem downCount_le {cur mn step : Int} (hs : 0 < step) (h : mn ≤ cur) : downCount cur mn step ≤ (cur - mn).toNat + 1 := by
  rw [downCount_eq, show cur - mn = -mn - -cur by omega]
  exact upCount_le hs (by omega)

theorem upFrom_fuel {max step : Int} (hs : 0 < step) {k k' : Nat} {cur : Int}
    (h : upCount cur max step ≤ k) (h' : upCount cur max step ≤ k') :
    Spec.upFrom k cur max step = Spec.upFrom k' cur max step := by
  rw [upFrom_eq_map max step hs, upFrom_eq_map max step hs, Nat.min_eq_right h, Nat.min_eq_right h']

theorem downFrom_fuel {mn step : Int} (hs : 0 < step) {k k' : Nat} {cur : Int}
    (h : downCount cur mn step ≤ k) (h' : downCount cur mn step ≤ k') :
    Spec.downFrom k cur mn step = Spec.downFrom k' cur mn step := by
  rw [downFrom_eq_map mn step hs, downFrom_eq_map mn step hs, Nat.min_eq_right h, Nat.min_eq_right h']
end BlocV.Lemmas
