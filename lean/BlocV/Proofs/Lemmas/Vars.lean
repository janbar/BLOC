/-
  The variable store of the interpreter model (`lookupVar` / `setVar`), and the table a running `forall` traverses (`St.iterTable`).
-/
import BlocV.Model.Interp

namespace BlocV.Lemmas

/-- replacing the value under `m` moves no entry and changes no name: searching by name commutes with it -/
theorem find_map_set (vars : List (String × Val)) (m n : String) (v : Val) :
    (vars.map fun p => if p.1 == m then (m, v) else p).find? (·.1 == n) =
      (vars.find? (·.1 == n)).map fun p => if p.1 == m then (m, v) else p := by
  rw [List.find?_map]
  congr 2
  funext p
  show ((if p.1 == m then (m, v) else p).1 == n) = (p.1 == n)
  split
  · rw [eq_of_beq ‹p.1 == m›]
  · rfl

theorem lookup_setVar {vars : List (String × Val)} {n : String} {v : Val} :
    lookupVar (setVar vars n v) n = v := by
  unfold lookupVar setVar
  cases h : vars.any (·.1 == n) with
  | false =>
    rw [if_neg Bool.false_ne_true, List.find?_append, List.find?_eq_none.mpr (List.any_eq_false.mp h), Option.none_or,
      List.find?_singleton, beq_self_eq_true, if_pos rfl]
  | true =>
    obtain ⟨q, hq⟩ := Option.isSome_iff_exists.mp (List.find?_isSome.mpr (List.any_eq_true.mp h))
    rw [if_pos rfl, find_map_set, hq, Option.map_some, if_pos (List.find?_some hq)]

theorem lookup_setVar_ne {vars : List (String × Val)} {n m : String} {v : Val} (h : m ≠ n) :
    lookupVar (setVar vars m v) n = lookupVar vars n := by
  have hmn : (m == n) = false := beq_false_of_ne h
  unfold lookupVar setVar
  cases vars.any (·.1 == m) with
  | false => rw [if_neg Bool.false_ne_true, List.find?_append, List.find?_singleton, hmn, if_neg Bool.false_ne_true, Option.or_none]
  | true =>
    rw [if_pos rfl, find_map_set]
    cases hq : vars.find? (·.1 == n) with
    | none => rfl
    | some q =>
      have hqn := List.find?_some hq
      rw [Option.map_some, if_neg fun e => h ((eq_of_beq e).symm.trans (eq_of_beq hqn))]

theorem mem_setVar {vars : List (String × Val)} {n : String} {v : Val} {p : String × Val} (hp : p ∈ setVar vars n v) :
    p = (n, v) ∨ p ∈ vars := by
  unfold setVar at hp
  split at hp
  · simp only [List.mem_map] at hp
    obtain ⟨q, hq, e⟩ := hp
    split at e
    · exact .inl e.symm
    · exact .inr (e ▸ hq)
  · simp only [List.mem_append, List.mem_singleton] at hp
    rcases hp with h | h
    · exact .inr h
    · exact .inl h

/-- The parameter binding loop of `createEnv` does not touch the non-parameter symbols. -/
theorem lookup_bind_other (binds : List (String × Val)) (n : String) (hn : n ∉ binds.map (·.1)) :
    ∀ vars, lookupVar (binds.foldl (fun vs (p : String × Val) => setVar vs p.1 p.2) vars) n = lookupVar vars n :=
  fun vars => List.foldlRecOn (motive := fun vs => lookupVar vs n = lookupVar vars n) binds _ rfl fun _ hvs p hp =>
    (lookup_setVar_ne fun e => hn (List.mem_map.2 ⟨p, hp, e⟩)).trans hvs

/-- The parameter binding loop of `createEnv` binds every parameter to its own argument when the parameter names are distinct. -/
theorem lookup_bind_mem (binds : List (String × Val)) (hnd : (binds.map (·.1)).Nodup) :
    ∀ (vars : List (String × Val)) (p : String × Val), p ∈ binds →
      lookupVar (binds.foldl (fun vs (p : String × Val) => setVar vs p.1 p.2) vars) p.1 = p.2 := by
  induction binds with
  | nil => intro vars p hp; cases hp
  | cons b bs ih =>
    intro vars p hp
    simp only [List.map_cons, List.nodup_cons] at hnd
    simp only [List.foldl_cons]
    rcases List.mem_cons.mp hp with rfl | hp'
    · rw [lookup_bind_other bs p.1 hnd.1, lookup_setVar]
    · exact ih hnd.2 _ p hp'

/-- the list is the one `calleeInit` starts a callee's variables from -/
theorem lookup_nulls_isNull (decls : List (String × Ty)) (n : String) :
    (lookupVar (decls.map fun (p : String × Ty) => (p.1, Val.null p.2)) n).isNull = true := by
  unfold lookupVar
  cases h : (decls.map fun (p : String × Ty) => (p.1, Val.null p.2)).find? (·.1 == n) with
  | none => rfl
  | some x =>
    have := List.mem_of_find?_eq_some h
    simp only [List.mem_map] at this
    obtain ⟨p, _, rfl⟩ := this
    rfl

theorem iterTable_src {s : St} {b : Iter} {t : String} (h : b.src = some t) : s.iterTable b = lookupVar s.vars t := by
  unfold St.iterTable; rw [h]

theorem iterTable_priv {s : St} {b : Iter} (h : b.src = none) : s.iterTable b = b.priv := by
  unfold St.iterTable; rw [h]

theorem iterTable_setVar (s : St) (n : String) (v : Val) (b : Iter) :
    ({ s with vars := setVar s.vars n v } : St).iterTable b = if b.src = some n then v else s.iterTable b := by
  cases hs : b.src with
  | none => rw [iterTable_priv hs, iterTable_priv hs, if_neg nofun]
  | some t =>
    rw [iterTable_src hs, iterTable_src hs]
    by_cases e : n = t
    · subst e; rw [if_pos rfl]; exact lookup_setVar
    · rw [if_neg (fun h => e (Option.some.inj h).symm)]; exact lookup_setVar_ne e

end BlocV.Lemmas
