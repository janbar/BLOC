/-
  Facts about core types that several regions use and core does not have. Nothing here mentions the model.

  Lists: the model and the proofs lift a Boolean predicate `p` on elements to lists by a recursion of their own
  (`lockEs`, `lockCatches`, `litEs`, `okVals`, `okC` …: `true` on `[]`, `p a && q l` on `a :: l`), mostly inside a mutual block. Such a
  `q` is `List.all p` (`List.all_of_cons`); what is needed of it — membership, `find?`, `++` — is then core's lemma about `all`.
-/

theorem List.all_of_cons {α} {q : List α → Bool} {p : α → Bool} (h0 : q [] = true) (hc : ∀ a l, q (a :: l) = (p a && q l)) :
    ∀ l, q l = l.all p
  | [] => h0
  | a :: l => by rw [hc, List.all_cons, List.all_of_cons h0 hc l]

theorem List.all_find? {α} {p q : α → Bool} {l : List α} {a : α} (hl : l.all q = true) (hf : l.find? p = some a) : q a = true :=
  List.all_eq_true.1 hl a (List.mem_of_find?_eq_some hf)
