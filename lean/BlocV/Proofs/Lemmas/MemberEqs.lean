/-
  The container members of Model/Members.lean in the form the proofs use: `m recv args = stage >>= fun … => …`.
  at / put / insert / delete read their position the same way (`memPos`); on a string or a bytes value put / insert /
  delete / concat compute new bytes (`putBytes`, `insBytes`, `delBytes`, `catBytes`) and hand them to `seqStore`.
  Receivers that are no sequence and null receivers of concat have their own equations; membership in the results of the list
  surgery (`mem_listPut` …); no hazard in the bytes-level stages (`putBytes_nh` …); what a call on a receiver that is no table
  returns, without a hazard (`Ret`, `nontab_ret`); what a header made by `tab(n, x)` says of `x` (`tabHeader_ok`); the index trace
  of a `forall` header (`forallTrace_order_of_lt`), the lock flag of its iterator (`forallEnter_iter`) and the inversion of a write
  through it (`forallStep_ok`); `at` and `count` hand the receiver back (`mAt_keeps`, `mCount_keeps`). Nothing here mentions the
  specification.
-/
import BlocV.Model.Members
import BlocV.Proofs.Lemmas.Int64
import BlocV.Proofs.Lemmas.OpsCases
namespace BlocV
open BlocV.Lemmas

theorem listPut_eq_set {α} (l : List α) (n : Nat) (x : α) (h : n < l.length) : listPut l n x = l.set n x := by
  unfold listPut; rw [List.set_eq_take_append_cons_drop]; simp [h]

theorem length_listPut {α} (l : List α) (n : Nat) (y : α) (h : n < l.length) : (listPut l n y).length = l.length := by
  rw [listPut_eq_set l n y h, List.length_set]

/-! The list surgery of put / insert / delete adds nothing but what it is given: whatever holds of every old element and of
every new one holds of every element afterwards. -/
theorem mem_listPut {α} {l : List α} {n : Nat} {y x : α} (h : x ∈ listPut l n y) : x ∈ l ∨ x = y := by
  rcases List.mem_append.1 h with h | h
  · exact .inl (List.mem_of_mem_take h)
  · exact (List.mem_cons.1 h).elim .inr fun h => .inl (List.mem_of_mem_drop h)

theorem mem_listIns {α} {l xs : List α} {n : Nat} {x : α} (h : x ∈ listIns l n xs) : x ∈ l ∨ x ∈ xs := by
  rcases List.mem_append.1 h with h | h
  · exact (List.mem_append.1 h).imp_left List.mem_of_mem_take
  · exact .inl (List.mem_of_mem_drop h)

theorem mem_listDel {α} {l : List α} {n : Nat} {x : α} (h : x ∈ listDel l n) : x ∈ l :=
  (List.mem_append.1 h).elim List.mem_of_mem_take List.mem_of_mem_drop

/-- How at / put / delete (`n` = the length) and insert (`n` = the length + 1) read their position: the index error for a
null, the error of `asInt` for anything that is not an integer, the index error for an integer outside 0 ≤ p < n. -/
def memPos (a0 : Val) (n : Nat) : Res Nat :=
  if a0.isNull then idxErr else
  a0.asInt >>= fun p => if inRange p n then .ok (idxOf p) else idxErr

theorem memPos_int (p : Int64) (n : Nat) : memPos (.int p) n = if inRange p n then .ok (idxOf p) else idxErr := by
  have e : (Val.int p).asInt = .ok p := rfl
  unfold memPos
  rw [e]; rfl

theorem inRangeIns_eq (p : Int64) (n : Nat) : inRangeIns p n = inRange p (n + 1) :=
  decide_eq_decide.mpr (by omega)

/-- the head that at / put / insert / delete share, as `memPos` (`false ||` is what `recv.isNull ||` is for a table, a
string, a bytes value) -/
theorem memPos_head {α} (a0 : Val) (n : Nat) (f : Int64 → Res α) (k : Nat → Res α)
    (h : ∀ p, f p = if inRange p n then k (idxOf p) else idxErr) :
    (if false || a0.isNull then idxErr else
      match a0.asInt with
      | .ok p => f p
      | .err c x => .err c x
      | .haz h => .haz h
      | .unmodelled => .unmodelled) = memPos a0 n >>= k := by
  unfold memPos
  cases a0.isNull
  · cases a0.asInt <;> try rfl
    rename_i p
    simp only [Bool.or_self, Bool.false_eq_true, ↓reduceIte, h p, Res.ok_bind]
    split <;> rfl
  · rfl

theorem mAt_tab (t d es a0) : mAt (.tab t d es) a0 = memPos a0 es.length >>= fun i =>
    match es[i]? with | some e => .ok (e, .tab t d es) | none => idxErr := by
  refine memPos_head a0 _ _ _ fun p => ?_
  cases inRange p es.length <;> rfl

theorem mPut_tab (t d es a0 a1 c) : mPut (.tab t d es) a0 a1 c = memPos a0 es.length >>= fun i =>
    match es[i]? with
    | none => idxErr
    | some old => classify .put t a1 old.type >>= fun s =>
      match s with
      | .one v => .ok (.tab t d (listPut es i v), .tab t d (listPut es i v))
      | _ => tyMismatch := by
  refine memPos_head a0 _ _ _ fun p => ?_
  cases inRange p es.length <;> try rfl
  simp only [Bool.not_true, Bool.false_eq_true, ↓reduceIte]
  cases es[idxOf p]? <;> try rfl
  simp only
  cases classify .put t a1 _ <;> try rfl
  rename_i s; cases s <;> rfl

theorem mInsert_tab (t d es a0 a1 c) : mInsert (.tab t d es) a0 a1 c = memPos a0 (es.length + 1) >>= fun i =>
    classify .insert t a1 t.levelDown >>= fun s =>
      match s with
      | .one v => .ok (.tab t d (listIns es i [v]), .tab t d (listIns es i [v]))
      | .many vs => .ok (.tab t d (listIns es i vs.reverse), .tab t d (listIns es i vs.reverse))
      | .nothing => .ok (.tab t d es, .tab t d es)
      | .mismatch => tyMismatch := by
  refine memPos_head a0 _ _ _ fun p => ?_
  rw [← inRangeIns_eq]
  cases inRangeIns p es.length <;> try rfl
  simp only [Bool.not_true, Bool.false_eq_true, ↓reduceIte]
  cases classify .insert t a1 _ <;> try rfl
  rename_i s; cases s <;> rfl

theorem mDelete_tab (t d es a0 c) : mDelete (.tab t d es) a0 c = memPos a0 es.length >>= fun i =>
    .ok (.tab t d (listDel es i), .tab t d (listDel es i)) := by
  refine memPos_head a0 _ _ _ fun p => ?_
  cases inRange p es.length <;> rfl

theorem mConcat_tab (t d es a0 c) (hl : t.level > 0) : mConcat (.tab t d es) a0 c =
    classify .concat t a0 t.levelDown >>= fun s =>
      match s with
      | .one v => .ok (.tab t d (es ++ [v]), .tab t d (es ++ [v]))
      | .many vs => .ok (.tab t d (es ++ vs), .tab t d (es ++ vs))
      | .nothing => .ok (.tab t d es, .tab t d es)
      | .mismatch => tyMismatch := by
  have : (Val.tab t d es).type.level > 0 := hl
  unfold mConcat
  simp only [this, ↓reduceIte]
  cases classify .concat t a0 _ <;> try rfl
  rename_i s; cases s <;> rfl

/-- the elements `classify` hands to put / insert / concat: one, those of a table of the receiver's type, none -/
def Slot.elems : Slot → List Val
  | .one v => [v]
  | .many vs => vs
  | _ => []

/-- the receivers with positions: tables, strings, bytes -/
def Val.isSeq : Val → Bool
  | .tab .. | .str _ | .raw _ => true
  | _ => false

theorem mAt_notSeq (x a0 : Val) (hx : x.isSeq = false) :
    mAt x a0 = if x.isNull || a0.isNull then idxErr else .err Gen.EXC_RT_MEMB_ARG_TYPE_S := by
  cases x <;> first | rfl | cases hx
theorem mPut_notSeq (x a0 a1 : Val) (c : Bool) (hx : x.isSeq = false) :
    mPut x a0 a1 c = if x.isNull || a0.isNull then idxErr else .err Gen.EXC_RT_MEMB_NOT_IMPL_S := by
  cases x <;> first | rfl | cases hx
theorem mInsert_notSeq (x a0 a1 : Val) (c : Bool) (hx : x.isSeq = false) :
    mInsert x a0 a1 c = if x.isNull || a0.isNull then idxErr else .err Gen.EXC_RT_MEMB_NOT_IMPL_S := by
  cases x <;> first | rfl | cases hx
theorem mDelete_notSeq (x a0 : Val) (c : Bool) (hx : x.isSeq = false) :
    mDelete x a0 c = if x.isNull || a0.isNull then idxErr else .err Gen.EXC_RT_MEMB_NOT_IMPL_S := by
  cases x <;> first | rfl | cases hx

theorem mConcat_notSeq (x a0 : Val) (c : Bool) (hx : x.isSeq = false) (hn : x.isNull = false) :
    mConcat x a0 c = if a0.isNull then .ok (x, x) else .err Gen.EXC_RT_MEMB_ARG_TYPE_S := by
  cases x with
  | tab | str | raw => cases hx
  | null => cases hn
  | tup d items =>
    have hl : ¬ (Val.tup d items).type.level > 0 := by rw [Val.type, makeTupleTy_level]; exact Nat.lt_irrefl 0
    have hm : (Val.tup d items).type.major = .tup := makeTupleTy_major d 0
    unfold mConcat
    rw [if_neg hl, hm]
  | _ => rfl

/-- what a null table becomes when `a0` is concatenated to it: the argument's table, a new one-element table, or itself
(for a null table, a null tuple, an untyped null) -/
def nullTabConcat (recv a0 : Val) : Val :=
  if a0.type.level > 0 then (if a0.isNull then recv else a0)
  else if a0.type.major == .tup then
    match a0 with
    | .tup decl _ => .tab (makeTupleTy decl 1) decl [a0]
    | _ => recv
  else if a0.type.major == .none then recv
  else .tab a0.type.levelUp [] [a0]

theorem mConcat_nulltab (t : Ty) (a0 : Val) (c : Bool) (hl : t.level > 0) :
    mConcat (.null t) a0 c = .ok (nullTabConcat (.null t) a0, nullTabConcat (.null t) a0) := by
  have h : (Val.null t).type.level > 0 := hl
  unfold mConcat nullTabConcat
  rw [if_pos h]
  simp only
  by_cases h1 : a0.type.level > 0
  · rw [if_pos h1, if_pos h1]; cases a0.isNull <;> rfl
  · rw [if_neg h1, if_neg h1]
    cases a0.type.major == Major.tup
    · cases a0.type.major == Major.none <;> rfl
    · cases a0 <;> rfl

theorem mConcat_null (t : Ty) (a0 : Val) (c : Bool) (hl : ¬ t.level > 0) :
    mConcat (.null t) a0 c = if a0.isNull then .ok (.null t, .null t) else
      match t.major, a0.type.major with
      | .none, .str => .ok (a0, if c then .null t else a0)
      | .none, .int => a0.asInt >>= fun ch =>
          if ch < 0 || ch > 255 then .err Gen.EXC_RT_MEMB_ARG_TYPE_S
          else if ch == 0 then .ok (.raw [0], if c then .null t else .raw [0])
          else .ok (.str [byteOfInt ch], if c then .null t else .str [byteOfInt ch])
      | .str, .str => if c then a0.asStr >>= fun b => .ok (.str b, .null t) else .ok (a0, a0)
      | .str, .int => charArg a0 >>= fun ch => .ok (.str [ch], if c then .null t else .str [ch])
      | .str, .raw | .raw, .raw => .ok (a0, a0)
      | .raw, .str => a0.asStr >>= fun b => .ok (.raw b, .raw b)
      | .raw, .int => charArg a0 >>= fun ch => .ok (.raw [ch], .raw [ch])
      | _, _ => .err Gen.EXC_RT_MEMB_ARG_TYPE_S := by
  have h : ¬ (Val.null t).type.level > 0 := hl
  have ht : (Val.null t).type = t := rfl
  unfold mConcat
  rw [if_neg h]
  cases a0.isNull
  · simp only [ht, Val.isNull, Bool.false_eq_true, ↓reduceIte, concatRawCase]
    cases t.major <;> try rfl
    · cases a0.type.major <;> try rfl
      cases a0.asInt <;> rfl
    · cases a0.type.major <;> try rfl
      · cases charArg a0 <;> rfl
      · cases c <;> try rfl
        cases a0.asStr <;> rfl
    · cases a0.type.major <;> try rfl
      · cases charArg a0 <;> rfl
      · cases a0.asStr <;> rfl
  · rfl

/-- result and receiver-after of a method that makes the bytes `s` of a string (`mk = .str`) or bytes value (`.raw`) into
`s'`; a constant receiver (`keep`) is not written to — only a string literal can be one, so the equations for bytes
receivers have `keep = false` whatever the flag of the call is -/
def seqStore (mk : Bytes → Val) (keep : Bool) (s : Bytes) (s' : Res Bytes) : Res (Val × Val) :=
  s' >>= fun s' => .ok (mk s', if keep then mk s else mk s')

theorem seqStore_bind {α} (mk keep s) (q : Res α) (g : α → Res Bytes) :
    seqStore mk keep s (q >>= g) = q >>= fun a => seqStore mk keep s (g a) := by
  cases q <;> rfl

/-- the bytes an argument of insert / concat stands for (`isRaw`: the receiver is a bytes value; `other`: the error for
an argument that is neither string, bytes nor integer) -/
def seqArgM (isRaw : Bool) (other : Nat) (a : Val) : Res Bytes :=
  match a.type.major with
  | .str => a.asStr
  | .int => charArg a >>= fun c => .ok [c]
  | .raw => if isRaw then a.asRaw else .err Gen.EXC_RT_NOT_TABCHAR
  | _ => .err other

/-- The character-code argument of the byte-level members (`Integer c = *a.integer(); if (c < 0 || c >
255) throw OUT_OF_RANGE`): accepted exactly in 0..255, and then it is that byte. -/
theorem charArg_range (c : Int64) :
    charArg (.int c) = if 0 ≤ c.toInt ∧ c.toInt ≤ 255 then .ok (byteOfInt c) else .err Gen.EXC_RT_OUT_OF_RANGE :=
  (rfl : charArg (.int c) = if c < 0 || c > 255 then _ else _).trans (ite_outside c 0 255 _ _)

def putBytes (s : Bytes) (a0 a1 : Val) : Res Bytes :=
  memPos a0 s.length >>= fun i => if a1.isNull then tyMismatch else charArg a1 >>= fun c => .ok (listPut s i c)

theorem putBytes_int (s : Bytes) (p c : Int64) (hp : inRange p s.length = true) :
    putBytes s (.int p) (.int c) =
      if 0 ≤ c.toInt ∧ c.toInt ≤ 255 then .ok (listPut s (idxOf p) (byteOfInt c)) else .err Gen.EXC_RT_OUT_OF_RANGE := by
  rw [putBytes, memPos_int, hp]
  show (charArg (.int c) >>= fun b => Res.ok (listPut s (idxOf p) b)) = _
  rw [charArg_range]
  split <;> rfl

def insBytes (isRaw : Bool) (s : Bytes) (a0 a1 : Val) : Res Bytes :=
  memPos a0 (s.length + 1) >>= fun i => if a1.isNull then .ok s else
    seqArgM isRaw (if isRaw then Gen.EXC_RT_MEMB_NOT_IMPL_S else Gen.EXC_RT_NOT_TABCHAR) a1 >>= fun b => .ok (listIns s i b)

def delBytes (s : Bytes) (a0 : Val) : Res Bytes := memPos a0 s.length >>= fun i => .ok (listDel s i)

def catBytes (isRaw : Bool) (s : Bytes) (a0 : Val) : Res Bytes :=
  if a0.isNull then .ok s else seqArgM isRaw Gen.EXC_RT_MEMB_ARG_TYPE_S a0 >>= fun b => .ok (s ++ b)

theorem mAt_seq {mk : Bytes → Val} (hmk : mk = Val.str ∨ mk = Val.raw) (s a0) :
    mAt (mk s) a0 = memPos a0 s.length >>= fun i =>
      match s[i]? with | some b => .ok (.int (intOfByte b), mk s) | none => idxErr := by
  rcases hmk with rfl | rfl <;>
  · refine memPos_head a0 _ _ _ fun p => ?_
    cases inRange p s.length <;> rfl

theorem mPut_str (s a0 a1 c) : mPut (.str s) a0 a1 c = seqStore .str c s (putBytes s a0 a1) := by
  unfold putBytes
  rw [seqStore_bind]
  refine memPos_head a0 _ _ _ fun p => ?_
  cases inRange p s.length <;> try rfl
  cases a1.isNull <;> try rfl
  simp only [Bool.not_true, Bool.false_eq_true, ↓reduceIte, seqStore_bind]
  cases charArg a1 <;> rfl

theorem mPut_raw (s a0 a1 c) : mPut (.raw s) a0 a1 c = seqStore .raw false s (putBytes s a0 a1) := by
  unfold putBytes
  rw [seqStore_bind]
  refine memPos_head a0 _ _ _ fun p => ?_
  cases inRange p s.length <;> try rfl
  cases a1.isNull <;> try rfl
  simp only [Bool.not_true, Bool.false_eq_true, ↓reduceIte, seqStore_bind]
  cases charArg a1 <;> rfl

theorem mDelete_str (s a0 c) : mDelete (.str s) a0 c = seqStore .str c s (delBytes s a0) := by
  unfold delBytes
  rw [seqStore_bind]
  refine memPos_head a0 _ _ _ fun p => ?_
  cases inRange p s.length <;> rfl

theorem mDelete_raw (s a0 c) : mDelete (.raw s) a0 c = seqStore .raw false s (delBytes s a0) := by
  unfold delBytes
  rw [seqStore_bind]
  refine memPos_head a0 _ _ _ fun p => ?_
  cases inRange p s.length <;> rfl

theorem mInsert_str (s a0 a1 c) : mInsert (.str s) a0 a1 c = seqStore .str c s (insBytes false s a0 a1) := by
  unfold insBytes
  rw [seqStore_bind]
  refine memPos_head a0 _ _ _ fun p => ?_
  rw [← inRangeIns_eq]
  cases inRangeIns p s.length <;> try rfl
  cases a1.isNull
  · simp only [Bool.not_true, Bool.false_eq_true, ↓reduceIte, seqStore_bind, seqArgM]
    cases a1.type.major <;> try rfl
    · cases charArg a1 <;> rfl
    · cases a1.asStr <;> rfl
  · cases c <;> rfl

theorem mInsert_raw (s a0 a1 c) : mInsert (.raw s) a0 a1 c = seqStore .raw false s (insBytes true s a0 a1) := by
  unfold insBytes
  rw [seqStore_bind]
  refine memPos_head a0 _ _ _ fun p => ?_
  rw [← inRangeIns_eq]
  cases inRangeIns p s.length <;> try rfl
  cases a1.isNull <;> try rfl
  simp only [Bool.not_true, Bool.false_eq_true, ↓reduceIte, seqStore_bind, seqArgM]
  cases a1.type.major <;> try rfl
  · cases charArg a1 <;> rfl
  · cases a1.asStr <;> rfl
  · cases a1.asRaw <;> rfl

theorem mConcat_str (s a0 c) : mConcat (.str s) a0 c = seqStore .str c s (catBytes false s a0) := by
  have ht : (Val.str s).type = Ty.str := rfl
  unfold catBytes mConcat
  cases a0.isNull
  · simp only [ht, Ty.str, Nat.lt_irrefl, gt_iff_lt, Bool.false_eq_true, ↓reduceIte, seqStore_bind, seqArgM, Val.isNull,
      concatRawCase]
    cases a0.type.major <;> try rfl
    · cases charArg a0 <;> rfl
    · cases a0.asStr <;> rfl
  · cases c <;> rfl

theorem mConcat_raw (s a0 c) : mConcat (.raw s) a0 c = seqStore .raw false s (catBytes true s a0) := by
  have ht : (Val.raw s).type = Ty.raw := rfl
  unfold catBytes mConcat
  cases a0.isNull <;> try rfl
  simp only [ht, Ty.raw, Nat.lt_irrefl, gt_iff_lt, Bool.false_eq_true, ↓reduceIte, seqStore_bind, seqArgM, Val.isNull,
    concatRawCase]
  cases a0.type.major <;> try rfl
  · cases charArg a0 <;> rfl
  · cases a0.asStr <;> rfl
  · cases a0.asRaw <;> rfl

/-- a call on a constant returns what the call on a copy returns, and the constant -/
theorem seqStore_const (mk s q) :
    seqStore mk true s q = (match seqStore mk false s q with
      | .ok (r, _) => .ok (r, mk s)
      | .err c a => .err c a
      | .haz h => .haz h
      | .unmodelled => .unmodelled) := by
  cases q <;> rfl

/-! ### no hazard in the stages of a call on a string or a bytes value, for arguments that are no tables of level 0 -/

theorem memPos_no_hazard {a0 : Val} (hw : a0.tabOk = true) (n : Nat) : (memPos a0 n).isHazard = false := by
  unfold memPos
  split
  · rfl
  · rename_i hn
    exact isHazard_bind _ _ (asInt_no_hazard hw (eq_false_of_ne_true hn)) fun p _ => by split <;> rfl

theorem charArg_nh {a : Val} (hw : a.tabOk = true) (hn : a.isNull = false) : (charArg a).isHazard = false := by
  unfold charArg
  have := asInt_no_hazard hw hn
  split
  · split <;> rfl
  · rfl
  · rename_i e; rw [e] at this; cases this
  · rfl

theorem seqArgM_nh (isRaw : Bool) (other : Nat) {a : Val} (hw : a.tabOk = true) (hn : a.isNull = false) :
    (seqArgM isRaw other a).isHazard = false := by
  unfold seqArgM
  split
  · exact asStr_no_hazard hw hn
  · exact isHazard_bind _ _ (charArg_nh hw hn) fun _ _ => rfl
  · split
    · exact asRaw_no_hazard hw hn
    · rfl
  · rfl

theorem putBytes_nh (s : Bytes) {a0 a1 : Val} (hw : ∀ a ∈ [a0, a1], a.tabOk = true) : (putBytes s a0 a1).isHazard = false :=
  isHazard_bind _ _ (memPos_no_hazard (hw a0 (by simp)) _) fun i _ => by
    split
    · rfl
    · exact isHazard_bind _ _ (charArg_nh (hw a1 (by simp)) (eq_false_of_ne_true ‹_›)) fun _ _ => rfl

theorem insBytes_nh (isRaw : Bool) (s : Bytes) {a0 a1 : Val} (hw : ∀ a ∈ [a0, a1], a.tabOk = true) :
    (insBytes isRaw s a0 a1).isHazard = false :=
  isHazard_bind _ _ (memPos_no_hazard (hw a0 (by simp)) _) fun i _ => by
    split
    · rfl
    · exact isHazard_bind _ _ (seqArgM_nh _ _ (hw a1 (by simp)) (eq_false_of_ne_true ‹_›)) fun _ _ => rfl

theorem delBytes_nh (s : Bytes) {a0 : Val} (hw : ∀ a ∈ [a0], a.tabOk = true) : (delBytes s a0).isHazard = false :=
  isHazard_bind _ _ (memPos_no_hazard (hw a0 (by simp)) _) fun _ _ => rfl

theorem catBytes_nh (isRaw : Bool) (s : Bytes) {a0 : Val} (hw : ∀ a ∈ [a0], a.tabOk = true) : (catBytes isRaw s a0).isHazard = false := by
  unfold catBytes
  split
  · rfl
  · exact isHazard_bind _ _ (seqArgM_nh _ _ (hw a0 (by simp)) (eq_false_of_ne_true ‹_›)) fun _ _ => rfl

theorem null_of_isNull (a : Val) (h : a.isNull = true) : ∃ ty, a = .null ty := by
  cases a <;> first | exact ⟨_, rfl⟩ | cases h

/-- the call reaches no hazard, and `G` holds of the result and of the receiver afterwards, if it answers -/
def Ret (G : Val → Prop) (r : Res (Val × Val)) : Prop := r.isHazard = false ∧ ∀ a b, r = .ok (a, b) → G a ∧ G b

theorem Ret.ok {G : Val → Prop} {a b : Val} (ha : G a) (hb : G b) : Ret G (.ok (a, b)) :=
  ⟨rfl, fun _ _ h => by cases h; exact ⟨ha, hb⟩⟩
theorem Ret.err {G : Val → Prop} {c : Nat} {x : Bytes} : Ret G (.err c x) := ⟨rfl, fun _ _ h => nomatch h⟩
theorem Ret.bind {α} {G : Val → Prop} {q : Res α} {f : α → Res (Val × Val)} (hq : q.isHazard = false) (h : ∀ y, Ret G (f y)) :
    Ret G (q >>= f) := by
  cases q with
  | ok y => exact h y
  | haz => cases hq
  | _ => exact ⟨rfl, fun _ _ h => nomatch h⟩
theorem Ret.ite {G : Val → Prop} {p : Prop} [Decidable p] {r s : Res (Val × Val)} (hr : Ret G r) (hs : Ret G s) :
    Ret G (if p then r else s) := by split <;> assumption

/-- a value that holds no other value -/
def Val.flat : Val → Bool
  | .tab .. | .tup .. => false
  | _ => true

/-- `concat` on a null receiver that is no table returns new strings / bytes, the argument or the receiver -/
theorem mConcat_null_ret {G : Val → Prop} (hf : ∀ {v}, v.flat = true → G v) (t : Ty) (a0 : Val) (c : Bool) (hl : ¬ t.level > 0)
    (hw : a0.tabOk = true) (ha : G a0) : Ret G (mConcat (.null t) a0 c) := by
  have hx : G (.null t) := hf rfl
  have hs : ∀ b, G (.str b) := fun _ => hf rfl
  have hr : ∀ b, G (.raw b) := fun _ => hf rfl
  have keep : ∀ {v}, G v → G (if c then .null t else v) := fun hv => by split <;> assumption
  rw [mConcat_null t a0 c hl]
  cases hn : a0.isNull
  case true => exact .ok hx hx
  rw [if_neg Bool.false_ne_true]
  have code := charArg_nh hw hn
  have bytes := asStr_no_hazard hw hn
  split
  · exact .ok ha (keep ha)
  · exact .bind (asInt_no_hazard hw hn) fun _ => .ite .err (.ite (.ok (hr _) (keep (hr _))) (.ok (hs _) (keep (hs _))))
  · exact .ite (.bind bytes fun _ => .ok (hs _) hx) (.ok ha ha)
  · exact .bind code fun _ => .ok (hs _) (keep (hs _))
  · exact .ok ha ha
  · exact .ok ha ha
  · exact .bind bytes fun _ => .ok (hr _) (hr _)
  · exact .bind code fun _ => .ok (hr _) (hr _)
  · exact .err

/-- A member call on a receiver that is no table, with arguments that are no tables of level 0, reaches no hazard and returns flat
values (integers, new strings and bytes, nulls), the receiver, the argument, or what a null table becomes when the argument is
concatenated to it: whatever holds of these holds of what it returns, once it holds of what a call on a table returns (`htab`;
`C09.tab_edit` and `C09.tab_no_hazard` say what that is). -/
theorem nontab_ret {G : Val → Prop} (hf : ∀ {v}, v.flat = true → G v) {x : Val} (hx : G x) {args : List Val}
    (hw : ∀ a ∈ args, a.tabOk = true) (ha : ∀ a ∈ args, G a) (hcat : ∀ {a}, G a → G (nullTabConcat x a)) (m : Member) (c : Bool)
    (htab : ∀ t d es, x = .tab t d es → Ret G (memberCall m x args c)) : Ret G (memberCall m x args c) := by
  have store : ∀ {mk : Bytes → Val} {keep s q}, (∀ b, G (mk b)) → q.isHazard = false → Ret G (seqStore mk keep s q) := fun h hq =>
    .bind hq fun _ => .ok (h _) (by split <;> exact h _)
  have noSeq : ∀ {b : Bool} {e : Nat}, Ret G (if b then idxErr else .err e) := .ite .err .err
  have str : ∀ b, G (.str b) := fun _ => hf rfl
  have raw : ∀ b, G (.raw b) := fun _ => hf rfl
  cases hseq : x.isSeq
  · unfold memberCall; split
    · rw [mAt_notSeq _ _ hseq]; exact noSeq
    · rw [mPut_notSeq _ _ _ _ hseq]; exact noSeq
    · rw [mInsert_notSeq _ _ _ _ hseq]; exact noSeq
    · rw [mDelete_notSeq _ _ _ hseq]; exact noSeq
    · rename_i a0
      cases hn : x.isNull
      · rw [mConcat_notSeq _ _ _ hseq hn]; exact .ite (.ok hx hx) .err
      obtain ⟨t, rfl⟩ := null_of_isNull x hn
      by_cases hl : t.level > 0
      · rw [mConcat_nulltab t a0 c hl]; exact .ok (hcat (ha a0 (by simp))) (hcat (ha a0 (by simp)))
      · exact mConcat_null_ret hf t a0 c hl (hw a0 (by simp)) (ha a0 (by simp))
    · cases x <;> first | exact .ok (hf rfl) hx | exact .err
    · exact ⟨rfl, fun _ _ h => nomatch h⟩
  cases x with
  | tab t d es => exact htab t d es rfl
  | str s =>
    unfold memberCall; split
    · rw [mAt_seq (.inl rfl)]
      exact .bind (memPos_no_hazard (hw _ (by simp)) _) fun i => by split <;> first | exact .ok (hf rfl) hx | exact .err
    · rw [mPut_str]; exact store str (putBytes_nh _ hw)
    · rw [mInsert_str]; exact store str (insBytes_nh _ _ hw)
    · rw [mDelete_str]; exact store str (delBytes_nh _ hw)
    · rw [mConcat_str]; exact store str (catBytes_nh _ _ hw)
    · exact .ok (hf rfl) hx
    · exact ⟨rfl, fun _ _ h => nomatch h⟩
  | raw s =>
    unfold memberCall; split
    · rw [mAt_seq (.inr rfl)]
      exact .bind (memPos_no_hazard (hw _ (by simp)) _) fun i => by split <;> first | exact .ok (hf rfl) hx | exact .err
    · rw [mPut_raw]; exact store raw (putBytes_nh _ hw)
    · rw [mInsert_raw]; exact store raw (insBytes_nh _ _ hw)
    · rw [mDelete_raw]; exact store raw (delBytes_nh _ hw)
    · rw [mConcat_raw]; exact store raw (catBytes_nh _ _ hw)
    · exact .ok (hf rfl) hx
    · exact ⟨rfl, fun _ _ h => nomatch h⟩
  | _ => cases hseq

/-- A header is made for an element that is neither opaque nor a tuple without declaration and has at most 253 dimensions
(the `uint8_t` level cannot wrap); it is one dimension above the element. -/
theorem tabHeader_ok {a1 : Val} {t : Ty} {d : List Ty} (h : tabHeader a1 = .ok (t, d)) :
    ¬(a1.type.major == .none || a1.type == { major := .tup }) = true ∧ a1.type.level ≤ 253 ∧ t.level = a1.type.level + 1 := by
  -- below the second refusal the `uint8_t` level does not wrap
  have key : ∀ {L : Nat}, ¬ L ≥ Gen.TYPE_LEVEL_MAX - 1 → L ≤ 253 ∧ (L + 1) % 256 = L + 1 := fun h => by
    simp only [Gen.TYPE_LEVEL_MAX] at h; omega
  revert h
  fun_cases tabHeader a1
  all_goals rintro ⟨⟩
  -- past the two refusals: a tuple, a table of tuples, another table, any other value
  next hop hl => exact ⟨hop, (key hl).1, by simp only [makeTupleTy_level, Val.type]⟩
  next _ hop hl => exact ⟨hop, (key hl).1, by rw [makeTupleTy_level]; exact (key hl).2⟩
  next _ hop hl => exact ⟨hop, (key hl).1, (key hl).2⟩
  next hop hl _ _ => exact ⟨hop, (key hl).1, (key hl).2⟩

theorem forallTrace_asc (n : Nat) : ∀ (k i f : Nat), i + k + 1 = n →
    forallTrace false n (f + k + 2) (some i) = List.range' i (k + 1) := by
  intro k
  induction k with
  | zero =>
    intro i f h
    have : ¬ i + 1 < n := by omega
    simp [forallTrace, forallNext, this, List.range']
  | succ k ih =>
    intro i f h
    have hlt : i + 1 < n := by omega
    have := ih (i + 1) f (by omega)
    simp [forallTrace, forallNext, hlt, List.range'] at this ⊢
    exact this

theorem forallTrace_desc (n : Nat) : ∀ (i f : Nat), i < n →
    forallTrace true n (f + i + 2) (some i) = (List.range (i + 1)).reverse := by
  intro i
  induction i with
  | zero => intro f _; simp [forallTrace, forallNext]
  | succ i ih =>
    intro f hi
    have h1 : i < n := by omega
    have := ih f h1
    rw [List.range_succ, List.reverse_append]
    simp only [forallTrace, forallNext, ↓reduceIte, Nat.add_sub_cancel, h1]
    simp
    exact this

/-- the header of `forall` (`first`, then `index += step` until the index leaves `0..n-1`), run over a table of `n` elements with
fuel to spare, visits `forallOrder` -/
theorem forallTrace_order_of_lt (desc : Bool) {n k : Nat} (hk : n < k) :
    forallTrace desc n k (forallFirst desc n) = forallOrder desc n := by
  cases n with
  | zero => cases desc <;> cases k <;> rfl
  | succ m =>
    obtain ⟨f, rfl⟩ : ∃ f, k = f + m + 2 := ⟨k - m - 2, by omega⟩
    cases desc with
    | false =>
      have := forallTrace_asc (m + 1) m 0 f (by omega)
      simp [forallFirst, forallOrder, this, List.range_eq_range']
    | true =>
      have := forallTrace_desc (m + 1) m f (by omega)
      simp [forallFirst, forallOrder, this]

/-- inside the body the iterator carries the lock flag the target's symbol had before (`vt.locked(locked_ex_bak)`) -/
theorem forallEnter_iter (iter sid : Nat) (fl : Nat → Bool) : forallEnter iter (some sid) fl iter = fl sid := by
  simp [forallEnter]

/-- a successful write through the iterator of a `forall`: one element of a table replaced by a value of its type -/
theorem forallStep_ok {tbl tbl' v : Val} {i : Nat} (h : forallStep tbl i v = .ok tbl') :
    ∃ t d es old, tbl = .tab t d es ∧ es[i]? = some old ∧ v.type = old.type ∧ tbl' = .tab t d (listPut es i v) := by
  unfold forallStep at h
  split at h
  · rename_i t d es
    split at h
    · rename_i old hold
      split at h
      · cases h
      · rename_i hty
        exact ⟨t, d, es, old, rfl, hold, by simpa using hty, (Res.ok.inj h).symm⟩
    · cases h
  · cases h

namespace Lemmas

theorem getElem?_listPut {α} (l : List α) (n j : Nat) (x : α) (h : n < l.length) :
    (listPut l n x)[j]? = if j = n then some x else l[j]? := by
  rw [listPut_eq_set l n x h, List.getElem?_set]
  by_cases hj : n = j
  · subst hj; simp [h]
  · have : ¬ j = n := fun e => hj e.symm
    simp [hj, this]

theorem mAt_keeps (recv a0 r rv' : Val) (h : mAt recv a0 = .ok (r, rv')) : rv' = recv := by
  revert h
  fun_cases mAt recv a0
  all_goals rintro ⟨⟩
  all_goals rfl

theorem mCount_keeps (recv r rv' : Val) (h : mCount recv = .ok (r, rv')) : rv' = recv := by
  unfold mCount at h
  split at h <;> simp at h <;> exact h.2.symm

end Lemmas
end BlocV
