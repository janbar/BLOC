/-
  C12, block statements: one-step unfoldings of `ParseStatement::parse` at if / while / for / forall /
  begin / function, of `parse_clause` (`pBlock`), `IFStatement::parse` (`pIf`), `BEGINStatement::parse` (`pBegin`,
  `pCatches`), function parameters (`pParams`); the mutual round-trip induction over statements, clauses (`BStm`: what
  is shown of a clause), rule lists, catch lists (`stmt_rt`, `block_rt`, `rules_rt`, `catches_rt`) and programs (`program_rt`).
-/
import BlocV.Proofs.Lemmas.ParseStmt
import BlocV.Proofs.Lemmas.ParseSize

namespace BlocV.C12L
open BlocV.Parse BlocV.Unparse BlocV.Roundtrip

-- the parser runs in `Except`: `simp` unfolds its `bind` and `pure` wherever a lemma below opens a parser function
attribute [local simp] bind Except.bind pure Except.pure

theorem pBlock_end {f : Nat} {enders : List Bytes} {e : Tok} {rest : List Tok} (hc : e.code = cKW)
    (he : enders.contains e.text = true) : pBlock (f + 1) enders false (e :: rest) = .ok ([], e :: rest) := by
  have he' : e.text ∈ enders := by simpa using he
  rw [pBlock.eq_def]; simp (config := { decide := true }) [hc, he', cSEMI]

theorem pBlock_cons {f : Nat} {enders : List Bytes} {ne : Bool} {l rest ts2 ts3 : List Tok} {s : PStmt} {ss : List PStmt}
    (hl : ∃ t ts, l = t :: ts ∧ t.code = cKW ∧ enderKws.contains t.text = false)
    (hsub : ∀ x, enders.contains x = true → enderKws.contains x = true) (hs : pStmt f true (l ++ rest) = .ok (some s, ts2))
    (hb : pBlock f enders false ts2 = .ok (ss, ts3)) : pBlock (f + 1) enders ne (l ++ rest) = .ok (s :: ss, ts3) := by
  obtain ⟨t, ts, rfl, hc, hk⟩ := hl
  have he' : ¬ t.text ∈ enders := fun hx => by rw [hsub _ (List.contains_iff_mem.2 hx)] at hk; cases hk
  rw [List.cons_append] at hs ⊢
  rw [pBlock.eq_def]; simp (config := { decide := true }) [hc, he', hs, hb, cSEMI]

theorem pStmt_while {f : Nat} {nested : Bool} {ts ts3 rest : List Tok} {c : PExpr} {body : List PStmt}
    (he : pExpr f ts = .ok (c, kw "loop" :: ts3))
    (hb : pBlock f [bytesOf "end"] true ts3 = .ok (body, kw "end" :: kw "loop" :: ch 59 :: rest)) :
    pStmt (f + 1) nested (kw "while" :: ts) = .ok (some (.whileS c body), rest) := by
  rw [pStmt.eq_def]
  refine (kwSel "while" (stmtWords_table 11 (by decide)) rfl).trans ?_
  simp (config := { decide := true }) [he, hb, pEndLoop, kw, ch]

theorem popDir_dirToks (dir : PDir) (ts : List Tok) : popDir (dirToks dir ++ kw "loop" :: ts) = (dir, kw "loop" :: ts) := by
  cases dir <;> simp (config := { decide := true }) [dirToks, popDir, kw]

/-- what the loop headers look at before `popDir`: the next token is a word, and not `step` -/
theorem dirToks_head (dir : PDir) (ts : List Tok) :
    ∃ t ts', dirToks dir ++ kw "loop" :: ts = t :: ts' ∧ t.code = cKW ∧ isKw t "step" = false := by
  cases dir <;> exact ⟨_, _, rfl, rfl, by decide⟩

theorem expr_rt_dir (e : PExpr) (hwf : wf e = true) (dir : PDir) (ts : List Tok) (f : Nat) (hf : 16 * esize e + 13 ≤ f) :
    pExpr f (toksExpr e ++ (dirToks dir ++ kw "loop" :: ts)) = .ok (norm e, dirToks dir ++ kw "loop" :: ts) := by
  cases dir <;> exact expr_rt_kw e hwf _ (by decide) _ f hf

theorem pStmt_for_nostep {f : Nat} {nested : Bool} {v : Bytes} {ts3 ts5 ts10 rest : List Tok} {b e : PExpr} {dir : PDir}
    {body : List PStmt} (hv : nameOk v = true) (hb : pExpr f ts3 = .ok (b, kw "to" :: ts5))
    (he : pExpr f ts5 = .ok (e, dirToks dir ++ kw "loop" :: ts10))
    (hbody : pBlock f [bytesOf "end"] true ts10 = .ok (body, kw "end" :: kw "loop" :: ch 59 :: rest)) :
    pStmt (f + 1) nested (kw "for" :: ⟨cKW, v⟩ :: kw "in" :: ts3) = .ok (some (.forS v b e none dir body), rest) := by
  rw [pStmt.eq_def]
  refine (kwSel "for" (stmtWords_table 12 (by decide)) rfl).trans ?_
  have hp := popDir_dirToks dir ts10
  obtain ⟨t, ts', hd, hc, hs⟩ := dirToks_head dir ts10
  rw [hd] at he hp
  simp (config := { decide := true }) [popName_ok hv, expectKw, hb, he, hc, hs,
    hp, hbody, pEndLoop, kw, ch]

theorem pStmt_for_step {f : Nat} {nested : Bool} {v : Bytes} {ts3 ts5 ts7 ts10 rest : List Tok} {b e st : PExpr} {dir : PDir}
    {body : List PStmt} (hv : nameOk v = true) (hb : pExpr f ts3 = .ok (b, kw "to" :: ts5))
    (he : pExpr f ts5 = .ok (e, kw "step" :: ts7)) (hst : pExpr f ts7 = .ok (st, dirToks dir ++ kw "loop" :: ts10))
    (hbody : pBlock f [bytesOf "end"] true ts10 = .ok (body, kw "end" :: kw "loop" :: ch 59 :: rest)) :
    pStmt (f + 1) nested (kw "for" :: ⟨cKW, v⟩ :: kw "in" :: ts3) = .ok (some (.forS v b e (some st) dir body), rest) := by
  rw [pStmt.eq_def]
  refine (kwSel "for" (stmtWords_table 12 (by decide)) rfl).trans ?_
  have hp := popDir_dirToks dir ts10
  obtain ⟨t, ts', hd, hc, _⟩ := dirToks_head dir ts10
  rw [hd] at hst hp
  simp (config := { decide := true }) [popName_ok hv, expectKw, hb, he, hst, hc,
    hp, hbody, pEndLoop, kw, ch]

theorem pStmt_forall {f : Nat} {nested : Bool} {v : Bytes} {ts3 ts10 rest : List Tok} {e : PExpr} {dir : PDir}
    {body : List PStmt} (hv : nameOk v = true) (he : pExpr f ts3 = .ok (e, dirToks dir ++ kw "loop" :: ts10))
    (hbody : pBlock f [bytesOf "end"] true ts10 = .ok (body, kw "end" :: kw "loop" :: ch 59 :: rest)) :
    pStmt (f + 1) nested (kw "forall" :: ⟨cKW, v⟩ :: kw "in" :: ts3) = .ok (some (.forall v e dir body), rest) := by
  rw [pStmt.eq_def]
  refine (kwSel "forall" (stmtWords_table 13 (by decide)) rfl).trans ?_
  have hp := popDir_dirToks dir ts10
  obtain ⟨t, ts', hd, hc, _⟩ := dirToks_head dir ts10
  rw [hd] at he hp
  simp (config := { decide := true }) [popName_ok hv, expectKw, he, hc, hp, hbody,
    pEndLoop, kw, ch]

theorem pStmt_if {f : Nat} {nested : Bool} {ts r : List Tok} {s : PStmt} (h : pIf f ts = .ok (s, r)) :
    pStmt (f + 1) nested (kw "if" :: ts) = .ok (some s, r) := by
  rw [pStmt.eq_def]
  refine (kwSel "if" (stmtWords_table 10 (by decide)) rfl).trans ?_
  simp (config := { decide := true }) [h]

def ifEnders : List Bytes := [bytesOf "end", bytesOf "elsif", bytesOf "else"]

theorem pIf_noelse {f : Nat} {ts ts2 rest : List Tok} {c : PExpr} {body : List PStmt}
    (he : pExpr f ts = .ok (c, kw "then" :: ts2))
    (hb : pBlock f ifEnders true ts2 = .ok (body, kw "end" :: kw "if" :: ch 59 :: rest)) :
    pIf (f + 1) ts = .ok (.ifS [(c, body)] none, rest) := by
  unfold ifEnders at hb
  rw [pIf.eq_def]
  simp (config := { decide := true }) [he, hb, pEndIf, kw, ch]

theorem pIf_else {f : Nat} {ts ts2 ts4 rest : List Tok} {c : PExpr} {body eb : List PStmt}
    (he : pExpr f ts = .ok (c, kw "then" :: ts2))
    (hb : pBlock f ifEnders true ts2 = .ok (body, kw "else" :: ts4))
    (hb2 : pBlock f ifEnders true ts4 = .ok (eb, kw "end" :: kw "if" :: ch 59 :: rest)) :
    pIf (f + 1) ts = .ok (.ifS [(c, body)] (some eb), rest) := by
  unfold ifEnders at hb hb2
  rw [pIf.eq_def]
  simp (config := { decide := true }) [he, hb, hb2, pEndIf, kw, ch]

theorem pIf_elsif {f : Nat} {ts ts2 ts4 r : List Tok} {c : PExpr} {body : List PStmt} {rules : List (PExpr × List PStmt)}
    {els : Option (List PStmt)} (he : pExpr f ts = .ok (c, kw "then" :: ts2))
    (hb : pBlock f ifEnders true ts2 = .ok (body, kw "elsif" :: ts4)) (hr : pIf f ts4 = .ok (.ifS rules els, r)) :
    pIf (f + 1) ts = .ok (.ifS ((c, body) :: rules) els, r) := by
  unfold ifEnders at hb
  rw [pIf.eq_def]
  simp (config := { decide := true }) [he, hb, hr]

def beginEnders : List Bytes := [bytesOf "end", bytesOf "exception"]
def whenEnders : List Bytes := [bytesOf "end", bytesOf "when"]

theorem pBegin_noexc {f : Nat} {ts rest : List Tok} {body : List PStmt}
    (hb : pBlock f beginEnders false ts = .ok (body, kw "end" :: ch 59 :: rest)) :
    pBegin (f + 1) ts = .ok ((body, []), rest) := by
  unfold beginEnders at hb
  rw [pBegin.eq_def]
  simp (config := { decide := true }) [hb, pEndBlock, ch]

theorem pBegin_exc {f : Nat} {ts ts2 rest : List Tok} {body : List PStmt} {catches : List (Bytes × List PStmt)}
    (hb : pBlock f beginEnders false ts = .ok (body, kw "exception" :: ts2))
    (hc : pCatches f ts2 = .ok (catches, ch 59 :: rest)) :
    pBegin (f + 1) ts = .ok ((body, catches), rest) := by
  unfold beginEnders at hb
  rw [pBegin.eq_def]
  simp (config := { decide := true }) [hb, hc, pEndBlock, ch]

theorem expectKw_kw (w : String) (code : Nat) (ts : List Tok) : expectKw w code (kw w :: ts) = .ok ts := by
  simp [expectKw, isKw, kw]

theorem pCatches_last {f : Nat} {n : Bytes} {ts3 ts5 : List Tok} {body : List PStmt} (hn : nameOk n = true)
    (hb : pBlock f whenEnders true ts3 = .ok (body, kw "end" :: ts5)) :
    pCatches (f + 1) (kw "when" :: ⟨cKW, n⟩ :: kw "then" :: ts3) = .ok ([(n, body)], ts5) := by
  unfold whenEnders at hb
  rw [pCatches.eq_def]
  simp only [popName_ok hn]
  simp (config := { decide := true }) [expectKw_kw, hb]

theorem pCatches_more {f : Nat} {n : Bytes} {ts3 ts5 r : List Tok} {body : List PStmt} {cs : List (Bytes × List PStmt)}
    (hn : nameOk n = true) (hb : pBlock f whenEnders true ts3 = .ok (body, kw "when" :: ts5))
    (hr : pCatches f (kw "when" :: ts5) = .ok (cs, r)) :
    pCatches (f + 1) (kw "when" :: ⟨cKW, n⟩ :: kw "then" :: ts3) = .ok ((n, body) :: cs, r) := by
  unfold whenEnders at hb
  rw [pCatches.eq_def]
  simp only [popName_ok hn]
  simp (config := { decide := true }) [expectKw_kw, hb, hr]

theorem pStmt_begin {f : Nat} {nested : Bool} {ts r : List Tok} {body : List PStmt} {catches : List (Bytes × List PStmt)}
    (h : pBegin f ts = .ok ((body, catches), r)) :
    pStmt (f + 1) nested (kw "begin" :: ts) = .ok (some (.begin body catches), r) := by
  rw [pStmt.eq_def]
  refine (kwSel "begin" (stmtWords_table 14 (by decide)) rfl).trans ?_
  simp (config := { decide := true }) [h]

theorem pParams_one {f : Nat} {n ty : Bytes} (hok : paramOk (n, ty) = true) {t2 : Tok} (hc : t2.code ≠ cCOLON) (ts2 : List Tok) :
    pParams (f + 1) (paramToks (n, ty) ++ t2 :: ts2) =
      if t2.code == cCOMMA then do
        let (ps, ts3) ← pParams f ts2
        pure ((n, ty) :: ps, ts3)
      else if t2.code == cRP then pure ([(n, ty)], ts2)
      else .error Gen.EXC_PARSE_MM_PARENTHESIS := by
  simp only [paramOk, Bool.and_eq_true, Bool.or_eq_true, bne, Bool.not_eq_true'] at hok
  obtain ⟨hu, hty⟩ := hok
  have hu : upper n = n := eq_of_beq hu
  rw [pParams.eq_def]
  by_cases he : ty = []
  · subst he
    simp (config := { decide := true }) [paramToks, hu, hc]
  · have hemp : ty.isEmpty = false := List.isEmpty_eq_false_iff.2 he
    obtain ⟨hk, hne⟩ := hty.resolve_left (by rw [hemp]; exact Bool.false_ne_true)
    simp (config := { decide := true }) [paramToks, hemp, hu, popType_ok hk, hne]

theorem pParams_rt : ∀ (params : List (Bytes × Bytes)), params ≠ [] → params.all paramOk = true → ∀ (rest : List Tok) (f : Nat),
    params.length + 1 ≤ f →
    pParams f (joinToks (ch 44) (params.map paramToks) ++ ch 41 :: rest) = .ok (params, rest)
  | [], h, _, _ => absurd rfl h
  | p :: ps, _, hok, rest => fuel_succ fun f' hf => by
    rw [List.all_cons, Bool.and_eq_true] at hok
    cases ps with
    | nil =>
      simp only [List.map, joinToks]
      rw [pParams_one hok.1 (by decide)]
      simp (config := { decide := true })
    | cons q ps =>
      have ih := pParams_rt (q :: ps) (by simp) hok.2 rest f' (by simp only [List.length_cons] at hf ⊢; omega)
      have e1 : joinToks (ch 44) ((p :: q :: ps).map paramToks) ++ ch 41 :: rest =
          paramToks p ++ ch 44 :: (joinToks (ch 44) ((q :: ps).map paramToks) ++ ch 41 :: rest) := by
        simp [List.map, joinToks]
      rw [e1, pParams_one hok.1 (by decide), ih]
      simp (config := { decide := true })

/-- `function NAME [( parameters )] return TYPE is begin …`: the header, then `BEGINStatement::parse` -/
theorem pStmt_function {f : Nat} {n rt : Bytes} {params : List (Bytes × Bytes)} {ts8 r : List Tok} {body : List PStmt}
    {catches : List (Bytes × List PStmt)} (hn : nameOk n = true) (hps : params.all paramOk = true) (hrt : typeKws.contains rt = true)
    (hf : params.length + 1 ≤ f) (hbeg : pBegin f ts8 = .ok ((body, catches), r)) :
    pStmt (f + 1) false (kw "function" :: ⟨cKW, n⟩ ::
      ((if params.isEmpty then [] else ch 40 :: (joinToks (ch 44) (params.map paramToks) ++ [ch 41])) ++
        kw "return" :: ⟨cKW, rt⟩ :: kw "is" :: kw "begin" :: ts8)) = .ok (some (.func n params rt body catches), r) := by
  rw [pStmt.eq_def]
  refine (kwSel "function" (stmtWords_table 15 (by decide)) rfl).trans ?_
  simp only [popName_ok hn]
  cases params with
  | nil =>
    have e0 : ((kw "return").code == cLP) = false := by decide
    simp [e0, expectKw_kw, popType_ok hrt, hbeg]
  | cons p ps =>
    have hp := pParams_rt (p :: ps) (by simp) hps (kw "return" :: ⟨cKW, rt⟩ :: kw "is" :: kw "begin" :: ts8) f hf
    obtain ⟨ts', hts'⟩ : ∃ ts', joinToks (ch 44) ((p :: ps).map paramToks) = ⟨cKW, p.1⟩ :: ts' := by
      simp only [List.map, paramToks]; split <;> exact joinToks_cons ..
    rw [hts'] at hp
    simp only [List.isEmpty_cons, Bool.false_eq_true, ↓reduceIte, hts', List.cons_append, List.append_assoc, List.nil_append] at hp ⊢
    have e0 : ((ch 40).code == cLP) = true := by decide
    have e00 : ((⟨cKW, p.1⟩ : Tok).code == cRP) = false := by simp [cKW, cRP, Gen.TOKEN_KEYWORD]
    simp [e0, e00, hp, expectKw_kw, popType_ok hrt, hbeg]

theorem nameOk_not_ender {n : Bytes} (h : nameOk n = true) : enderKws.contains n = false := by
  have T : ∀ x ∈ enderKws, nameOk x = false := by decide +kernel
  cases hc : enderKws.contains n with
  | false => rfl
  | true => rw [T n (List.contains_iff_mem.1 hc)] at h; cases h

theorem sub_of_all {enders : List Bytes} (h : enders.all (fun x => enderKws.contains x) = true) :
    ∀ x, enders.contains x = true → enderKws.contains x = true := by
  intro x hx
  have hx' : x ∈ enders := by simpa using hx
  exact List.all_eq_true.mp h x hx'

theorem end_sub : ∀ x, [bytesOf "end"].contains x = true → enderKws.contains x = true := sub_of_all (by decide)
theorem ifEnders_sub : ∀ x, ifEnders.contains x = true → enderKws.contains x = true := sub_of_all (by decide)
theorem beginEnders_sub : ∀ x, beginEnders.contains x = true → enderKws.contains x = true := sub_of_all (by decide)
theorem whenEnders_sub : ∀ x, whenEnders.contains x = true → enderKws.contains x = true := sub_of_all (by decide)

theorem ne_of_notEmpty {α} {l : List α} (h : (!l.isEmpty) = true) : l ≠ [] := by
  intro h0; subst h0; simp at h

theorem stmtWords_not_ender : ∀ i, i < 16 → enderKws.contains (bytesOf (stmtWords.getD i "")) = false := by
  decide +kernel

theorem kw_head (i : Nat) (hi : i < 16) (ts : List Tok) :
    ∃ t ts', kw (stmtWords.getD i "") :: ts = t :: ts' ∧ t.code = cKW ∧ enderKws.contains t.text = false :=
  ⟨_, _, rfl, rfl, stmtWords_not_ender i hi⟩

theorem stmt_head : ∀ (nested : Bool) (s : PStmt), wfS nested s = true →
    ∃ t ts, toksStmt s = t :: ts ∧ t.code = cKW ∧ enderKws.contains t.text = false
  | _, .nop, _ => kw_head 0 (by decide) _
  | _, .brk, _ => kw_head 1 (by decide) _
  | _, .cont, _ => kw_head 2 (by decide) _
  | _, .trace _, _ => kw_head 3 (by decide) _
  | _, .ret none, _ | _, .ret (some _), _ => kw_head 4 (by decide) _
  | _, .print _, _ => kw_head 6 (by decide) _
  | _, .put _, _ => kw_head 7 (by decide) _
  | _, .doS _, _ => kw_head 8 (by decide) _
  | _, .raise _, _ => kw_head 9 (by decide) _
  | _, .ifS ((c, b) :: rs) none, _ | _, .ifS ((c, b) :: rs) (some _), _ => by
    simp only [toksStmt, toksRules, if_true, List.cons_append]; exact kw_head 10 (by decide) _
  | _, .whileS .., _ => kw_head 11 (by decide) _
  | _, .forS .., _ => kw_head 12 (by decide) _
  | _, .forall .., _ => kw_head 13 (by decide) _
  | _, .begin .., _ => kw_head 14 (by decide) _
  | _, .func .., _ => kw_head 15 (by decide) _
  | _, .letS n e nx, h | _, .letn n e nx, h => by
    simp only [wfS, Bool.and_eq_true] at h
    exact ⟨⟨cKW, n⟩, _, by simp only [toksStmt]; rfl, rfl, nameOk_not_ender h.1.1⟩
  | _, .ifS [] els, h => by simp [wfS] at h

def elseToks : Option (List PStmt) → List Tok
  | none => []
  | some b => kw "else" :: toksBlock b

def normElse : Option (List PStmt) → Option (List PStmt)
  | none => none
  | some b => some (normB b)

/-- the statements of a clause read back: before a word `e` that ends it, whichever set `enders` (within `enderKws`) the
construct uses; `ne` = the construct requires at least one statement -/
def BStm (b : List PStmt) : Prop :=
  ∀ (enders : List Bytes) (ne : Bool), (∀ x, enders.contains x = true → enderKws.contains x = true) → (ne = true → b ≠ []) →
    ∀ (e : Tok) (rest : List Tok), e.code = cKW → enders.contains e.text = true → ∀ (f : Nat), 16 * ssizeB b + 30 ≤ f →
    pBlock f enders ne (toksBlock b ++ e :: rest) = .ok (normB b, e :: rest)

/-- a clause that may not be empty, before the keyword `w` -/
theorem BStm.clause {b : List PStmt} (h : BStm b) (hne : (!b.isEmpty) = true) {enders : List Bytes}
    (hsub : ∀ x, enders.contains x = true → enderKws.contains x = true) (w : String) (hw : enders.contains (bytesOf w) = true) :
    ∀ (rest : List Tok) (f : Nat), 16 * ssizeB b + 30 ≤ f →
    pBlock f enders true (toksBlock b ++ kw w :: rest) = .ok (normB b, kw w :: rest) :=
  fun rest => h enders true hsub (fun _ => ne_of_notEmpty hne) (kw w) rest rfl hw

/-- `BEGINStatement::parse` from what the body clause and the catch list do -/
theorem begin_of (body : List PStmt) (catches : List (Bytes × List PStmt)) (HB : BStm body)
    (HC : catches ≠ [] → ∀ (rest : List Tok) (f : Nat), 16 * ssizeCatches catches + 31 ≤ f →
      pCatches f (toksCatches catches ++ kw "end" :: rest) = .ok (normCatches catches, rest))
    (rest : List Tok) : ∀ f, 16 * (ssizeB body + ssizeCatches catches) + 32 ≤ f →
    pBegin f ((toksStmt (.begin body catches)).tail ++ ch 59 :: rest) = .ok ((normB body, normCatches catches), rest) :=
  fuel_succ fun f' hf => by
  cases catches with
  | nil =>
    simp only [toksStmt, toksCatches, normCatches, List.tail_cons, List.append_nil, List.append_assoc, List.cons_append, List.nil_append]
    exact pBegin_noexc (HB beginEnders false beginEnders_sub nofun (kw "end") (ch 59 :: rest) rfl (by decide) f' (by omega))
  | cons c cs =>
    have hb := HB beginEnders false beginEnders_sub nofun (kw "exception") (toksCatches (c :: cs) ++ kw "end" :: ch 59 :: rest) rfl
      (by decide) f' (by omega)
    have hc := HC (by simp) (ch 59 :: rest) f' (by omega)
    simp only [toksStmt, List.tail_cons, List.append_assoc, List.cons_append, List.nil_append]
    exact pBegin_exc hb hc

theorem ifS_toks {rules : List (PExpr × List PStmt)} (hne : rules ≠ []) (els : Option (List PStmt)) (rest : List Tok) :
    toksStmt (.ifS rules els) ++ ch 59 :: rest =
      kw "if" :: ((toksRules false rules).tail ++ (elseToks els ++ kw "end" :: kw "if" :: ch 59 :: rest)) := by
  cases rules with
  | nil => exact absurd rfl hne
  | cons r rs => obtain ⟨c, b⟩ := r; cases els <;> simp [toksStmt, toksRules, elseToks]

mutual
  theorem stmt_rt : ∀ (s : PStmt) (nested : Bool), wfS nested s = true → ∀ (rest : List Tok) (f : Nat), 16 * ssize s + 30 ≤ f →
      pStmt f nested (toksStmt s ++ ch 59 :: rest) = .ok (some (normS s), rest)
    | .nop | .brk | .cont | .ret none | .trace _ | .ret (some _) | .doS _ | .raise _ | .print _ | .put _ =>
      -- on these kinds `wfS nested s` unfolds to `wfFlat s`
      fun nested h rest f hf => flat_rt _ (by exact h) nested rest f (by simp only [ssize, fsize] at hf ⊢; omega)
    | .letS _ _ none | .letn _ _ none =>
      fun nested h rest f hf => flat_rt _ (by simpa [wfS, wfNext, wfFlat] using h) nested rest f
        (by simp only [ssize, ssizeNext, fsize] at hf ⊢; omega)
    | .letS n e (some s) => fun nested h rest => fuel_succ <| fuel_succ fun f hf => by
      have hw : (nameOk n = true ∧ wf e = true) ∧ wfS nested s = true := by simpa [wfS, wfNext] using h
      simp only [ssize, ssizeNext] at hf
      simpa [toksStmt, toksNext, normS, normNext] using
        let_chain n e hw.1.1 hw.1.2 nested _ rest _ f (by omega) (stmt_rt s nested hw.2 rest f (by omega))
    | .letn n ty (some s) => fun nested h rest => fuel_succ <| fuel_succ fun f2 hf => by
      have hw : (nameOk n = true ∧ typeKws.contains ty = true) ∧ wfS nested s = true := by simpa [wfS, wfNext] using h
      have ih := stmt_rt s nested hw.2 rest f2 (by simp only [ssize, ssizeNext] at hf; omega)
      simp only [toksStmt, toksNext, List.cons_append]
      rw [pStmt_name_letn hw.1.1]
      exact pLetn_chain hw.1.1 hw.1.2 ih
    | .whileS c body => fun nested h rest => fuel_succ fun f hf => by
      simp only [wfS, Bool.and_eq_true] at h
      simp only [ssize] at hf
      simp only [toksStmt, List.cons_append, List.append_assoc, List.nil_append]
      exact pStmt_while (expr_rt_kw c h.1.1 "loop" (by decide) _ f (by omega))
        ((block_rt body h.2).clause h.1.2 end_sub "end" (by decide) _ f (by omega))
    | .forall v e dir body => fun nested h rest => fuel_succ fun f hf => by
      simp only [wfS, Bool.and_eq_true] at h
      simp only [ssize] at hf
      simp only [toksStmt, List.cons_append, List.append_assoc, List.nil_append]
      exact pStmt_forall h.1.1.1 (expr_rt_dir e h.1.1.2 dir _ f (by omega))
        ((block_rt body h.2).clause h.1.2 end_sub "end" (by decide) _ f (by omega))
    | .forS v b e none dir body => fun nested h rest => fuel_succ fun f hf => by
      simp only [wfS, wfOpt, Bool.and_eq_true, Bool.and_true] at h
      simp only [ssize, osize] at hf
      simp only [toksStmt, List.cons_append, List.append_assoc, List.nil_append]
      exact pStmt_for_nostep h.1.1.1.1 (expr_rt_kw b h.1.1.1.2 "to" (by decide) _ f (by omega))
        (expr_rt_dir e h.1.1.2 dir _ f (by omega))
        ((block_rt body h.2).clause h.1.2 end_sub "end" (by decide) _ f (by omega))
    | .forS v b e (some st) dir body => fun nested h rest => fuel_succ fun f hf => by
      simp only [wfS, wfOpt, Bool.and_eq_true] at h
      simp only [ssize, osize] at hf
      simp only [toksStmt, List.cons_append, List.append_assoc, List.nil_append]
      exact pStmt_for_step h.1.1.1.1.1 (expr_rt_kw b h.1.1.1.1.2 "to" (by decide) _ f (by omega))
        (expr_rt_kw e h.1.1.1.2 "step" (by decide) _ f (by omega))
        (expr_rt_dir st h.1.1.2 dir _ f (by omega))
        ((block_rt body h.2).clause h.1.2 end_sub "end" (by decide) _ f (by omega))
    | .ifS rules none => fun nested h rest => fuel_succ fun f hf => by
      simp only [wfS, Bool.and_eq_true] at h
      simp only [ssize, ssizeElse] at hf
      have hne := ne_of_notEmpty h.1.1
      rw [ifS_toks hne]
      exact pStmt_if (rules_rt rules h.1.2 hne none rest 0 (fun eb heq => nomatch heq) f (by omega))
    | .ifS rules (some eb) => fun nested h rest => fuel_succ fun f hf => by
      simp only [wfS, wfElse, Bool.and_eq_true] at h
      simp only [ssize, ssizeElse] at hf
      have hne := ne_of_notEmpty h.1.1
      rw [ifS_toks hne]
      exact pStmt_if (rules_rt rules h.1.2 hne (some eb) rest (16 * ssizeB eb + 30)
        (fun eb' heq g hg => by
          cases heq
          exact (block_rt eb h.2.2).clause h.2.1 ifEnders_sub "end" (by decide) _ g hg) f (by omega))
    | .begin body catches => fun nested h rest => fuel_succ fun f' hf => by
      simp only [wfS, Bool.and_eq_true] at h
      have hbeg := begin_of body catches (block_rt body h.1) (catches_rt catches h.2) rest f' (by simp only [ssize] at hf; omega)
      exact pStmt_begin hbeg
    | .func n params rt body catches => fun nested h rest => fuel_succ fun f' hf => by
      simp only [wfS, Bool.and_eq_true] at h
      obtain ⟨⟨⟨⟨⟨hnest, hn⟩, hps⟩, hrt⟩, hb⟩, hcs⟩ := h
      have hnf : nested = false := by simpa using hnest
      subst hnf
      have hbeg := begin_of body catches (block_rt body hb) (catches_rt catches hcs) rest f' (by simp only [ssize] at hf; omega)
      simp only [toksStmt, List.tail_cons, List.cons_append, List.append_assoc] at hbeg ⊢
      exact pStmt_function hn hps hrt (by simp only [ssize] at hf; omega) hbeg

  /-- the `else` clause is a hypothesis with its own fuel `B` (met by `stmt_rt` from `block_rt`): the recursion is over the rules alone -/
  theorem rules_rt : ∀ (rules : List (PExpr × List PStmt)), wfRules rules = true → rules ≠ [] →
      ∀ (els : Option (List PStmt)) (rest : List Tok) (B : Nat),
      (∀ eb, els = some eb → ∀ g, B ≤ g →
        pBlock g ifEnders true (toksBlock eb ++ kw "end" :: kw "if" :: ch 59 :: rest) = .ok (normB eb, kw "end" :: kw "if" :: ch 59 :: rest)) →
      ∀ (f : Nat), 16 * ssizeRules rules + B + 1 ≤ f →
      pIf f ((toksRules false rules).tail ++ (elseToks els ++ kw "end" :: kw "if" :: ch 59 :: rest)) =
        .ok (.ifS (normRules rules) (normElse els), rest)
    | [], _, h, _, _, _, _ => absurd rfl h
    | (c, b) :: rs, hw, _, els, rest, B, hels => fuel_succ fun f hf => by
      rw [wfRules] at hw
      simp only [Bool.and_eq_true] at hw
      simp only [ssizeRules] at hf
      have he := fun ts => expr_rt_kw c hw.1.1.1 "then" (by decide) ts f (by omega)
      have hbl := (block_rt b hw.1.2).clause hw.1.1.2 ifEnders_sub
      -- after the clause: the next rule, or `else` and its clause, or `end`
      cases rs with
      | cons r rs =>
        have ih := rules_rt (r :: rs) hw.2 (by simp) els rest B hels f (by omega)
        obtain ⟨c2, b2⟩ := r
        simp only [toksRules, List.tail_cons, List.append_assoc, List.cons_append, Bool.false_eq_true, ↓reduceIte] at ih ⊢
        exact pIf_elsif (he _) (hbl "elsif" (by decide) _ f (by omega)) ih
      | nil =>
        cases els with
        | none =>
          simp only [toksRules, List.tail_cons, elseToks, List.append_assoc, List.cons_append, List.nil_append, List.append_nil]
          exact pIf_noelse (he _) (hbl "end" (by decide) _ f (by omega))
        | some eb =>
          simp only [toksRules, List.tail_cons, elseToks, List.append_assoc, List.cons_append, List.append_nil]
          exact pIf_else (he _) (hbl "else" (by decide) _ f (by omega)) (hels eb rfl f (by omega))

  theorem catches_rt : ∀ (cs : List (Bytes × List PStmt)), wfCatches cs = true → cs ≠ [] → ∀ (rest : List Tok) (f : Nat),
      16 * ssizeCatches cs + 31 ≤ f →
      pCatches f (toksCatches cs ++ kw "end" :: rest) = .ok (normCatches cs, rest)
    | [], _, h, _ => absurd rfl h
    | (n, b) :: cs, hw, _, rest => fuel_succ fun f hf => by
      rw [wfCatches] at hw
      simp only [Bool.and_eq_true] at hw
      simp only [ssizeCatches] at hf
      have hb := (block_rt b hw.1.2).clause hw.1.1.2 whenEnders_sub
      -- after the clause: `end`, or the next `when`
      cases cs with
      | nil =>
        simp only [toksCatches, List.cons_append, List.append_nil]
        exact pCatches_last hw.1.1.1 (hb "end" (by decide) _ f (by omega))
      | cons c cs =>
        have ih := catches_rt (c :: cs) hw.2 (by simp) rest f (by omega)
        obtain ⟨n2, b2⟩ := c
        simp only [toksCatches, List.cons_append, List.append_assoc] at ih ⊢
        exact pCatches_more hw.1.1.1 (hb "when" (by decide) _ f (by omega)) ih

  theorem block_rt : ∀ (b : List PStmt), wfB b = true → BStm b
    | [], _ => fun enders ne _ hne e rest hc he => fuel_succ fun f' hf => by
      cases ne with
      | false => exact pBlock_end hc he
      | true => exact absurd rfl (hne rfl)
    | s :: ss, hw => fun enders ne hsub _ e rest hc he => fuel_succ fun f' hf => by
      have hw' : wfS true s = true ∧ wfB ss = true := by simpa [wfB] using hw
      have e1 : toksBlock (s :: ss) ++ e :: rest = toksStmt s ++ ch 59 :: (toksBlock ss ++ e :: rest) := by simp [toksBlock]
      rw [e1]
      exact pBlock_cons (stmt_head true s hw'.1) hsub
        (stmt_rt s true hw'.1 (toksBlock ss ++ e :: rest) f' (by simp only [ssizeB] at hf; omega))
        (block_rt ss hw'.2 enders false hsub (fun h0 => by simp at h0) e rest hc he f' (by simp only [ssizeB] at hf; omega))
end

theorem program_rt : ∀ (p : List PStmt), wfP p = true → ∀ (f : Nat), 16 * ssizeB p + 31 ≤ f →
    pProgram f (toksBlock p) = .ok (normB p)
  | [], _ => fuel_succ fun _ _ => rfl
  | s :: ss, h => fuel_succ fun f' hf => by
    have hw : wfS false s = true ∧ wfP ss = true := by simpa [wfP] using h
    obtain ⟨t, ts, h1, h2, _⟩ := stmt_head false s hw.1
    rw [toksBlock]
    exact pProgram_cons ⟨t, ts, h1, h2⟩ (stmt_rt s false hw.1 (toksBlock ss) f' (by simp only [ssizeB] at hf; omega))
      (program_rt ss hw.2 f' (by simp only [ssizeB] at hf; omega))

end BlocV.C12L
