/-
  The `WriteByte` loop in closed form (`foldl_writeByte`: parser, store and `rawSize` after any bytes), and the representation
  invariant of `UTF8String` (`rawSize` = number of bytes `ToStdString` writes), kept by every method of the plugin's table
  (for `utf8_methods_total`); `Substr` / `Remove` without their clamp of the count (`substr_eq`, `remove_eq`); the cast and
  the range test of the plugin's `at` (`toSizeT_of_nonneg`, `pluginAt_some`); then a string of valid non-zero characters:
  what `ofBytes` makes of its bytes (`ofBytes_encodeAll`) and that re-reading the stored values up to their first NUL gives
  the same bytes (`reread_bytes`).
-/
import BlocV.Proofs.Lemmas.Utf8Ill

namespace BlocV.Mod.Utf8
open BlocV.Spec.Utf8 (isScalar encode encodeAll pack)

/-- the bytes `ToStdString` writes for a vector of stored values -/
def bytesOf (st : List Nat) : Nat := (st.map uSize).sum

/-- `rawSize` is the size of the text -/
def Inv (s : UStr) : Prop := s.rawSize = bytesOf s.store

theorem bytesOf_nil : bytesOf [] = 0 := rfl

theorem bytesOf_append (a b : List Nat) : bytesOf (a ++ b) = bytesOf a + bytesOf b := by
  simp [bytesOf]

theorem bytesOf_cons (x : Nat) (a : List Nat) : bytesOf (x :: a) = uSize x + bytesOf a := by
  simp [bytesOf]

theorem bytesOf_take_drop (l : List Nat) (k : Nat) : bytesOf (l.take k) + bytesOf (l.drop k) = bytesOf l := by
  rw [← bytesOf_append, List.take_append_drop]

theorem uString_length (u : Nat) : (uString u).length = uSize u := by
  fun_cases uString u
  all_goals simp [uSize, *]

theorem flatMap_uString_length (st : List Nat) : (st.flatMap uString).length = bytesOf st := by
  rw [List.length_flatMap]; simp only [uString_length]; rfl

theorem uSize_pack (n : Nat) (hs : isScalar n = true) : uSize (pack n) = (encode n).length := by
  rw [← uString_length, uString_pack n hs]

/-- with the invariant `ToStdString` fills its buffer exactly: no overrun -/
theorem toStdString_of_inv (s : UStr) (h : Inv s) : toStdString s = some (s.store.flatMap uString) :=
  if_pos (Nat.le_of_eq ((flatMap_uString_length _).trans h.symm))

theorem inv_empty : Inv {} := rfl

theorem foldl_writeByte (bs : List UInt8) : ∀ (s : UStr),
    bs.foldl writeByte s =
      { parser := endState s.parser (bs.map (·.toNat)),
        store := s.store ++ emit s.parser (bs.map (·.toNat)),
        rawSize := s.rawSize + bytesOf (emit s.parser (bs.map (·.toNat))) } := by
  induction bs with
  | nil => intro s; obtain ⟨p, st, sr⟩ := s; simp [emit, endState, bytesOf]
  | cons b bs ih =>
    intro s
    obtain ⟨p, st, sr⟩ := s
    simp only [List.foldl_cons, List.map_cons]
    rw [ih]
    rcases hs : step p b.toNat with ⟨e, q⟩
    cases e <;> simp [writeByte, hs, emit, endState, bytesOf_cons, Nat.add_assoc]

theorem foldl_writeByte_inv (bs : List UInt8) (s : UStr) (h : Inv s) : Inv (bs.foldl writeByte s) := by
  rw [foldl_writeByte]
  simp only [Inv, bytesOf_append]
  rw [h]

theorem ofBytes_inv (bs : List UInt8) : Inv (ofBytes bs) := foldl_writeByte_inv bs {} inv_empty

theorem appendBytes_inv (s : UStr) (t : List UInt8) (h : Inv s) : Inv (appendBytes s t) := foldl_writeByte_inv t s h

theorem clear_inv (s : UStr) : Inv (clear s) := rfl

theorem insertCp_inv {s : UStr} (h : Inv s) (pos u : Nat) : Inv (insertCp s pos u).2 := by
  unfold insertCp
  split
  · split
    · simp only [Inv, bytesOf_append, bytesOf_cons]
      rw [h, ← bytesOf_take_drop s.store pos]; omega
    · exact h
  · exact h

theorem insertData_inv {s : UStr} (h : Inv s) (pos : Nat) (data : List Nat) : Inv (insertData s pos data).2 := by
  unfold insertData
  split
  · refine List.foldlRecOn (motive := fun acc : Nat × UStr => Inv acc.2) data _ h fun acc ha x _ => ?_
    have := insertCp_inv ha (pos + acc.1) x
    dsimp only
    split <;> exact this
  · exact h

theorem appendCp_inv {s : UStr} (h : Inv s) (u : Nat) : Inv (appendCp s u) := by
  unfold appendCp
  split
  · simp only [Inv, bytesOf_append, bytesOf_cons, bytesOf_nil]; rw [h]; omega
  · exact h

theorem appendData_inv {s : UStr} (h : Inv s) (data : List Nat) : Inv (appendData s data) :=
  List.foldlRecOn data appendCp h fun _ hs x _ => appendCp_inv hs x

/-- `Substr` and `Remove` clamp the count to what is left of the string; `take` and `drop` do that by themselves -/
theorem clamp_count (l : List α) (n : Nat) :
    l.take (if n > l.length then l.length else n) = l.take n ∧ l.drop (if n > l.length then l.length else n) = l.drop n := by
  split
  · rename_i h
    rw [List.take_length, List.drop_length, List.take_of_length_le (Nat.le_of_lt h), List.drop_of_length_le (Nat.le_of_lt h)]
    exact ⟨rfl, rfl⟩
  · exact ⟨rfl, rfl⟩

theorem substr_eq (s : UStr) (pos n : Nat) : substr s pos n = ((s.store.drop pos).take n).flatMap uString := by
  unfold substr
  split
  · simp only []; rw [← List.length_drop, (clamp_count _ n).1]
  · rename_i h; rw [List.drop_of_length_le (Nat.le_of_not_lt h), List.take_nil]; rfl

theorem remove_eq (s : UStr) (pos n : Nat) :
    remove s pos n = if pos < s.store.length then
      (true, { s with store := s.store.take pos ++ s.store.drop (pos + n),
                      rawSize := (s.rawSize + 2 ^ 64 - bytesOf ((s.store.drop pos).take n)) % 2 ^ 64 })
    else (false, s) := by
  unfold remove
  simp only []
  rw [← List.length_drop, ← List.drop_drop, ← List.drop_drop, (clamp_count _ n).1, (clamp_count _ n).2]
  rfl

/-- `rawSize -= bc` does not wrap: the bytes removed are part of the text -/
theorem remove_inv {s : UStr} (h : Inv s) (hb : s.rawSize < 2 ^ 64) (pos n : Nat) : Inv (remove s pos n).2 := by
  rw [remove_eq]
  split
  · simp only [Inv, bytesOf_append]
    have e1 := bytesOf_take_drop s.store pos
    have e2 := bytesOf_take_drop (s.store.drop pos) n
    rw [List.drop_drop] at e2
    rw [h] at hb ⊢
    omega
  · exact h

set_option linter.unusedVariables false in
theorem remove_bound (s : UStr) (pos n : Nat) (h : Inv s) (hb : s.rawSize < 2 ^ 64) : (remove s pos n).2.rawSize < 2 ^ 64 := by
  unfold remove
  split
  · exact Nat.mod_lt _ (by decide)
  · exact hb

theorem toSizeT_of_nonneg (i : Int64) (h : 0 ≤ i.toInt) : toSizeT i = i.toInt.toNat :=
  Int64.toNat_toUInt64_of_le (Int64.le_iff_toInt_le.mpr h)

/-- `case utf8::At`: the range test answers before `operator[]` is reached -/
theorem pluginAt_some (s : UStr) (i : Int64) :
    (pluginAt s (some i) = .indexRange ∧ (i.toInt < 0 ∨ size s ≤ toSizeT i))
    ∨ (∃ u, pluginAt s (some i) = .ok u ∧ ¬ (i.toInt < 0 ∨ size s ≤ toSizeT i)) := by
  simp only [pluginAt]
  by_cases hc : i.toInt < 0 ∨ size s ≤ toSizeT i
  · exact Or.inl ⟨if_pos hc, hc⟩
  · rw [if_neg hc]
    have hlt : toSizeT i < s.store.length := Nat.lt_of_not_le fun h => hc (Or.inr h)
    exact Or.inr ⟨_, by rw [List.getElem?_eq_getElem hlt], hc⟩

/-- the left side is what `Transform(func)` walks: each `_u_string` up to its first NUL -/
theorem reread_bytes (cps : List Nat) (hs : ∀ c ∈ cps, isScalar c = true ∧ c ≠ 0) :
    ((cps.map pack).flatMap fun cp => (uString cp).takeWhile (· ≠ 0)) = encodeAll cps := by
  rw [encodeAll, List.flatMap_map, List.flatMap_def, List.flatMap_def,
    List.map_congr_left fun c hc => by rw [uString_pack c (hs c hc).1, takeWhile_encode c (hs c hc).1 (hs c hc).2]]

theorem ofBytes_encodeAll (cps : List Nat) (hs : ∀ c ∈ cps, isScalar c = true ∧ c ≠ 0) :
    ofBytes (encodeAll cps) = { parser := .p0, store := cps.map pack, rawSize := (encodeAll cps).length } := by
  obtain ⟨e1, e2⟩ := emit_encodeAll cps hs
  rw [ofBytes, foldl_writeByte, e1, e2, ← flatMap_uString_length, flatMap_uString_pack cps hs]
  simp

end BlocV.Mod.Utf8
