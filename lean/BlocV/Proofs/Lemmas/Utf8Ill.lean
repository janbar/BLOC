/-
  The byte-at-a-time state machine of utf8helper.cpp on ARBITRARY bytes against the look-ahead decoder
  `Spec.Utf8.lenientGo` (for `decode_illformed`).

  `emit p bs` = the values the parser hands to `store.push_back` when it is run from state `p` over `bs`. The comparison
  is a simulation from every reachable state (`emit_eq`); on well-formed text the parser reads each character as the
  decoder does (`Reads`, `reads_of_decode1`). Names: `D…` = `decode1` by class of the lead byte, `P…` = `pack` of the value
  decoded, `L_…` / `LP_…` = one step of `lenientGo` / `lenientPacked`.
-/
import BlocV.Proofs.Lemmas.Utf8

namespace BlocV.Mod.Utf8
open BlocV.Spec.Utf8 (isScalar encode encodeAll pack decode1 lenientGo isCont)

/-- the `Done` values of `p->run` over a byte sequence, starting in state `p` -/
def emit : PSt → List Nat → List Nat
  | _, [] => []
  | p, b :: bs =>
    match step p b with
    | (.done u, q) => u :: emit q bs
    | (.cont, q) => emit q bs
    | (.error, q) => emit q bs

def endState : PSt → List Nat → PSt
  | p, [] => p
  | p, b :: bs => endState (step p b).2 bs

/-- the classes of a first byte in `_p0` (RFC 3629 §4): ASCII, no lead byte (80..C1, F5..FF), lead of 2, 3, 4 bytes -/
theorem lead_cases (b : Nat) : b < 0x80 ∨ ((0x80 ≤ b ∧ b < 0xc2) ∨ 0xf5 ≤ b) ∨ (0xc2 ≤ b ∧ b < 0xe0) ∨ (0xe0 ≤ b ∧ b < 0xf0)
    ∨ (0xf0 ≤ b ∧ b < 0xf5) := by omega

theorem p0_ascii (b : Nat) (h0 : b ≠ 0) (h : b < 0x80) : p0 b = (.done b, .p0) := by
  simp [p0, h, h0]

theorem p0_invalid (b : Nat) (h : (0x80 ≤ b ∧ b < 0xc2) ∨ 0xf5 ≤ b) : p0 b = (.error, .p0) := by
  unfold p0
  rcases h with h | h
  · rw [if_neg (by omega), if_pos h.2]
  · rw [if_neg (by omega), if_neg (by omega), if_neg (by omega), if_neg (by omega), if_neg (by omega)]

theorem p0_lead2 (b : Nat) (h : 0xc2 ≤ b ∧ b < 0xe0) : p0 b = (.cont, .p1u2 b) := by
  unfold p0; rw [if_neg (by omega), if_neg (by omega), if_pos h.2]

theorem p0_lead3 (b : Nat) (h : 0xe0 ≤ b ∧ b < 0xf0) : p0 b = (.cont, .p1u3 b) := by
  unfold p0; rw [if_neg (by omega), if_neg (by omega), if_neg (by omega), if_pos h.2]

theorem p0_lead4 (b : Nat) (h : 0xf0 ≤ b ∧ b < 0xf5) : p0 b = (.cont, .p1u4 b) := by
  unfold p0; rw [if_neg (by omega), if_neg (by omega), if_neg (by omega), if_neg (by omega), if_pos h.2]

theorem emit_nil (p : PSt) : emit p [] = [] := by simp [emit]

theorem emit_done (p : PSt) (b : Nat) {bs : List Nat} {u : Nat} {q : PSt} (h : step p b = (.done u, q)) :
    emit p (b :: bs) = u :: emit q bs := by simp only [emit, h]

theorem emit_cont (p : PSt) (b : Nat) {bs : List Nat} {q : PSt} (h : step p b = (.cont, q)) :
    emit p (b :: bs) = emit q bs := by simp only [emit, h]

theorem emit_error (p : PSt) (b : Nat) {bs : List Nat} {q : PSt} (h : step p b = (.error, q)) :
    emit p (b :: bs) = emit q bs := by simp only [emit, h]

/-- "invalid codepoint: restart": the byte that does not continue the sequence is read again from `_p0` -/
theorem emit_restart (p : PSt) (b : Nat) {bs : List Nat} (h : step p b = p0 b) : emit p (b :: bs) = emit .p0 (b :: bs) := by
  simp only [emit]; rw [h]; rfl

theorem L_drop (b : Nat) (bs : List Nat) (h : decode1 (b :: bs) = none) : lenientGo 0 (b :: bs) = lenientGo 0 bs := by
  simp [lenientGo, h]

theorem lenientGo_skip (R : List Nat) : ∀ l : List Nat, lenientGo l.length (l ++ R) = lenientGo 0 R
  | [] => rfl
  | _ :: l => by simpa [lenientGo] using lenientGo_skip R l

theorem L_take (l R : List Nat) (v : Nat) (hl : l ≠ []) (h : decode1 (l ++ R) = some (v, l.length)) :
    lenientGo 0 (l ++ R) = v :: lenientGo 0 R := by
  match l, hl with
  | b :: t, _ =>
    simp only [List.cons_append, lenientGo] at h ⊢
    rw [h]
    exact congrArg _ (lenientGo_skip R t)

theorem D_ascii (b : Nat) (bs : List Nat) (h : b < 0x80) : decode1 (b :: bs) = some (b, 1) := by
  simp [decode1, h]

/-- a continuation byte cannot start a sequence -/
theorem D_cont (b : Nat) (bs : List Nat) (h : 0x80 ≤ b ∧ b < 0xc0) : decode1 (b :: bs) = none := by
  unfold decode1
  simp only []
  rw [if_neg (by omega), if_pos (by omega)]

/-- C0, C1 (over-long two-byte forms) -/
theorem D_c0c1 (b : Nat) (bs : List Nat) (h : 0xc0 ≤ b ∧ b < 0xc2) : decode1 (b :: bs) = none := by
  unfold decode1
  simp only []
  rw [if_neg (by omega), if_neg (by omega), if_pos (by omega)]
  cases bs with
  | nil => rfl
  | cons b1 r =>
    simp only []
    rw [if_neg]
    simp [isCont]; omega

/-- F5 … FF (above U+10FFFF, or not a lead byte at all) -/
theorem D_high (b : Nat) (bs : List Nat) (h : 0xf5 ≤ b) : decode1 (b :: bs) = none := by
  unfold decode1
  simp only []
  rw [if_neg (by omega), if_neg (by omega), if_neg (by omega), if_neg (by omega)]
  by_cases h8 : b < 0xf8
  · rw [if_pos h8]
    match bs with
    | [] => rfl
    | [_] => rfl
    | [_, _] => rfl
    | b1 :: b2 :: b3 :: r =>
      simp only []
      rw [if_neg]
      simp [isCont, isScalar]; omega
  · rw [if_neg h8]

theorem D_invalid (b : Nat) (bs : List Nat) (h : (0x80 ≤ b ∧ b < 0xc2) ∨ 0xf5 ≤ b) : decode1 (b :: bs) = none := by
  rcases h with h | h
  · by_cases hc : b < 0xc0
    · exact D_cont b bs ⟨h.1, hc⟩
    · exact D_c0c1 b bs ⟨by omega, h.2⟩
  · exact D_high b bs h

theorem D2 (b0 : Nat) (r : List Nat) (h : 0xc2 ≤ b0 ∧ b0 < 0xe0) :
    decode1 (b0 :: r) = match r with
      | b1 :: _ => if 0x80 ≤ b1 ∧ b1 < 0xc0 then some ((b0 - 0xC0) * 0x40 + (b1 - 0x80), 2) else none
      | [] => none := by
  unfold decode1
  simp only []
  rw [if_neg (by omega), if_neg (by omega), if_pos (by omega)]
  match r with
  | [] => rfl
  | b1 :: _ =>
    refine ite_congr (propext ?_) (fun _ => rfl) (fun _ => rfl)
    simp [isCont]; omega

/-- The byte ranges of RFC 3629 §4 for the second byte (`ok1u3`) say exactly: shortest form (`0x800 ≤ v`) and no surrogate. -/
theorem ok1u3_spec {b0 b1 b2 : Nat} (h : 0xe0 ≤ b0 ∧ b0 < 0xf0) :
    isCont b1 = true ∧ isCont b2 = true ∧ 0x800 ≤ (b0 - 0xE0) * 0x1000 + (b1 - 0x80) * 0x40 + (b2 - 0x80)
      ∧ isScalar ((b0 - 0xE0) * 0x1000 + (b1 - 0x80) * 0x40 + (b2 - 0x80)) = true
    ↔ ok1u3 b0 b1 = true ∧ (0x80 ≤ b2 ∧ b2 < 0xc0) := by
  simp [isCont, isScalar, ok1u3]; omega

/-- Likewise `ok1u4`: shortest form (`0x10000 ≤ v`) and nothing above U+10FFFF. -/
theorem ok1u4_spec {b0 b1 b2 b3 : Nat} (h : 0xf0 ≤ b0 ∧ b0 < 0xf5) :
    isCont b1 = true ∧ isCont b2 = true ∧ isCont b3 = true
      ∧ 0x10000 ≤ (b0 - 0xF0) * 0x40000 + (b1 - 0x80) * 0x1000 + (b2 - 0x80) * 0x40 + (b3 - 0x80)
      ∧ isScalar ((b0 - 0xF0) * 0x40000 + (b1 - 0x80) * 0x1000 + (b2 - 0x80) * 0x40 + (b3 - 0x80)) = true
    ↔ ok1u4 b0 b1 = true ∧ (0x80 ≤ b2 ∧ b2 < 0xc0) ∧ (0x80 ≤ b3 ∧ b3 < 0xc0) := by
  simp [isCont, isScalar, ok1u4]; omega

theorem D3 (b0 : Nat) (r : List Nat) (h : 0xe0 ≤ b0 ∧ b0 < 0xf0) :
    decode1 (b0 :: r) = match r with
      | b1 :: b2 :: _ =>
        if ok1u3 b0 b1 = true ∧ (0x80 ≤ b2 ∧ b2 < 0xc0)
        then some ((b0 - 0xE0) * 0x1000 + (b1 - 0x80) * 0x40 + (b2 - 0x80), 3) else none
      | _ => none := by
  unfold decode1
  simp only []
  rw [if_neg (by omega), if_neg (by omega), if_neg (by omega), if_pos h.2]
  match r with
  | [] => rfl
  | [_] => rfl
  | b1 :: b2 :: _ => exact ite_congr (propext (ok1u3_spec h)) (fun _ => rfl) (fun _ => rfl)

theorem D4 (b0 : Nat) (r : List Nat) (h : 0xf0 ≤ b0 ∧ b0 < 0xf5) :
    decode1 (b0 :: r) = match r with
      | b1 :: b2 :: b3 :: _ =>
        if ok1u4 b0 b1 = true ∧ (0x80 ≤ b2 ∧ b2 < 0xc0) ∧ (0x80 ≤ b3 ∧ b3 < 0xc0)
        then some ((b0 - 0xF0) * 0x40000 + (b1 - 0x80) * 0x1000 + (b2 - 0x80) * 0x40 + (b3 - 0x80), 4) else none
      | _ => none := by
  unfold decode1
  simp only []
  rw [if_neg (by omega), if_neg (by omega), if_neg (by omega), if_neg (by omega), if_pos (by omega)]
  match r with
  | [] => rfl
  | [_] => rfl
  | [_, _] => rfl
  | b1 :: b2 :: b3 :: _ => exact ite_congr (propext (ok1u4_spec h)) (fun _ => rfl) (fun _ => rfl)

theorem ok1u3_cont (b0 b1 : Nat) (h : ok1u3 b0 b1 = true) : 0x80 ≤ b1 ∧ b1 < 0xc0 := by
  simp [ok1u3] at h; omega

theorem ok1u4_cont (b0 b1 : Nat) (h : ok1u4 b0 b1 = true) : 0x80 ≤ b1 ∧ b1 < 0xc0 := by
  simp [ok1u4] at h; omega

theorem P2 {b0 b1 : Nat} (h : 0xc2 ≤ b0 ∧ b0 < 0xe0) (h1 : 0x80 ≤ b1 ∧ b1 < 0xc0) :
    pack ((b0 - 0xC0) * 0x40 + (b1 - 0x80)) = b0 * 0x100 + b1 ∧ (b0 - 0xC0) * 0x40 + (b1 - 0x80) ≠ 0 := by
  obtain ⟨a, rfl⟩ := Nat.exists_eq_add_of_le (show 0xC0 ≤ b0 by omega)
  obtain ⟨x, rfl⟩ := Nat.exists_eq_add_of_le h1.1
  simp only [Nat.add_sub_cancel_left]
  refine ⟨?_, by omega⟩
  rw [pack, encode2 a x (by omega) (by omega) (by omega)]
  exact (packBE_bytes [0xC0 + a, 0x80 + x] (by simp; omega)).trans (by simp)

theorem P3 {b0 b1 b2 : Nat} (h : 0xe0 ≤ b0 ∧ b0 < 0xf0) (hk : ok1u3 b0 b1 = true) (h2 : 0x80 ≤ b2 ∧ b2 < 0xc0) :
    pack ((b0 - 0xE0) * 0x1000 + (b1 - 0x80) * 0x40 + (b2 - 0x80)) = b0 * 0x10000 + b1 * 0x100 + b2
    ∧ (b0 - 0xE0) * 0x1000 + (b1 - 0x80) * 0x40 + (b2 - 0x80) ≠ 0 := by
  have h1 := ok1u3_cont b0 b1 hk
  have hv : 0x800 ≤ _ := ((ok1u3_spec h).mpr ⟨hk, h2⟩).2.2.1
  obtain ⟨a, rfl⟩ := Nat.exists_eq_add_of_le h.1
  obtain ⟨x, rfl⟩ := Nat.exists_eq_add_of_le h1.1
  obtain ⟨y, rfl⟩ := Nat.exists_eq_add_of_le h2.1
  simp only [Nat.add_sub_cancel_left] at hv ⊢
  refine ⟨?_, by omega⟩
  rw [pack, encode3 a x y (by omega) (by omega) hv (by omega)]
  exact (packBE_bytes [0xE0 + a, 0x80 + x, 0x80 + y] (by simp; omega)).trans (by simp; omega)

theorem P4 {b0 b1 b2 b3 : Nat} (h : 0xf0 ≤ b0 ∧ b0 < 0xf5) (hk : ok1u4 b0 b1 = true) (h2 : 0x80 ≤ b2 ∧ b2 < 0xc0)
    (h3 : 0x80 ≤ b3 ∧ b3 < 0xc0) :
    pack ((b0 - 0xF0) * 0x40000 + (b1 - 0x80) * 0x1000 + (b2 - 0x80) * 0x40 + (b3 - 0x80))
      = b0 * 0x1000000 + b1 * 0x10000 + b2 * 0x100 + b3
    ∧ (b0 - 0xF0) * 0x40000 + (b1 - 0x80) * 0x1000 + (b2 - 0x80) * 0x40 + (b3 - 0x80) ≠ 0 := by
  have h1 := ok1u4_cont b0 b1 hk
  have hv : 0x10000 ≤ _ := ((ok1u4_spec h).mpr ⟨hk, h2, h3⟩).2.2.2.1
  obtain ⟨a, rfl⟩ := Nat.exists_eq_add_of_le h.1
  obtain ⟨x, rfl⟩ := Nat.exists_eq_add_of_le h1.1
  obtain ⟨y, rfl⟩ := Nat.exists_eq_add_of_le h2.1
  obtain ⟨z, rfl⟩ := Nat.exists_eq_add_of_le h3.1
  simp only [Nat.add_sub_cancel_left] at hv ⊢
  refine ⟨?_, by omega⟩
  rw [pack, encode4 a x y z (by omega) (by omega) (by omega) hv]
  exact (packBE_bytes [0xF0 + a, 0x80 + x, 0x80 + y, 0x80 + z] (by simp; omega)).trans (by simp; omega)

/-- what the client sees of a lenient decoding: NULs removed, each scalar in the module's packed form -/
def lenientPacked (bs : List Nat) : List Nat := ((lenientGo 0 bs).filter (· ≠ 0)).map pack

theorem LP_drop {b : Nat} {bs : List Nat} (h : decode1 (b :: bs) = none) : lenientPacked (b :: bs) = lenientPacked bs := by
  simp only [lenientPacked, L_drop b bs h]

theorem LP_nil : lenientPacked [] = [] := by simp [lenientPacked, lenientGo]

theorem LP_take (l R : List Nat) (v : Nat) (hl : l ≠ []) (h : decode1 (l ++ R) = some (v, l.length)) (hv : v ≠ 0) :
    lenientPacked (l ++ R) = pack v :: lenientPacked R := by
  simp [lenientPacked, L_take l R v hl h, hv]

theorem LP_ascii (b : Nat) (bs : List Nat) (h0 : b ≠ 0) (h : b < 0x80) : lenientPacked (b :: bs) = b :: lenientPacked bs := by
  have := LP_take [b] bs b (by simp) (D_ascii b bs h) h0
  rwa [pack1 b h] at this

theorem LP_nul (bs : List Nat) : lenientPacked (0 :: bs) = lenientPacked bs := by
  have := L_take [0] bs 0 (by simp) (D_ascii 0 bs (by omega))
  simp only [List.cons_append, List.nil_append] at this
  simp [lenientPacked, this]

/-- the bytes of the sequence the parser is in the middle of -/
def pending : PSt → List Nat
  | .p0 => []
  | .p1u2 b0 | .p1u3 b0 | .p1u4 b0 => [b0]
  | .p2u3 b0 b1 | .p2u4 b0 b1 => [b0, b1]
  | .p3u4 b0 b1 b2 => [b0, b1, b2]

/-- the states the parser reaches: what it holds has passed the tests of the states before -/
def Good : PSt → Prop
  | .p0 => True
  | .p1u2 b0 => 0xc2 ≤ b0 ∧ b0 < 0xe0
  | .p1u3 b0 => 0xe0 ≤ b0 ∧ b0 < 0xf0
  | .p2u3 b0 b1 => (0xe0 ≤ b0 ∧ b0 < 0xf0) ∧ ok1u3 b0 b1 = true
  | .p1u4 b0 => 0xf0 ≤ b0 ∧ b0 < 0xf5
  | .p2u4 b0 b1 => (0xf0 ≤ b0 ∧ b0 < 0xf5) ∧ ok1u4 b0 b1 = true
  | .p3u4 b0 b1 b2 => (0xf0 ≤ b0 ∧ b0 < 0xf5) ∧ ok1u4 b0 b1 = true ∧ (0x80 ≤ b2 ∧ b2 < 0xc0)

/-- the test of `step p` on the next byte: does it continue the sequence held? (`_p0` holds none.)
    Literally the condition of the model's `if`, so that `if_pos k` / `if_neg k` apply to `step` as it stands. -/
def wants : PSt → Nat → Prop
  | .p0, _ => False
  | .p1u3 b0, b => ok1u3 b0 b = true
  | .p1u4 b0, b => ok1u4 b0 b = true
  | _, b => 0x80 ≤ b ∧ b < 0xc0

/-- "invalid codepoint: restart" -/
theorem step_restart {p : PSt} {b : Nat} (h : ¬ wants p b) : step p b = p0 b := by
  cases p with
  | p0 => rfl
  | _ => exact if_neg h

/-- What the parser abandons the decoder drops: when the input ends, or goes on with a byte the state does not want, the
    lead held starts no well-formed sequence, and the continuation bytes held after it start none either. -/
theorem LP_abandon {p : PSt} (g : Good p) (R : List Nat) (h : ∀ b r, R = b :: r → ¬ wants p b) :
    lenientPacked (pending p ++ R) = lenientPacked R := by
  cases p with
  | p0 => rfl
  | p1u2 b0 =>
    refine LP_drop ((D2 b0 R g).trans ?_)
    cases R with
    | nil => rfl
    | cons b _ => exact if_neg (h _ _ rfl)
  | p1u3 b0 =>
    refine LP_drop ((D3 b0 R g).trans ?_)
    match R, h with
    | [], _ | [_], _ => rfl
    | _ :: _ :: _, h => exact if_neg fun c => h _ _ rfl c.1
  | p2u3 b0 b1 =>
    refine (LP_drop ((D3 b0 (b1 :: R) g.1).trans ?_)).trans (LP_drop (D_cont b1 R (ok1u3_cont b0 b1 g.2)))
    cases R with
    | nil => rfl
    | cons b _ => exact if_neg fun c => h _ _ rfl c.2
  | p1u4 b0 =>
    refine LP_drop ((D4 b0 R g).trans ?_)
    match R, h with
    | [], _ | [_], _ | [_, _], _ => rfl
    | _ :: _ :: _ :: _, h => exact if_neg fun c => h _ _ rfl c.1
  | p2u4 b0 b1 =>
    refine (LP_drop ((D4 b0 (b1 :: R) g.1).trans ?_)).trans (LP_drop (D_cont b1 R (ok1u4_cont b0 b1 g.2)))
    match R, h with
    | [], _ | [_], _ => rfl
    | _ :: _ :: _, h => exact if_neg fun c => h _ _ rfl c.2.1
  | p3u4 b0 b1 b2 =>
    refine (LP_drop ((D4 b0 (b1 :: b2 :: R) g.1).trans ?_)).trans
      ((LP_drop (D_cont b1 (b2 :: R) (ok1u4_cont b0 b1 g.2.1))).trans (LP_drop (D_cont b2 R g.2.2)))
    cases R with
    | nil => rfl
    | cons b _ => exact if_neg fun c => h _ _ rfl c.2.2

/-- **The state machine = the lenient decoder**, from every reachable state, on every byte sequence: what the parser
    emits from state `p` is what the look-ahead decoder finds in the bytes `p` holds followed by the input. A byte that
    continues the sequence keeps the invariant; the byte that completes it is where the decoder takes the character; on
    any other byte the parser re-reads that byte from `_p0`, and the decoder drops the bytes held (`LP_abandon`). -/
theorem emit_eq : ∀ (bs : List Nat) (p : PSt), Good p → emit p bs = lenientPacked (pending p ++ bs)
  | [], p, g => by rw [emit_nil, LP_abandon g [] nofun, LP_nil]
  | b :: bs, p, g => by
    have ih := emit_eq bs
    have ih0 : emit .p0 bs = lenientPacked bs := ih .p0 trivial
    by_cases k : wants p b
    · match p, g, k with
      | .p1u2 b0, g, k =>
        have pk := P2 g k
        rw [emit_done (.p1u2 b0) b (if_pos k), ih0, ← pk.1]
        exact (LP_take [b0, b] bs _ (by simp) ((D2 b0 (b :: bs) g).trans (if_pos k)) pk.2).symm
      | .p1u3 b0, g, k => exact (emit_cont (.p1u3 b0) b (if_pos k)).trans (ih (.p2u3 b0 b) ⟨g, k⟩)
      | .p2u3 b0 b1, g, k =>
        have pk := P3 g.1 g.2 k
        rw [emit_done (.p2u3 b0 b1) b (if_pos k), ih0, ← pk.1]
        exact (LP_take [b0, b1, b] bs _ (by simp) ((D3 b0 (b1 :: b :: bs) g.1).trans (if_pos ⟨g.2, k⟩)) pk.2).symm
      | .p1u4 b0, g, k => exact (emit_cont (.p1u4 b0) b (if_pos k)).trans (ih (.p2u4 b0 b) ⟨g, k⟩)
      | .p2u4 b0 b1, g, k => exact (emit_cont (.p2u4 b0 b1) b (if_pos k)).trans (ih (.p3u4 b0 b1 b) ⟨g.1, g.2, k⟩)
      | .p3u4 b0 b1 b2, g, k =>
        have pk := P4 g.1 g.2.1 g.2.2 k
        rw [emit_done (.p3u4 b0 b1 b2) b (if_pos k), ih0, ← pk.1]
        exact (LP_take [b0, b1, b2, b] bs _ (by simp) ((D4 b0 (b1 :: b2 :: b :: bs) g.1).trans (if_pos ⟨g.2.1, g.2.2, k⟩)) pk.2).symm
    · rw [emit_restart p b (step_restart k), LP_abandon g (b :: bs) fun _ _ e => by cases e; exact k]
      rcases lead_cases b with c1 | hi | hl | hl | hl
      · by_cases z : b = 0
        · subst z; exact (emit_cont .p0 0 rfl).trans (ih0.trans (LP_nul bs).symm)
        · rw [emit_done .p0 b (p0_ascii b z c1), ih0, LP_ascii b bs z c1]
      · rw [emit_error .p0 b (p0_invalid b hi), ih0, LP_drop (D_invalid b bs hi)]
      · exact (emit_cont .p0 b (p0_lead2 b hl)).trans (ih (.p1u2 b) hl)
      · exact (emit_cont .p0 b (p0_lead3 b hl)).trans (ih (.p1u3 b) hl)
      · exact (emit_cont .p0 b (p0_lead4 b hl)).trans (ih (.p1u4 b) hl)

theorem emit_bytes (bs : List UInt8) :
    emit .p0 (bs.map (·.toNat)) = ((Spec.Utf8.lenient bs).filter (· ≠ 0)).map pack :=
  emit_eq _ .p0 trivial

/-- `Reads p bs u`: from state `p` the parser answers Continue to every byte of `bs` but the last, and the last
    completes the character `u` -/
inductive Reads : PSt → List Nat → Nat → Prop
  | last {p : PSt} {b u : Nat} : step p b = (.done u, .p0) → Reads p [b] u
  | more {p q : PSt} {b u : Nat} {bs : List Nat} : step p b = (.cont, q) → Reads q bs u → Reads p (b :: bs) u

theorem Reads.emit {p : PSt} {bs : List Nat} {u : Nat} (h : Reads p bs u) (r : List Nat) :
    emit p (bs ++ r) = u :: emit .p0 r ∧ endState p (bs ++ r) = endState .p0 r := by
  induction h with
  | last hs => simp [Utf8.emit, endState, hs]
  | more hs _ ih => simp [Utf8.emit, endState, hs, ih]

theorem Reads.parseFirst {p : PSt} {bs : List Nat} {u : Nat} (h : Reads p bs u) :
    ∀ cs : List UInt8, cs.map (·.toNat) = bs → parseFirst p cs = some u := by
  induction h with
  | last hs =>
    intro cs e
    match cs, e with
    | [c], e => injection e with e _; subst e; simp [Utf8.parseFirst, hs]
  | more hs _ ih =>
    intro cs e
    match cs, e with
    | c :: cs, e => injection e with e e'; subst e; simp [Utf8.parseFirst, hs, ih cs e']

theorem reads_of_decode1 : ∀ (bs : List Nat) (v k : Nat), decode1 bs = some (v, k) → v ≠ 0 →
    Reads .p0 (bs.take k) (pack v)
  | [], v, k, h, _ => by simp [decode1] at h
  | b0 :: r, v, k, h, hv => by
    rcases lead_cases b0 with c1 | hi | hl | hl | hl
    · rw [D_ascii b0 r c1] at h
      cases h
      rw [pack1 b0 c1]; exact .last (p0_ascii b0 hv c1)
    · rw [D_invalid b0 r hi] at h; cases h
    · rw [D2 b0 r hl] at h
      match r, h with
      | [], h => cases h
      | b1 :: r1, h =>
        obtain ⟨k1, e⟩ := Option.ite_none_right_eq_some.mp h
        obtain ⟨rfl, rfl⟩ : _ = v ∧ 2 = k := by simpa using e
        rw [(P2 hl k1).1]; exact .more (p0_lead2 b0 hl) (.last (if_pos k1))
    · rw [D3 b0 r hl] at h
      match r, h with
      | [], h | [_], h => cases h
      | b1 :: b2 :: r2, h =>
        obtain ⟨k1, e⟩ := Option.ite_none_right_eq_some.mp h
        obtain ⟨rfl, rfl⟩ : _ = v ∧ 3 = k := by simpa using e
        rw [(P3 hl k1.1 k1.2).1]
        exact .more (p0_lead3 b0 hl) (.more (if_pos k1.1) (.last (if_pos k1.2)))
    · rw [D4 b0 r hl] at h
      match r, h with
      | [], h | [_], h | [_, _], h => cases h
      | b1 :: b2 :: b3 :: r3, h =>
        obtain ⟨k1, e⟩ := Option.ite_none_right_eq_some.mp h
        obtain ⟨rfl, rfl⟩ : _ = v ∧ 4 = k := by simpa using e
        rw [(P4 hl k1.1 k1.2.1 k1.2.2).1]
        exact .more (p0_lead4 b0 hl) (.more (if_pos k1.1) (.more (if_pos k1.2.1) (.last (if_pos k1.2.2))))

theorem decode1_encode (n : Nat) (hs : isScalar n = true) :
    ∀ R, decode1 ((encode n).map (·.toNat) ++ R) = some (n, ((encode n).map (·.toNat)).length) := by
  obtain ⟨bs, e, hb, _, hd⟩ := encode_scalar n hs
  have : (encode n).map (·.toNat) = bs := by
    rw [e, List.map_map]
    exact (List.map_congr_left fun b hm => byte_toNat b (hb b hm)).trans (List.map_id _)
  rw [this]; exact hd

theorem reads_encode (n : Nat) (hs : isScalar n = true) (hn : n ≠ 0) : Reads .p0 ((encode n).map (·.toNat)) (pack n) := by
  have := reads_of_decode1 _ n _ (decode1_encode n hs []) hn
  rwa [List.append_nil, List.take_length] at this

theorem emit_encodeAll (cps : List Nat) (hs : ∀ c ∈ cps, isScalar c = true ∧ c ≠ 0) :
    emit .p0 ((encodeAll cps).map (·.toNat)) = cps.map pack ∧ endState .p0 ((encodeAll cps).map (·.toNat)) = .p0 := by
  induction cps with
  | nil => exact ⟨rfl, rfl⟩
  | cons c cs ih =>
    have hc := hs c (by simp)
    have e := (reads_encode c hc.1 hc.2).emit ((encodeAll cs).map (·.toNat))
    have ih' := ih fun x hx => hs x (by simp [hx])
    simp only [encodeAll, List.flatMap_cons, List.map_append, List.map_cons] at e ih' ⊢
    rw [e.1, e.2, ih'.1, ih'.2]; exact ⟨rfl, rfl⟩

/-- The loop of `Insert` reads a packed non-zero scalar value back from its buffer (`uString_pack`: `_u_string` fills it with
    `encode n`). -/
theorem parseFirst_encode (n : Nat) (hs : isScalar n = true) (hn : n ≠ 0) :
    parseFirst .p0 ((encode n).takeWhile (· ≠ 0)) = some (pack n) := by
  rw [takeWhile_encode n hs hn]
  exact (reads_encode n hs hn).parseFirst _ rfl

theorem lenient_encodeAll (cps : List Nat) (h : ∀ c ∈ cps, isScalar c = true) :
    lenientGo 0 ((encodeAll cps).map (·.toNat)) = cps := by
  induction cps with
  | nil => rfl
  | cons c cs ih =>
    have d := decode1_encode c (h c (by simp)) ((encodeAll cs).map (·.toNat))
    simp only [encodeAll, List.flatMap_cons, List.map_append] at d ih ⊢
    rw [L_take _ _ c (fun e => encode_ne_nil c (List.map_eq_nil_iff.mp e)) d, ih fun x hx => h x (by simp [hx])]

end BlocV.Mod.Utf8
