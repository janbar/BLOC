/-
  The RFC 3629 bit layout on the base-64 digits of a code point (`encode` of `a * 0x1000 + x * 0x40 + y` is
  `E0+a, 80+x, 80+y`, and so on for two and four bytes), the independent decoder on such a sequence,
  `_u_string` on the packed bytes.
-/
import BlocV.Model.Mod.Utf8
import BlocV.Spec.Utf8

namespace BlocV.Mod.Utf8
open BlocV.Spec.Utf8 (isScalar encode encodeAll pack packBE decode1 isCont)

theorem byte_toNat (k : Nat) (h : k < 256) : (Spec.Utf8.byte k).toNat = k := by
  simp [Spec.Utf8.byte]; omega

theorem byte_ne_zero (k : Nat) (h : k < 256) (h0 : k ≠ 0) : Spec.Utf8.byte k ≠ 0 := by
  intro e
  have := byte_toNat k h
  rw [e] at this
  exact h0 this.symm

theorem digit (B m y : Nat) (hy : y < B) : (m * B + y) / B = m ∧ (m * B + y) % B = y := by
  have hB : 0 < B := Nat.lt_of_le_of_lt (Nat.zero_le _) hy
  constructor
  · rw [Nat.mul_comm, Nat.mul_add_div hB, Nat.div_eq_of_lt hy, Nat.add_zero]
  · rw [Nat.mul_comm, Nat.mul_add_mod, Nat.mod_eq_of_lt hy]

/-- A scalar value by the length of its encoding, written in the base-64 digits the encoding lays out. -/
theorem scalar_digits (n : Nat) (h : isScalar n = true) :
    n < 0x80 ∨ (∃ a x, a < 32 ∧ x < 64 ∧ 0x80 ≤ n ∧ n = a * 0x40 + x)
      ∨ (∃ a x y, a < 16 ∧ x < 64 ∧ y < 64 ∧ 0x800 ≤ n ∧ n = a * 0x1000 + x * 0x40 + y)
      ∨ ∃ a x y z, a < 8 ∧ x < 64 ∧ y < 64 ∧ z < 64 ∧ 0x10000 ≤ n ∧ n = a * 0x40000 + x * 0x1000 + y * 0x40 + z := by
  have h64 : ∀ m, m % 0x40 < 64 := fun m => Nat.mod_lt _ (by decide)
  by_cases h1 : n < 0x80
  · exact .inl h1
  by_cases h2 : n < 0x800
  · exact .inr (.inl ⟨n / 0x40, n % 0x40, Nat.div_lt_of_lt_mul h2, h64 _, Nat.le_of_not_lt h1, by omega⟩)
  by_cases h3 : n < 0x10000
  · exact .inr (.inr (.inl ⟨n / 0x1000, n / 0x40 % 0x40, n % 0x40, Nat.div_lt_of_lt_mul h3, h64 _, h64 _,
      Nat.le_of_not_lt h2, by omega⟩))
  · have h4 : n < 0x200000 := by simp [isScalar] at h; omega
    exact .inr (.inr (.inr ⟨n / 0x40000, n / 0x1000 % 0x40, n / 0x40 % 0x40, n % 0x40, Nat.div_lt_of_lt_mul h4, h64 _,
      h64 _, h64 _, Nat.le_of_not_lt h3, by omega⟩))

theorem encode1 (n : Nat) (h : n < 0x80) : encode n = [n].map Spec.Utf8.byte := if_pos h

theorem encode2 (a x : Nat) (hx : x < 64) (h : 0x80 ≤ a * 0x40 + x) (ha : a < 32) :
    encode (a * 0x40 + x) = [0xC0 + a, 0x80 + x].map Spec.Utf8.byte := by
  have d := digit 0x40 a x hx
  unfold encode
  rw [if_neg (Nat.not_lt.mpr h), if_pos (by omega), d.1, d.2]
  rfl

/-- the digits are read off the Horner form, one `digit` at a time (`n / 0x1000 = n / 0x40 / 0x40`) -/
theorem encode3 (a x y : Nat) (hx : x < 64) (hy : y < 64) (h : 0x800 ≤ a * 0x1000 + x * 0x40 + y) (ha : a < 16) :
    encode (a * 0x1000 + x * 0x40 + y) = [0xE0 + a, 0x80 + x, 0x80 + y].map Spec.Utf8.byte := by
  have e : a * 0x1000 + x * 0x40 + y = (a * 0x40 + x) * 0x40 + y := by omega
  have d0 := digit 0x40 (a * 0x40 + x) y hy
  have d1 := digit 0x40 a x hx
  unfold encode
  rw [if_neg (Nat.not_lt.mpr (Nat.le_trans (by decide) h)), if_neg (Nat.not_lt.mpr h), if_pos (by omega), e,
    ← Nat.div_div_eq_div_mul ((a * 0x40 + x) * 0x40 + y) 0x40 0x40, d0.1, d0.2, d1.1, d1.2]
  rfl

/-- no bound on `a`: the last branch of `encode` tests nothing -/
theorem encode4 (a x y z : Nat) (hx : x < 64) (hy : y < 64) (hz : z < 64) (h : 0x10000 ≤ a * 0x40000 + x * 0x1000 + y * 0x40 + z) :
    encode (a * 0x40000 + x * 0x1000 + y * 0x40 + z)
      = [0xF0 + a, 0x80 + x, 0x80 + y, 0x80 + z].map Spec.Utf8.byte := by
  have e : a * 0x40000 + x * 0x1000 + y * 0x40 + z = ((a * 0x40 + x) * 0x40 + y) * 0x40 + z := by omega
  have d0 := digit 0x40 ((a * 0x40 + x) * 0x40 + y) z hz
  have d1 := digit 0x40 (a * 0x40 + x) y hy
  have d2 := digit 0x40 a x hx
  unfold encode
  rw [if_neg (Nat.not_lt.mpr (Nat.le_trans (by decide) h)), if_neg (Nat.not_lt.mpr (Nat.le_trans (by decide) h)),
    if_neg (Nat.not_lt.mpr h), e,
    ← Nat.div_div_eq_div_mul (((a * 0x40 + x) * 0x40 + y) * 0x40 + z) 0x40 0x1000,
    ← Nat.div_div_eq_div_mul (((a * 0x40 + x) * 0x40 + y) * 0x40 + z) 0x40 0x40, d0.1, d0.2,
    ← Nat.div_div_eq_div_mul ((a * 0x40 + x) * 0x40 + y) 0x40 0x40, d1.1, d1.2, d2.1, d2.2]
  rfl

theorem isCont_digit {x : Nat} (h : x < 64) : isCont (0x80 + x) = true := by simp [isCont]; omega

theorem encode_scalar (n : Nat) (hs : isScalar n = true) :
    ∃ bs : List Nat, encode n = bs.map Spec.Utf8.byte ∧ (∀ b ∈ bs, b < 256) ∧ (n ≠ 0 → ∀ b ∈ bs, b ≠ 0)
      ∧ ∀ R, decode1 (bs ++ R) = some (n, bs.length) := by
  rcases scalar_digits n hs with h | ⟨a, x, ha, hx, h1, rfl⟩ | ⟨a, x, y, ha, hx, hy, h1, rfl⟩ |
    ⟨a, x, y, z, ha, hx, hy, hz, h1, rfl⟩
  · refine ⟨[n], encode1 n h, by simp; omega, by simp, fun R => ?_⟩
    simp [decode1, h]
  · refine ⟨[0xC0 + a, 0x80 + x], encode2 a x hx h1 ha, by simp; omega, by simp, fun R => ?_⟩
    simp only [decode1, List.cons_append, List.nil_append, Nat.add_sub_cancel_left, List.length_cons, List.length_nil]
    rw [if_neg (by omega), if_neg (by omega), if_pos (by omega), if_pos ⟨isCont_digit hx, h1⟩]
  · refine ⟨[0xE0 + a, 0x80 + x, 0x80 + y], encode3 a x y hx hy h1 ha, by simp; omega, by simp, fun R => ?_⟩
    simp only [decode1, List.cons_append, List.nil_append, Nat.add_sub_cancel_left, List.length_cons, List.length_nil]
    rw [if_neg (by omega), if_neg (by omega), if_neg (by omega), if_pos (by omega),
      if_pos ⟨isCont_digit hx, isCont_digit hy, h1, hs⟩]
  · refine ⟨[0xF0 + a, 0x80 + x, 0x80 + y, 0x80 + z], encode4 a x y z hx hy hz h1, by simp; omega, by simp, fun R => ?_⟩
    simp only [decode1, List.cons_append, List.nil_append, Nat.add_sub_cancel_left, List.length_cons, List.length_nil]
    rw [if_neg (by omega), if_neg (by omega), if_neg (by omega), if_neg (by omega), if_pos (by omega),
      if_pos ⟨isCont_digit hx, isCont_digit hy, isCont_digit hz, h1, hs⟩]

theorem encode_ne_zero (n : Nat) (hs : isScalar n = true) (hn : n ≠ 0) : ∀ c ∈ encode n, c ≠ 0 := by
  obtain ⟨bs, e, hb, h0, _⟩ := encode_scalar n hs
  intro c hc
  rw [e] at hc
  obtain ⟨b, hm, rfl⟩ := List.mem_map.mp hc
  exact byte_ne_zero b (hb b hm) (h0 hn b hm)

/-- the encoding of a non-zero scalar value has no NUL byte: `for (b = buf; *b; ++b)` walks all of it -/
theorem takeWhile_encode (n : Nat) (hs : isScalar n = true) (hn : n ≠ 0) : (encode n).takeWhile (· ≠ 0) = encode n := by
  have := List.takeWhile_append_of_pos (p := fun c : UInt8 => decide (c ≠ 0)) (l₂ := [])
    (fun c hc => decide_eq_true (encode_ne_zero n hs hn c hc))
  simpa using this

theorem encode_ne_nil (n : Nat) : encode n ≠ [] := by
  fun_cases encode n
  all_goals exact List.cons_ne_nil _ _

theorem packBE_bytes (bs : List Nat) (h : ∀ b ∈ bs, b < 256) :
    packBE (bs.map Spec.Utf8.byte) = bs.foldl (fun acc b => acc * 256 + b) 0 := by
  unfold packBE
  generalize 0 = acc
  induction bs generalizing acc with
  | nil => rfl
  | cons b bs ih =>
    simp only [List.map_cons, List.foldl_cons, byte_toNat b (h b (by simp))]
    exact ih (fun x hx => h x (by simp [hx])) _

theorem pack1 (n : Nat) (h : n < 0x80) : pack n = n := by
  rw [pack, encode1 n h]
  exact (packBE_bytes [n] (by simp; omega)).trans (by simp)

theorem uString_lt (u : Nat) (h : u < 0x100) : uString u = [byte u] := if_pos h

theorem uString_snoc (m b : Nat) (hm : 0 < m) (hm' : m < 0x1000000) (hb : b < 256) :
    uString (m * 256 + b) = uString m ++ [byte b] := by
  have e1 := (digit 256 m b hb).1
  have e2 : byte (m * 256 + b) = byte b := by unfold byte; rw [(digit 256 m b hb).2, Nat.mod_eq_of_lt hb]
  have e3 : (m * 256 + b) / 0x10000 = m / 0x100 := by rw [← Nat.div_div_eq_div_mul _ 256 256, e1]
  have e4 : (m * 256 + b) / 0x1000000 = m / 0x10000 := by rw [← Nat.div_div_eq_div_mul _ 256 0x10000, e1]
  unfold uString
  rw [e1, e2, e3, e4]
  by_cases h1 : m < 0x100
  · rw [if_neg (by omega), if_pos (by omega), if_pos h1]; rfl
  · by_cases h2 : m < 0x10000
    · rw [if_neg (by omega), if_neg (by omega), if_pos (by omega), if_neg h1, if_pos h2]; rfl
    · rw [if_neg (by omega), if_neg (by omega), if_neg (by omega), if_neg h1, if_neg h2, if_pos hm']; rfl

theorem uString_pack (n : Nat) (hs : isScalar n = true) : uString (pack n) = encode n := by
  rcases scalar_digits n hs with h | ⟨a, x, ha, hx, h1, rfl⟩ | ⟨a, x, y, ha, hx, hy, h1, rfl⟩ |
    ⟨a, x, y, z, ha, hx, hy, hz, h1, rfl⟩
  -- the closing `rfl`s: `Mod.Utf8.byte` (of `_u_string`) and `Spec.Utf8.byte` (of `encode`) are the same function
  · rw [pack1 n h, encode1 n h, uString_lt n (by omega)]; rfl
  · rw [pack, encode2 a x hx h1 ha, packBE_bytes [0xC0 + a, 0x80 + x] (by simp; omega)]
    simp only [List.foldl, Nat.zero_mul, Nat.zero_add]
    clear hs h1  -- `omega` reads every hypothesis
    rw [uString_snoc (0xC0 + a) (0x80 + x) (by omega) (by omega) (by omega), uString_lt _ (by omega)]; rfl
  · rw [pack, encode3 a x y hx hy h1 ha, packBE_bytes [0xE0 + a, 0x80 + x, 0x80 + y] (by simp; omega)]
    simp only [List.foldl, Nat.zero_mul, Nat.zero_add]
    clear hs h1
    rw [uString_snoc ((0xE0 + a) * 256 + (0x80 + x)) (0x80 + y) (by omega) (by omega) (by omega),
      uString_snoc (0xE0 + a) (0x80 + x) (by omega) (by omega) (by omega), uString_lt _ (by omega)]; rfl
  · rw [pack, encode4 a x y z hx hy hz h1, packBE_bytes [0xF0 + a, 0x80 + x, 0x80 + y, 0x80 + z] (by simp; omega)]
    simp only [List.foldl, Nat.zero_mul, Nat.zero_add]
    clear hs h1
    rw [uString_snoc (((0xF0 + a) * 256 + (0x80 + x)) * 256 + (0x80 + y)) (0x80 + z) (by omega) (by omega) (by omega),
      uString_snoc ((0xF0 + a) * 256 + (0x80 + x)) (0x80 + y) (by omega) (by omega) (by omega),
      uString_snoc (0xF0 + a) (0x80 + x) (by omega) (by omega) (by omega), uString_lt _ (by omega)]; rfl

theorem flatMap_uString_pack (cps : List Nat) (hs : ∀ c ∈ cps, isScalar c = true ∧ c ≠ 0) :
    (cps.map pack).flatMap uString = encodeAll cps := by
  rw [encodeAll, List.flatMap_map, List.flatMap_def, List.flatMap_def,
    List.map_congr_left fun c hc => uString_pack c (hs c hc).1]

end BlocV.Mod.Utf8
