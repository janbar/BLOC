/-
  The program level (Model/ObjProg.lean) refines the store level (Model/Plugin.lean, part S): whatever an instruction,
  a block, a loop or a call does to the store is a sequence of store-level operations.
  Every helper of the interpreter changes the store only through `sop`; the proofs follow the code and chain the facts
  `sop_reach`, `clearV_reach`, … of the helpers that succeeded (an error exit hands back the store it started from).
-/
import BlocV.Model.ObjProg
import BlocV.Proofs.Lemmas.Handle

namespace BlocV.Proofs.Refine
open BlocV.Plugin.H BlocV.Plugin.S BlocV.ObjProg BlocV.Proofs.Handle

def Reach (a b : SState) : Prop := ∃ ops, srun a ops = .ok b

theorem Reach.refl (a : SState) : Reach a a := ⟨[], rfl⟩

theorem Reach.trans {a b c : SState} : Reach a b → Reach b c → Reach a c
  | ⟨_, e1⟩, ⟨_, e2⟩ => ⟨_, srun_append e1 e2⟩

theorem sop_reach {st st' : St} {op : SOp} (h : sop st op = .ok st') : Reach st.s st'.s := by
  unfold sop at h
  split at h
  · cases h
  next s' hs => cases h; exact ⟨[op], by simp only [srun, hs]⟩

theorem foldlM_reach {α β : Type} (g : α → SState) {f : α → β → Except HErr α}
    (hf : ∀ {a x a'}, f a x = .ok a' → Reach (g a) (g a')) :
    ∀ {l : List β} {a a' : α}, l.foldlM f a = .ok a' → Reach (g a) (g a')
  | [], a, a', h => by cases h; exact .refl _
  | x :: l, a, a', h => by
    simp only [List.foldlM_cons, bind, Except.bind] at h
    split at h
    · cases h
    next a1 h1 => exact (hf h1).trans (foldlM_reach g hf h)

theorem clearV_reach {st st' : St} {v : V} (h : clearV st v = .ok st') : Reach st.s st'.s :=
  foldlM_reach (·.s) sop_reach h

theorem cloneV_reach {st st' : St} {v v' : V} {k : Nat} (h : cloneV st v k = .ok (st', v')) : Reach st.s st'.s := by
  unfold cloneV at h
  split at h
  · cases h; exact .refl _
  · split at h
    next h1 => cases h; exact sop_reach h1
    · cases h
  · split at h
    next hf =>
      cases h
      refine foldlM_reach (·.1.s) (fun hx => ?_) hf
      split at hx
      · cases hx; exact .refl _
      · split at hx
        next h2 => cases hx; exact sop_reach h2
        · cases hx
    · cases h

theorem storeVar_reach {st st' : St} {fr fr' : Frame} {x : String} {v : V} (h : storeVar st fr x v = .ok (st', fr')) :
    Reach st.s st'.s := by
  unfold storeVar at h
  split at h
  next h1 => cases h; exact clearV_reach h1
  · cases h

theorem resetSlots_reach {st st' : St} {c : Nat} (h : resetSlots st c = .ok st') : Reach st.s st'.s := by
  unfold resetSlots at h
  split at h
  next h1 => cases h; exact foldlM_reach (·.s) clearV_reach h1
  · cases h

theorem saveReturned_reach {st st' : St} {old r : Option V} {v : V} (h : saveReturned st old v = .ok (st', r)) :
    Reach st.s st'.s := by
  unfold saveReturned at h
  split at h
  · split at h
    next h1 => cases h; exact clearV_reach h1
    · cases h
  · cases h; exact .refl _

theorem dropReturned_reach {st st' : St} {old r : Option V} (h : dropReturned st old = .ok (st', r)) :
    Reach st.s st'.s := by
  unfold dropReturned at h
  split at h
  · split at h
    next h1 => cases h; exact clearV_reach h1
    · cases h
  · cases h; exact .refl _

@[simp] theorem setCache_s (st : St) (r : Nat) (f : String) (l : List Nat) : (setCache st r f l).s = st.s := by
  unfold setCache; split <;> rfl

/-- The induction hypothesis in the form in which `split` hands a run over: through an equation `h`. -/
theorem of_execList {funcs : List Func} {root fuel : Nat}
    (ih : ∀ is st fr, Reach st.s (execList funcs root fuel is st fr).1.s) {is : List Instr} {st : St} {fr : Frame} {r : Step}
    (h : execList funcs root fuel is st fr = r) : Reach st.s r.1.s := h ▸ ih is st fr

theorem of_execLoop {funcs : List Func} {root fuel : Nat}
    (ih : ∀ n body st fr, Reach st.s (execLoop funcs root fuel n body st fr).1.s) {n : Nat} {body : List Instr} {st : St}
    {fr : Frame} {r : Step} (h : execLoop funcs root fuel n body st fr = r) : Reach st.s r.1.s := h ▸ ih n body st fr

theorem of_doCall {funcs : List Func} {root fuel : Nat}
    (ih : ∀ x f args thr st fr, Reach st.s (doCall funcs root fuel x f args thr st fr).1.s) {x f : String}
    {args : List String} {thr : Option String} {st : St} {fr : Frame} {r : Step}
    (h : doCall funcs root fuel x f args thr st fr = r) : Reach st.s r.1.s := h ▸ ih x f args thr st fr

/-- the four mutually recursive functions of the interpreter, at one fuel level -/
structure RefinesAt (funcs : List Func) (root fuel : Nat) : Prop where
  exec : ∀ ins st fr, Reach st.s (exec funcs root fuel ins st fr).1.s
  list : ∀ is st fr, Reach st.s (execList funcs root fuel is st fr).1.s
  loop : ∀ n body st fr, Reach st.s (execLoop funcs root fuel n body st fr).1.s
  call : ∀ x f args thr st fr, Reach st.s (doCall funcs root fuel x f args thr st fr).1.s

section Succ
variable {funcs : List Func} {root fuel : Nat}

/-- the common end of most instructions: what was computed is stored into a variable -/
theorem store_tail {st st1 : St} {fr : Frame} {x : String} {v : V} (h1 : Reach st.s st1.s) :
    Reach st.s (match storeVar st1 fr x v with
      | .ok (st2, fr2) => (st2, fr2, Out.ok)
      | .error e => failHaz st fr e).1.s := by
  split
  next h2 => exact h1.trans (storeVar_reach h2)
  · exact .refl _

theorem exec_succ (ih : RefinesAt funcs root fuel) (ins : Instr) (st : St) (fr : Frame) :
    Reach st.s (exec funcs root (fuel + 1) ins st fr).1.s := by
  cases ins with
  | new x k =>
    simp only [exec]
    split
    · exact .refl _
    next h1 =>
      -- `sop_reach` first: elaborated against the goal it would take the goal's state (that of `h1` with an event
      -- recorded, the same `.s`) for the one `sop` returned
      have h1 := sop_reach h1; exact store_tail h1
  | cp x y =>
    simp only [exec]
    split
    · exact .refl _
    · split
      · exact .refl _
      next h1 => exact store_tail (cloneV_reach h1)
  | nul x => simp only [exec]; exact store_tail (.refl _)
  | self x y =>
    simp only [exec]
    split
    · split
      · exact .refl _
      · split
        · exact .refl _
        · split
          · exact .refl _
          next h1 => have h1 := cloneV_reach h1; exact store_tail h1
    · split
      · exact .refl _
      · exact store_tail (.refl _)
  | spawn x y k =>
    simp only [exec]
    split
    · split
      · exact .refl _
      · split
        · exact .refl _
        next h1 => have h1 := sop_reach h1; exact store_tail h1
    · split
      · exact .refl _
      · exact store_tail (.refl _)
  | id y | peer y z =>
    simp only [exec]
    split
    · split <;> exact .refl _
    · exact .refl _
  | tnew t n x =>
    simp only [exec]
    split
    · exact .refl _
    next hf =>
      refine store_tail (foldlM_reach (·.1.s) (fun hx => ?_) hf)
      split at hx
      · split at hx
        next h1 => cases hx; exact sop_reach h1
        · cases hx
      · cases hx; exact .refl _
  | tput t i x =>
    simp only [exec]
    split
    · split
      · split
        · exact .refl _
        next h1 =>
          split
          · exact .refl _
          next h2 => exact (cloneV_reach h1).trans (clearV_reach h2)
      · exact .refl _
    · exact .refl _
  | tat x t i =>
    simp only [exec]
    split
    · split
      · split
        · exact .refl _
        next h1 => exact store_tail (cloneV_reach h1)
      · exact .refl _
    · exact store_tail (.refl _)
  | tmp k | mthrow k =>
    simp only [exec]
    split
    · exact .refl _
    next h1 =>
      split
      next h2 => have h2 := sop_reach h2; exact (sop_reach h1).trans h2
      · exact .refl _
  | call x f args | callThrow f args y => exact ih.call ..
  | ret x =>
    simp only [exec]
    split
    · exact .refl _
    next h1 => exact cloneV_reach h1
  | stop | newf x b => exact .refl _
  | try_ body handler =>
    simp only [exec]
    split
    next h1 => exact (of_execList ih.list h1).trans (ih.list ..)
    · exact ih.list ..
  | loop n body => exact ih.loop ..
  | tdel t i =>
    simp only [exec]
    split
    · split
      · split
        · exact .refl _
        next h1 => exact clearV_reach h1
      · exact .refl _
    · exact .refl _
  | tins t i x =>
    simp only [exec]
    split
    · split
      · split
        · exact .refl _
        next h1 => exact cloneV_reach h1
      · exact .refl _
    · exact .refl _
  | tcat t x =>
    simp only [exec]
    split
    · split
      · exact .refl _
      next h1 => exact cloneV_reach h1
    · exact .refl _
  | fall t => simp only [exec]; split <;> exact .refl _

theorem execList_succ (ih : RefinesAt funcs root fuel) (is : List Instr) (st : St) (fr : Frame) :
    Reach st.s (execList funcs root (fuel + 1) is st fr).1.s := by
  cases is with
  | nil => exact .refl _
  | cons i rest =>
    simp only [execList]
    split
    next h1 => exact (h1 ▸ ih.exec i st fr).trans (ih.list ..)
    · exact ih.exec ..

theorem execLoop_succ (ih : RefinesAt funcs root fuel) (n : Nat) (body : List Instr) (st : St) (fr : Frame) :
    Reach st.s (execLoop funcs root (fuel + 1) n body st fr).1.s := by
  cases n with
  | zero => exact .refl _
  | succ n =>
    simp only [execLoop]
    split
    next h1 => exact (of_execList ih.list h1).trans (ih.loop ..)
    · exact ih.list ..

theorem doCall_succ (ih : RefinesAt funcs root fuel) (x f : String) (args : List String) (thr : Option String)
    (st : St) (fr : Frame) : Reach st.s (doCall funcs root (fuel + 1) x f args thr st fr).1.s := by
  simp only [doCall]
  split
  · exact .refl _
  split
  · exact .refl _
  next st1 c hr =>
  -- the runtime context: a cached one with its slots reset, or a new one
  have h1 : Reach st.s st1.s := by
    split at hr
    · split at hr
      next h => cases hr; exact setCache_s .. ▸ resetSlots_reach h
      · cases hr
    · split at hr
      next h => cases hr; exact sop_reach h
      · cases hr
  split
  · exact .refl _
  next st2 vars hb =>
  have h2 : Reach st.s st2.s := by
    refine h1.trans (foldlM_reach (·.1.s) (fun hx => ?_) hb)
    split at hx
    next h => cases hx; exact cloneV_reach h
    · cases hx
  split
  · rw [setCache_s]; exact h2
  -- the body, then the locals are dropped and the context goes back to the cache
  generalize hE : execList funcs root fuel _ st2 _ = E
  obtain ⟨st3, cfr, out⟩ := E
  have h3 : Reach st.s st3.s := h2.trans (of_execList ih.list hE)
  dsimp only
  split
  · exact .refl _
  next st4 h4 =>
  have h5 : Reach st.s (setCache st4 root f (c :: getCache st4 root f)).s := by
    rw [setCache_s]; exact h3.trans (foldlM_reach (·.s) clearV_reach h4)
  split
  · split
    · exact .refl _
    next hg => exact store_tail (h5.trans (foldlM_reach (·.s) sop_reach hg))
  · exact store_tail h5
  · exact h5
  · exact h5

end Succ

theorem exec_refines (funcs : List Func) (root : Nat) : ∀ fuel, RefinesAt funcs root fuel
  | 0 => ⟨fun _ _ _ => .refl _, fun _ _ _ => .refl _, fun _ _ _ _ => .refl _, fun _ _ _ _ _ _ => .refl _⟩
  | fuel + 1 =>
    have ih := exec_refines funcs root fuel
    ⟨exec_succ ih, execList_succ ih, execLoop_succ ih, doCall_succ ih⟩

end BlocV.Proofs.Refine
