/-
  The readers of source text (Model/LexReaders.lean): every transcribed `read` satisfies the equation of one loop body
  `genStep drop max`, which determines the call (`eq_genCall`: it is `genCall drop max`), and the sequence of calls of
  `genCall drop max` is the line discipline `lineSplit max` on the text without the dropped bytes (`gen_calls`); the
  readline line server. Then the converse of `lex_append` for one cut: a cut that does not change the token sequence is a
  safe split (`safeSplit_complete`). At the end, two closed evaluations that examples of Proofs/C13.lean share.
-/
import BlocV.Proofs.Lemmas.Lex

namespace BlocV.Lex

/-- The common shape of the four byte-by-byte readers: room is tested BEFORE a byte is taken, a byte of class
`drop` is skipped, any other byte is stored, a stored '\n' ends the call. -/
def genCall (drop : UInt8 → Bool) (max : Nat) : Bytes → Bytes → Bytes × Bytes
  | acc, [] => (acc.reverse, [])
  | acc, c :: t =>
    if acc.length < max then
      if drop c then genCall drop max acc t
      else if c = 10 then ((c :: acc).reverse, t)
      else genCall drop max (c :: acc) t
    else (acc.reverse, c :: t)

/-- the body of that loop, with `f` for the rest of the call -/
def genStep (drop : UInt8 → Bool) (max : Nat) (f : Bytes → Bytes → Bytes × Bytes) (acc : Bytes) : Bytes → Bytes × Bytes
  | [] => (acc.reverse, [])
  | c :: t =>
    if acc.length < max then
      if drop c then f acc t else if c = 10 then ((c :: acc).reverse, t) else f (c :: acc) t
    else (acc.reverse, c :: t)

def isCr (c : UInt8) : Bool := c == 13
def noDrop (_ : UInt8) : Bool := false

theorem eq_genCall (drop : UInt8 → Bool) (max : Nat) (f : Bytes → Bytes → Bytes × Bytes)
    (h : ∀ acc s, f acc s = genStep drop max f acc s) : f = genCall drop max := by
  funext acc s
  induction s generalizing acc with
  | nil => rw [h, genCall, genStep]
  | cons c t ih => rw [h, genCall, genStep]; simp only [ih]

theorem srCall_step (max : Nat) (acc s : Bytes) : srCall max acc s = genStep isCr max (srCall max) acc s := by
  cases s with
  | nil => rfl
  | cons c t =>
    rw [srCall, genStep]
    by_cases h13 : c = 13
    · subst h13; simp [isCr]
    · simp [isCr, h13]

theorem rfCall_step (max : Nat) (acc s : Bytes) : rfCall max acc s = genStep isCr max (rfCall max) acc s := by
  cases s with
  | nil => rfl
  | cons c t =>
    rw [rfCall, genStep]
    by_cases h10 : c = 10 <;> simp [isCr, h10]

theorem incCall_step (max : Nat) (acc s : Bytes) : incCall max acc s = genStep isCr max (incCall max) acc s := by
  cases s with
  | nil => rfl
  | cons c t =>
    rw [incCall, genStep]
    by_cases h10 : c = 10 <;> simp [isCr, h10]

theorem stdinCall_step (max : Nat) (acc s : Bytes) : stdinCall max acc s = genStep noDrop max (stdinCall max) acc s := by
  cases s with
  | nil => rfl
  | cons c t => rw [stdinCall, genStep]; simp [noDrop]

theorem genCall_full (drop : UInt8 → Bool) (max : Nat) (acc s : Bytes) (h : max ≤ acc.length) :
    genCall drop max acc s = (acc.reverse, s) := by
  cases s with
  | nil => simp [genCall]
  | cons c t =>
    have : ¬ acc.length < max := by omega
    simp [genCall, this]

theorem callsF_nil (drop : UInt8 → Bool) (max fuel : Nat) : callsF (genCall drop max []) fuel [] = [] := by
  cases fuel <;> simp [callsF, genCall]

/-- What `tokenizer_buf` makes of a call's result: nothing (end of input) when it is empty. -/
def emitCall (call : Bytes → Bytes × Bytes) (fuel : Nat) (r : Bytes × Bytes) : List Bytes :=
  if r.1.isEmpty then [] else r.1 :: callsF call fuel r.2

theorem callsF_succ (call : Bytes → Bytes × Bytes) (fuel : Nat) (s : Bytes) :
    callsF call (fuel + 1) s = emitCall call fuel (call s) := rfl

/-- `keep isCr` is `stripCr`, by `rfl` -/
def keep (drop : UInt8 → Bool) (s : Bytes) : Bytes := s.filter fun c => !drop c

theorem gen_calls (drop : UInt8 → Bool) (max : Nat) : ∀ (s acc : Bytes) (fuel : Nat),
    acc.length < max → s.length ≤ fuel →
    emitCall (genCall drop max []) fuel (genCall drop max acc s) = lineSplitAux max acc (keep drop s) := by
  intro s
  induction s with
  | nil =>
    intro acc fuel _ _
    simp only [genCall, emitCall, keep, List.filter_nil, lineSplitAux, callsF_nil]
    cases acc <;> simp
  | cons c t ih =>
    intro acc fuel hacc hfuel
    have ht : t.length ≤ fuel := by simp at hfuel; omega
    -- the call returns the chunk `(c :: acc).reverse`: the rest of the text is served from an empty buffer
    have closed : emitCall (genCall drop max []) fuel ((c :: acc).reverse, t) =
        (c :: acc).reverse :: lineSplitAux max [] (keep drop t) := by
      cases fuel with
      | zero => simp at hfuel
      | succ f =>
        rw [← ih [] f (by simp only [List.length_nil]; omega) (by simp at hfuel; omega), ← callsF_succ]
        simp [emitCall]
    rw [genCall, if_pos hacc]
    by_cases hd : drop c = true
    · rw [if_pos hd, show keep drop (c :: t) = keep drop t by simp [keep, hd]]
      exact ih acc fuel hacc ht
    · rw [if_neg hd, show keep drop (c :: t) = c :: keep drop t by simp [keep, hd], lineSplitAux_cons]
      by_cases h10 : c = 10
      · rw [if_pos h10, if_pos (Or.inl h10)]
        exact closed
      · rw [if_neg h10]
        by_cases hfull : acc.length + 1 = max
        · rw [genCall_full drop max (c :: acc) t (Nat.le_of_eq hfull.symm), if_pos (Or.inr hfull)]
          exact closed
        · rw [if_neg (not_or.mpr ⟨h10, hfull⟩)]
          exact ih (c :: acc) fuel (by simp only [List.length_cons]; omega) ht

theorem reader_eq_lineSplit {drop : UInt8 → Bool} {max : Nat} (hmax : 1 ≤ max) {f : Bytes → Bytes → Bytes × Bytes}
    (h : ∀ acc s, f acc s = genStep drop max f acc s)
    (text : Bytes) : calls (f []) text = lineSplit max (keep drop text) := by
  rw [eq_genCall drop max f h]
  exact gen_calls drop max text [] text.length hmax (Nat.le_refl _)

theorem keep_noDrop (s : Bytes) : keep noDrop s = s := by
  unfold keep noDrop
  simp

theorem rlCopy_full (max : Nat) (acc s : Bytes) (h : max ≤ acc.length) : rlCopy max acc s = (acc.reverse, s, false) := by
  cases s with
  | nil => simp [rlCopy]
  | cons c t =>
    have : ¬ acc.length < max := by omega
    simp [rlCopy, this]

/-- `rlCall` + the rest of the line's calls, with the later calls abstracted as `K`. -/
def rlFinish (max : Nat) (K : Bytes → List Bytes) (r : Bytes × Bytes × Bool) : List Bytes :=
  if r.2.2 then r.1 :: K r.2.1 else if max ≤ r.1.length then r.1 :: K r.2.1 else [r.1 ++ [10]]

theorem readlineLineF_succ (max fuel : Nat) (rest : Bytes) :
    readlineLineF max (fuel + 1) rest = rlFinish max (readlineLineF max fuel) (rlCopy max [] rest) := by
  simp only [readlineLineF, rlCall, rlFinish]
  by_cases h1 : (rlCopy max [] rest).2.2 = true
  · simp [h1]
  · by_cases h2 : max ≤ (rlCopy max [] rest).1.length
    · simp [h1, h2]
    · simp [h1, h2]

/-- the inner induction (on the line) of `readlineLineF_eq`, whose outer one (on the number of calls) supplies `hK` -/
theorem rlFinish_eq_lineSplitAux (max N : Nat) (K : Bytes → List Bytes)
    (hK : ∀ r : Bytes, r.length < N → K r = lineSplitAux max [] (r ++ [10])) :
    ∀ (s acc : Bytes), s.length ≤ N → acc.length < max →
      rlFinish max K (rlCopy max acc s) = lineSplitAux max acc (s ++ [10]) := by
  intro s
  induction s with
  | nil =>
    intro acc _ hacc
    have h1 : ¬ max ≤ acc.length := by omega
    simp [rlCopy, rlFinish, h1, lineSplitAux]
  | cons c t ih =>
    intro acc hN hacc
    have ht : t.length < N := by simp at hN; omega
    rw [rlCopy, if_pos hacc, List.cons_append, lineSplitAux_cons]
    by_cases h10 : c = 10
    · rw [if_pos (beq_iff_eq.mpr h10), if_pos (Or.inl h10), rlFinish, if_pos rfl, hK t ht]
    · rw [if_neg (mt beq_iff_eq.mp h10)]
      by_cases hfull : acc.length + 1 = max
      · rw [rlCopy_full max (c :: acc) t (Nat.le_of_eq hfull.symm), if_pos (Or.inr hfull), rlFinish, if_neg Bool.false_ne_true,
          if_pos (by rw [List.length_reverse]; exact Nat.le_of_eq hfull.symm), hK t ht]
      · rw [if_neg (not_or.mpr ⟨h10, hfull⟩)]
        exact ih (c :: acc) (by omega) (by simp only [List.length_cons]; omega)

/-- One line served by the readline branch of `ReadInput::read` = the line discipline on `line ⏎`. Every call but the
last returns at least one byte of the line, and the '\n' may need a call of its own: `rest.length + 2` calls suffice. -/
theorem readlineLineF_eq (max : Nat) (hmax : 1 ≤ max) : ∀ (fuel : Nat) (rest : Bytes), rest.length + 2 ≤ fuel →
    readlineLineF max fuel rest = lineSplitAux max [] (rest ++ [10]) := by
  intro fuel
  induction fuel with
  | zero => intro rest h; omega
  | succ f ihf =>
    intro rest hlen
    rw [readlineLineF_succ]
    exact rlFinish_eq_lineSplitAux max rest.length _ (fun r hr => ihf r (by omega)) rest [] (Nat.le_refl _) (by simp; omega)

/-- what a rule's action can return: the default rule's `none` (the byte itself, < 256) or a token code ≥ 256 -/
def goodCode : Option Nat → Bool
  | none => true
  | some k => 256 ≤ k

theorem rule_codes_good (st : St) : (rulesOf st).all (fun r => goodCode r.code) = true := by
  cases st <;> decide

theorem pick_code_good (rules : List Rule) (h : rules.all (fun r => goodCode r.code) = true) (bol : Bool) (s : Bytes) :
    goodCode (pick rules bol s).1 = true := by
  induction rules with
  | nil => rfl
  | cons r rs ih =>
    simp only [List.all_cons, Bool.and_eq_true] at h
    simp only [pick]
    split
    · exact h.1
    · exact ih h.2

theorem emit_cons (code : Option Nat) (c : UInt8) (t : Bytes) (hc : c ≠ 0) :
    emit code (c :: t) = [⟨code.getD c.toNat, c :: t⟩] := by
  cases code with
  | some k => rfl
  | none => simp [emit, hc]

theorem emit_take (code : Option Nat) {c : UInt8} (s : Bytes) {n : Nat} (hc : c ≠ 0) (hn : 1 ≤ n) :
    emit code ((c :: s).take n) = [⟨code.getD c.toNat, (c :: s).take n⟩] := by
  rw [List.take_cons hn]
  exact emit_cons code c _ hc

/-- rule codes are ≥ 256, the default rule returns a byte: the token code tells which -/
theorem goodCode_inj {a b : Option Nat} {x : Nat} (hx : x < 256) (ga : goodCode a = true) (gb : goodCode b = true)
    (h : a.getD x = b.getD x) : a = b := by
  cases a with
  | none =>
    cases b with
    | none => rfl
    | some k => simp only [goodCode, decide_eq_true_eq, Option.getD] at gb h; omega
  | some k =>
    cases b with
    | none => simp only [goodCode, decide_eq_true_eq, Option.getD] at ga h; omega
    | some k' => exact congrArg some h

theorem noNul_drop (s : Bytes) (n : Nat) (h : noNul s = true) : noNul (s.drop n) = true :=
  noNul_iff.mpr fun x hx => noNul_iff.mp h x (List.mem_of_mem_drop hx)

/-- Two scans in one start condition, of texts with the same non-NUL first byte, whose token sequences begin with the
same token, begin with the same rule choice. -/
theorem pick_of_lex {st : St} {bol1 bol2 : Bool} {c : UInt8} {s1 s2 : Bytes} (hc : c ≠ 0) (X : List Tok)
    (h : (lex st bol1 (c :: s1)).1 = (lex st bol2 (c :: s2)).1 ++ X) :
    pick (rulesOf st) bol1 (c :: s1) = pick (rulesOf st) bol2 (c :: s2) := by
  have l1 := pick_le (rulesOf st) bol1 (c :: s1)
  have l2 := pick_le (rulesOf st) bol2 (c :: s2)
  have g1 := pick_code_good (rulesOf st) (rule_codes_good st) bol1 (c :: s1)
  have g2 := pick_code_good (rulesOf st) (rule_codes_good st) bol2 (c :: s2)
  rw [lex_cons _ _ _ _ rfl, lex_cons _ _ _ _ rfl, emit_take _ _ hc (pick_rulesOf_pos st bol1 c s1),
    emit_take _ _ hc (pick_rulesOf_pos st bol2 c s2)] at h
  generalize pick (rulesOf st) bol1 (c :: s1) = m1 at *
  generalize pick (rulesOf st) bol2 (c :: s2) = m2 at *
  simp only [List.cons_append, List.nil_append, List.cons.injEq, Tok.mk.injEq] at h
  -- the text of the first token has the length of the match
  have hlen := congrArg List.length h.1.2
  rw [List.length_take_of_le l1, List.length_take_of_le l2] at hlen
  exact Prod.ext (goodCode_inj c.toNat_lt g1 g2 h.1.1) hlen

theorem lex_append_conv {b : Bytes} {k : Nat} {r : Bytes} (hnn : noNul r = true) {st : St} {bol : Bool} {X : List Tok}
    (hnc : noCross b k st bol r = false) : (lex st bol (r ++ b)).1 ≠ (lex st bol r).1 ++ X := by
  fun_induction noCross b k st bol r with
  | case1 => cases hnc
  | case2 => cases hnc
  | case3 k st bol c t m ih =>
    intro heq
    -- the first tokens are equal, hence the rule choices are; then the rest of the scans differ
    have hpick : pick (rulesOf st) bol (c :: (t ++ b)) = m := pick_of_lex (noNul_cons c t hnn).1 X heq
    simp only [List.cons_append, hpick, beq_self_eq_true, Bool.true_and, Bool.or_eq_false_iff] at hnc
    rw [List.cons_append, lex_cons_append st bol c t b hpick rfl, lex_cons st bol c t (m := m) rfl, List.append_assoc] at heq
    exact ih (noNul_drop _ _ hnn) hnc.2 (List.append_cancel_left heq)

theorem safeSplit_complete (a b : Bytes) (ha : a ≠ []) (na : noNul a = true) (nb : noNul b = true)
    (h : lexChunks [a, b] = lexWhole (a ++ b)) : safeSplit a b = true := by
  cases b with
  | nil => simp [safeSplit, na, nb]
  | cons x u =>
    have hai := List.isEmpty_eq_false_iff.mpr ha
    rw [lexChunks, lexChunksFrom_cons _ _ ha na, lexChunksFrom_cons _ _ (List.cons_ne_nil x u) nb, lexChunksFrom, List.append_nil] at h
    unfold lexWhole at h
    cases hnc : noCross (x :: u) a.length .initial true a with
    | false => exact absurd h.symm (lex_append_conv na hnc)
    | true =>
      rw [lex_append (Nat.le_refl _) ha hnc] at h
      have h' := List.append_cancel_left h
      simp only [safeSplit, na, nb, hai, hnc, Bool.true_and, Bool.not_false, Bool.or_eq_true, List.isEmpty_iff, bolOk, beq_iff_eq]
      right
      cases hE : endsWithNl a with
      | true => left; rfl
      | false =>
        right
        rw [hE] at h'
        exact pick_of_lex (noNul_cons x u nb).1 [] (by rw [h', List.append_nil])

theorem exSafeSplit : safeSplit [97, 32, 61, 32, 49, 50, 59] [32, 98, 32, 61, 32, 51, 59] = true := by decide +kernel

theorem exSafeCuts : safeCuts [[120, 32, 61, 32], [34, 97, 98], [99, 92], [110, 34], [59, 32, 121], [32, 61, 32, 49]] = true := by
  decide +kernel

end BlocV.Lex
