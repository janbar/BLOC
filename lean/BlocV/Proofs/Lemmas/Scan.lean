/-
  From bytes to tokens in the INITIAL start condition, towards the scanning hypothesis `hscan` of
  `C12.program_roundtrip_bytes` (which the check evaluates; nothing here speaks of `unparse`).
  `first` / `nullable` of the regular expressions of tokenizer.lex, sound for the language `Matches` (Lemmas/Lex.lean): a rule
  whose first-set does not contain the next byte offers nothing (`cand_dead`), so at each byte at most 5 of the 24 rules are
  live (the digit 0: INTEGER, HEXANUM, DOUBLE, FLOAT, default; a letter: LITERALBEG, KEYWORD, default). With `longest_free`: when
  every live rule is `x`-free or a one-byte class, the rule choice on `lexeme ++ x :: rest` is the rule choice on the bare
  lexeme (`pick_localx`). Proved lexemes: an identifier followed by a separator (`lex_ident`), punctuation (`lex_punct`).
-/
import BlocV.Proofs.Lemmas.Lex

namespace BlocV.Scan
open BlocV.Lex

def nullable : Re → Bool
  | .cls _ => false
  | .lit l => l.isEmpty
  | .seq a b => nullable a && nullable b
  | .alt a b => nullable a || nullable b
  | .opt _ => true
  | .star _ => true
  | .plus _ => false

def first : Re → UInt8 → Bool
  | .cls p, c => p c
  | .lit [], _ => false
  | .lit (a :: _), c => a == c
  | .seq a b, c => first a c || (nullable a && first b c)
  | .alt a b, c => first a c || first b c
  | .opt a, c => first a c
  | .star p, c => p c
  | .plus p, c => p c

theorem nullable_of_matches : ∀ {r : Re}, Matches r [] → nullable r = true := by
  intro r
  induction r with
  | cls p => rintro ⟨c, h, _⟩; cases h
  | lit l => rintro rfl; rfl
  | seq a b iha ihb =>
    rintro ⟨u, v, h, ha, hb⟩
    obtain ⟨rfl, rfl⟩ := List.append_eq_nil_iff.mp h.symm
    simp [nullable, iha ha, ihb hb]
  | alt a b iha ihb =>
    rintro (m | m)
    · simp [nullable, iha m]
    · simp [nullable, ihb m]
  | opt a => intro _; rfl
  | star p => intro _; rfl
  | plus p => rintro ⟨h, _⟩; exact absurd rfl h

theorem first_of_matches {c : UInt8} : ∀ {r : Re} {w : Bytes}, Matches r (c :: w) → first r c = true := by
  intro r
  induction r with
  | cls p => rintro w ⟨c', h, hp⟩; cases h; exact hp
  | lit l => rintro w rfl; simp [first]
  | seq a b iha ihb =>
    rintro w ⟨u, v, h, ha, hb⟩
    cases u with
    | nil => cases h; simp [first, nullable_of_matches ha, ihb hb]
    | cons d u => cases h; simp [first, iha ha]
  | alt a b iha ihb =>
    rintro w (m | m)
    · simp [first, iha m]
    · simp [first, ihb m]
  | opt a iha =>
    rintro w (h | m)
    · cases h
    · exact iha m
  | star p => intro w m; exact List.all_eq_true.mp m c List.mem_cons_self
  | plus p => rintro w ⟨_, m⟩; exact List.all_eq_true.mp m c List.mem_cons_self

theorem cand_dead {r : Rule} {c : UInt8} (bol : Bool) (t : Bytes) (h : first r.re c = false) : cand r bol (c :: t) = 0 := by
  refine Nat.le_zero.mp (Nat.le_trans (cand_le_longest r bol _) (longest_le_of fun n _ hm => ?_))
  cases n with
  | zero => exact Nat.le_refl _
  | succ k =>
    -- a non-empty match begins with `c`
    rw [List.take_succ_cons] at hm
    rw [first_of_matches hm] at h
    cases h

theorem pick_skip {r : Rule} {rs : List Rule} {bol : Bool} {s : Bytes} (h : cand r bol s = 0) :
    pick (r :: rs) bol s = pick rs bol s := by
  simp [pick, h]

theorem pick_dead_prefix (pre rs : List Rule) (bol : Bool) (s : Bytes) (h : ∀ r ∈ pre, cand r bol s = 0) :
    pick (pre ++ rs) bol s = pick rs bol s := by
  induction pre with
  | nil => rfl
  | cons r pre ih =>
    rw [List.cons_append, pick_skip (h r (by simp))]
    exact ih (fun x hx => h x (by simp [hx]))

/-- the form in which the first-set tables are used: a prefix of rules none of whose first-sets holds the next byte -/
theorem pick_dead_first {pre rs : List Rule} {bol : Bool} {c : UInt8} {t : Bytes}
    (h : pre.all (fun r => !first r.re c) = true) : pick (pre ++ rs) bol (c :: t) = pick rs bol (c :: t) :=
  pick_dead_prefix pre rs bol _ fun r hr => cand_dead bol t (by simpa using List.all_eq_true.mp h r hr)

theorem pick_take {r : Rule} {rs : List Rule} {bol : Bool} {s : Bytes} {m : Nat} (hc : cand r bol s = m) (hm : 0 < m)
    (hrs : (pick rs bol s).2 ≤ m) : pick (r :: rs) bol s = (r.code, m) := by
  simp [pick, hc, hm, hrs]

def isCls : Re → Bool
  | .cls _ => true
  | _ => false

/-- the rule is dead at first byte `c`, or sees nothing beyond `x`, or is a one-byte class -/
def ruleOk (c x : UInt8) (r : Rule) : Bool := !first r.re c || freeOf x r.re || isCls r.re

theorem cand_localx {r : Rule} {c x : UInt8} (h : ruleOk c x r = true) (bol : Bool) (a q : Bytes) :
    cand r bol (c :: a ++ x :: q) = cand r bol (c :: a) := by
  simp only [ruleOk, Bool.or_eq_true, Bool.not_eq_true'] at h
  rcases h with (h | h) | h
  · rw [List.cons_append, cand_dead bol _ h, cand_dead bol _ h]
  · simp only [cand]; rw [longest_free h]
  · cases hr : r.re with
    | cls p => simp [cand, longest, hr, matchLens]
    | _ => simp [isCls, hr] at h

theorem pick_localx (rules : List Rule) (c x : UInt8) (h : rules.all (ruleOk c x) = true) (bol : Bool) (a q : Bytes) :
    pick rules bol (c :: a ++ x :: q) = pick rules bol (c :: a) :=
  pick_congr rules bol _ _ (fun r hr => cand_localx (List.all_eq_true.mp h r hr) bol a q)

/-- `rulesInitial` cut around the rules that are live at a letter or at `"`: LITERALBEG, KEYWORD, the default rule -/
def preA : List Rule := rulesInitial.take 1
def litR : Rule := { code := some tLITERALBEG, re := .seq (.opt reSP) (.lit [34]), src := "({SP}?\\\")" }
def preB : List Rule := (rulesInitial.drop 2).take 20
def kwR : Rule := { code := some tKEYWORD, re := reKEYWORD, src := "{KEYWORD}" }
def dfR : Rule := { code := none, re := .cls anyByte, src := ".|\\n" }

theorem rulesInitial_split : rulesInitial = preA ++ litR :: (preB ++ [kwR, dfR]) := rfl

theorem pick_default (bol : Bool) (c : UInt8) (t : Bytes) : pick [dfR] bol (c :: t) = (none, 1) := by
  simp [pick, cand, dfR, longest_any]

/-- bytes after which a word, a number or a closing token ends in the text `unparse` writes -/
def sepList : List UInt8 := [32, 40, 41, 44, 59, 10, 64, 58, 46]

/-- for a letter, only LITERALBEG, KEYWORD and the default rule are live (evaluated over the 256 bytes) -/
theorem tbl_letter (c : UInt8) (hc : isLetter c = true) :
    preA.all (fun r => !first r.re c) = true ∧ preB.all (fun r => !first r.re c) = true := by
  have h : ∀ n, n < 256 → isLetter (UInt8.ofNat n) = true →
      preA.all (fun r => !first r.re (UInt8.ofNat n)) = true ∧ preB.all (fun r => !first r.re (UInt8.ofNat n)) = true := by
    decide +kernel
  have := h c.toNat c.toNat_lt
  rw [UInt8.ofNat_toNat] at this
  exact this hc

theorem tbl_letter_sep (c : UInt8) (hl : isLetter c = true) : ∀ x ∈ sepList, rulesInitial.all (ruleOk c x) = true := by
  intro x hx
  have hsep : ∀ x ∈ sepList, (freeOf x litR.re && freeOf x kwR.re) = true := by decide
  have dead : ∀ l : List Rule, l.all (fun r => !first r.re c) = true → l.all (ruleOk c x) = true :=
    fun l h => List.all_eq_true.mpr fun r hr => by simp [ruleOk, List.all_eq_true.mp h r hr]
  have h := tbl_letter c hl
  have hs := hsep x hx
  simp only [Bool.and_eq_true] at hs
  rw [rulesInitial_split]
  simp only [List.all_append, List.all_cons, List.all_nil, Bool.and_eq_true, Bool.and_true]
  exact ⟨dead _ h.1, by simp [ruleOk, hs.1], dead _ h.2, by simp [ruleOk, hs.2], by simp [ruleOk, dfR, isCls]⟩

/-- an identifier: a letter, then letters and digits (`{LETTER}+[0-9a-zA-Z_$]*`) -/
def isIdent : Bytes → Bool
  | [] => false
  | c :: a => isLetter c && a.all isAlnum

/-- what an identifier cannot hold (`"`, '\n') is what `reKEYWORD` is free of: `Matches.free` -/
theorem ident_matches {c : UInt8} {a : Bytes} (hc : isLetter c = true) (ha : a.all isAlnum = true) :
    Matches reKEYWORD (c :: a) :=
  ⟨[c], a, rfl, ⟨by simp, by simp [hc]⟩, ha⟩

theorem longest_keyword (c : UInt8) (a : Bytes) (hc : isLetter c = true) (ha : a.all isAlnum = true) :
    longest reKEYWORD (c :: a) = a.length + 1 :=
  longest_full (ident_matches hc ha)

theorem litbeg_dead (bol : Bool) (s : Bytes) (h : 34 ∉ s) : cand litR bol s = 0 := by
  refine Nat.le_zero.mp (Nat.le_trans (cand_le_longest litR bol s) (longest_le_of fun n _ hm => ?_))
  obtain ⟨u, v, e, _, rfl⟩ := hm
  have : (34 : UInt8) ∈ s.take n := by rw [e]; simp
  exact absurd (List.mem_of_mem_take this) h

theorem pick_ident (bol : Bool) (c : UInt8) (a : Bytes) (hc : isLetter c = true) (ha : a.all isAlnum = true) :
    pick rulesInitial bol (c :: a) = (some tKEYWORD, a.length + 1) := by
  have ht := tbl_letter c hc
  rw [rulesInitial_split, pick_dead_first ht.1, pick_skip (litbeg_dead bol _ ((ident_matches hc ha).free (x := 34) (by decide))),
    pick_dead_first ht.2]
  have hk : cand kwR bol (c :: a) = a.length + 1 := by simp [cand, kwR, longest_keyword c a hc ha]
  exact pick_take hk (by omega) (by rw [pick_default]; simp)

/-- **Workhorse.** A lexeme `c :: a` followed by a byte `x` such that every rule is dead at `c`, `x`-free or a one-byte class:
the scanner's step on `lexeme ++ x :: q` is given by the rule choice on the BARE lexeme (decidable for a fixed lexeme). -/
theorem lex_lexeme (bol : Bool) (c : UInt8) (a : Bytes) (x : UInt8) (q : Bytes) (code : Option Nat)
    (hl : rulesInitial.all (ruleOk c x) = true) (hp : pick rulesInitial bol (c :: a) = (code, a.length + 1)) :
    lex .initial bol (c :: a ++ x :: q) =
      (emit code (c :: a) ++ (lex (nextSt .initial code) (endsNl (c :: a)) (x :: q)).1,
       (lex (nextSt .initial code) (endsNl (c :: a)) (x :: q)).2) :=
  lex_token .initial bol c a (x :: q) code
    ((pick_localx rulesInitial c x hl bol a q).trans hp)

/-- **Scanning an identifier / keyword followed by a separator**: one KEYWORD token, then the rest. -/
theorem lex_ident (bol : Bool) (n : Bytes) (hn : isIdent n = true) (x : UInt8) (hx : x ∈ sepList) (q : Bytes) :
    lex .initial bol (n ++ x :: q) =
      (⟨tKEYWORD, n⟩ :: (lex .initial false (x :: q)).1, (lex .initial false (x :: q)).2) := by
  cases n with
  | nil => simp [isIdent] at hn
  | cons c a =>
    simp only [isIdent, Bool.and_eq_true] at hn
    -- an identifier holds no '\n': the scanner is not at the beginning of a line after it (`endsNl` is `endsWithNl` under another name)
    have hnl : endsNl (c :: a) = false :=
      Bool.eq_false_iff.mpr fun h => (ident_matches hn.1 hn.2).free (x := 10) (by decide) (mem_of_endsWithNl h)
    rw [lex_lexeme bol c a x q (some tKEYWORD) (tbl_letter_sep c hn.1 x hx) (pick_ident bol c a hn.1 hn.2), hnl]
    rfl

/-- the bytes that are tokens by themselves whatever follows: `(` `)` `,` `;` `@` `~` -/
def punctList : List UInt8 := [40, 41, 44, 59, 64, 126]

theorem tbl_punct : ∀ c ∈ punctList, (rulesInitial.take 23).all (fun r => !first r.re c) = true := by decide +kernel

theorem rulesInitial_split23 : rulesInitial = rulesInitial.take 23 ++ [dfR] := rfl

/-- **Punctuation**: one default-rule token (code = the byte), whatever follows, at the beginning of a line or not. -/
theorem lex_punct (bol : Bool) (c : UInt8) (hc : c ∈ punctList) (t : Bytes) :
    lex .initial bol (c :: t) = (⟨c.toNat, [c]⟩ :: (lex .initial false t).1, (lex .initial false t).2) := by
  have hp : pick rulesInitial bol (c :: t) = (none, 1) := by
    rw [rulesInitial_split23, pick_dead_first (tbl_punct c hc)]
    exact pick_default bol c t
  have h0 : ∀ c ∈ punctList, (c == 0) = false ∧ endsNl [c] = false := by decide
  rw [← List.singleton_append, lex_token .initial bol c [] t none hp, (h0 c hc).2,
    show nextSt .initial none = .initial from rfl]
  simp [emit, (h0 c hc).1]

/-- `F(` — a name directly followed by `(`, as the unparser writes calls: KEYWORD, then `(`, then the arguments. -/
example (n : Bytes) (hn : isIdent n = true) (t : Bytes) :
    (lex .initial false (n ++ 40 :: t)).1 = ⟨tKEYWORD, n⟩ :: ⟨40, [40]⟩ :: (lex .initial false t).1 := by
  rw [lex_ident false n hn 40 (by decide) t, lex_punct false 40 (by decide) t]
  rfl

end BlocV.Scan
