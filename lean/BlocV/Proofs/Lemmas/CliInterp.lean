/-
  A bigger function table does not change a run whose calls all resolve in the smaller one (`ext_all`). If `fs'`
  answers every look-up the way `fs` does on the signatures `R` (`Ext.agree`), the functions found there have
  bodies whose calls are all in `R` (`Ext.closed`), and every call of the expression / statement is in `R`
  (`okE` / `okS`), then the eight functions of the interpreter's mutual block are the same functions with `fs'`
  as with `fs`: same result, same state, same fuel.
-/
import BlocV.Model.Interp
import BlocV.Proofs.Lemmas.Basics

namespace BlocV.Lemmas.CliInterp

/-- The look-up predicate of `callFunc`: same name, same number of parameters. -/
def sigP (name : String) (n : Nat) : Func → Bool := fun f => f.name == name && f.params.length == n

/-- The call `name(…n arguments…)` resolves in the table. -/
def resolves (fs : List Func) (name : String) (n : Nat) : Bool := (fs.find? (sigP name n)).isSome

mutual
  /-- every user-function call of the expression has its signature in `R` -/
  def okE (R : String → Nat → Bool) : Expr → Bool
    | .lit _ => true
    | .var _ => true
    | .un _ a => okE R a
    | .bin _ a b => okE R a && okE R b
    | .call _ args => okEs R args
    | .fcall n args => R n args.length && okEs R args
    | .member _ r args => okE R r && okEs R args
    | .errorE => true
    | .item e _ => okE R e
  def okEs (R : String → Nat → Bool) : List Expr → Bool
    | [] => true
    | a :: as => okE R a && okEs R as
end

mutual
  def okS (R : String → Nat → Bool) : Stmt → Bool
    | .nop => true
    | .letS _ e => okE R e
    | .doS e => okE R e
    | .printS es => okEs R es
    | .ifS rules => okRules R rules
    | .whileS c b => okE R c && okL R b
    | .forS _ b e step _ body => okE R b && okE R e && (match step with | some s => okE R s | none => true) && okL R body
    | .forallS _ src _ body => okE R src && okL R body
    | .beginS body catches => okL R body && okC R catches
    | .raiseS _ => true
    | .returnS none => true
    | .returnS (some e) => okE R e
    | .breakS => true
    | .continueS => true
    | .funcS _ _ _ _ _ => true          -- executing a declaration does nothing; its body counts when it is CALLED
  def okL (R : String → Nat → Bool) : List Stmt → Bool
    | [] => true
    | s :: rest => okS R s && okL R rest
  def okRules (R : String → Nat → Bool) : List (Option Expr × List Stmt) → Bool
    | [] => true
    | (c, b) :: rest => (match c with | some e => okE R e | none => true) && okL R b && okRules R rest
  def okC (R : String → Nat → Bool) : List (String × List Stmt) → Bool
    | [] => true
    | (_, b) :: rest => okL R b && okC R rest
end

/-- `fs'` extends `fs` on the signatures `R`. -/
structure Ext (R : String → Nat → Bool) (fs fs' : List Func) : Prop where
  agree : ∀ name n, R name n = true → fs'.find? (sigP name n) = fs.find? (sigP name n)
  closed : ∀ name n f, R name n = true → fs.find? (sigP name n) = some f → okL R f.body = true ∧ okC R f.catches = true

def AllEq (R : String → Nat → Bool) (fs fs' : List Func) (fuel : Nat) : Prop :=
  (∀ depth e, okE R e = true → eval fs' depth fuel e = eval fs depth fuel e) ∧
  (∀ depth name args, R name args.length = true → okEs R args = true → callFunc fs' depth fuel name args = callFunc fs depth fuel name args) ∧
  (∀ depth args, okEs R args = true → evalArgs fs' depth fuel args = evalArgs fs depth fuel args) ∧
  (∀ depth body catches, okL R body = true → okC R catches = true → execBlock fs' depth fuel body catches = execBlock fs depth fuel body catches) ∧
  (∀ depth l, okL R l = true → execList fs' depth fuel l = execList fs depth fuel l) ∧
  (∀ depth st, okS R st = true → exec fs' depth fuel st = exec fs depth fuel st) ∧
  (∀ depth es, okEs R es = true → evalPrint fs' depth fuel es = evalPrint fs depth fuel es) ∧
  (∀ depth rules, okRules R rules = true → execIf fs' depth fuel rules = execIf fs depth fuel rules)

theorem okEs_eq_all (R : String → Nat → Bool) (as : List Expr) : okEs R as = as.all (okE R) :=
  List.all_of_cons rfl (fun _ _ => rfl) as

theorem okC_eq_all (R : String → Nat → Bool) (cs : List (String × List Stmt)) : okC R cs = cs.all fun c => okL R c.2 :=
  List.all_of_cons rfl (fun _ _ => rfl) cs

section step
variable {R : String → Nat → Bool} {fs fs' : List Func} {fuel : Nat}

theorem AllEq.exec (h : AllEq R fs fs' fuel) :
    ∀ depth st, okS R st = true → BlocV.exec fs' depth fuel st = BlocV.exec fs depth fuel st := h.2.2.2.2.2.1

variable (ih : AllEq R fs fs' fuel)
include ih

theorem eval_step (depth : Nat) (e : Expr) (hok : okE R e = true) :
    eval fs' depth (fuel + 1) e = eval fs depth (fuel + 1) e := by
  obtain ⟨ihE, ihC, ihA, -, -, -, -, -⟩ := ih
  have hm : ∀ args, okEs R args = true → List.map (eval fs' depth fuel) args = List.map (eval fs depth fuel) args :=
    fun args hok => List.map_congr_left fun a ha => ihE depth a (List.all_eq_true.1 (okEs_eq_all R args ▸ hok) a ha)
  unfold eval
  split <;> first | rfl | (simp only [okE, Bool.and_eq_true] at hok; simp only [ihE, ihC, ihA, hm, hok])

theorem callFunc_step (hx : Ext R fs fs') (depth : Nat) (name : String) (args : List Expr)
    (hr : R name args.length = true) (hok : okEs R args = true) :
    callFunc fs' depth (fuel + 1) name args = callFunc fs depth (fuel + 1) name args := by
  obtain ⟨-, -, ihA, ihB, -, -, -, -⟩ := ih
  have hag := hx.agree name args.length hr
  unfold sigP at hag
  unfold callFunc
  simp only [hag]
  cases hf : fs.find? (fun f => f.name == name && f.params.length == args.length) with
  | none => rfl
  | some f =>
    have hcl := hx.closed name args.length f hr hf
    simp only [ihA _ _ hok, ihB _ _ _ hcl.1 hcl.2]

theorem evalArgs_step (depth : Nat) (args : List Expr) (hok : okEs R args = true) :
    evalArgs fs' depth (fuel + 1) args = evalArgs fs depth (fuel + 1) args := by
  obtain ⟨ihE, -, ihA, -, -, -, -, -⟩ := ih
  cases args with
  | nil => simp only [evalArgs]
  | cons a as =>
    simp only [okEs, Bool.and_eq_true] at hok
    simp only [evalArgs, ihE _ _ hok.1, ihA _ _ hok.2]

theorem execBlock_step (depth : Nat) (body : List Stmt) (catches : List (String × List Stmt))
    (hb : okL R body = true) (hc : okC R catches = true) :
    execBlock fs' depth (fuel + 1) body catches = execBlock fs depth (fuel + 1) body catches := by
  obtain ⟨-, -, -, -, ihL, -, -, -⟩ := ih
  unfold execBlock
  funext s
  rw [ihL _ _ hb]
  split
  · split
    · rfl
    · split
      · rename_i n handler hfind
        rw [ihL _ _ (List.all_find? (q := fun c => okL R c.2) (okC_eq_all R catches ▸ hc) hfind)]
      · rfl
  · rfl

theorem execList_step (depth : Nat) (l : List Stmt) (hok : okL R l = true) :
    execList fs' depth (fuel + 1) l = execList fs depth (fuel + 1) l := by
  obtain ⟨-, -, -, -, ihL, ihS, -, -⟩ := ih
  cases l with
  | nil => simp only [execList]
  | cons a as =>
    simp only [okL, Bool.and_eq_true] at hok
    simp only [execList, ihS _ _ hok.1, ihL _ _ hok.2]

theorem evalPrint_step (depth : Nat) (l : List Expr) (hok : okEs R l = true) :
    evalPrint fs' depth (fuel + 1) l = evalPrint fs depth (fuel + 1) l := by
  obtain ⟨ihE, -, -, -, -, -, ihP, -⟩ := ih
  cases l with
  | nil => simp only [evalPrint]
  | cons a as =>
    simp only [okEs, Bool.and_eq_true] at hok
    simp only [evalPrint, ihE _ _ hok.1, ihP _ _ hok.2]

theorem execIf_step (depth : Nat) (l : List (Option Expr × List Stmt)) (hok : okRules R l = true) :
    execIf fs' depth (fuel + 1) l = execIf fs depth (fuel + 1) l := by
  obtain ⟨ihE, -, -, -, ihL, -, -, ihI⟩ := ih
  cases l with
  | nil => simp only [execIf]
  | cons a as =>
    obtain ⟨c, b⟩ := a
    simp only [okRules, Bool.and_eq_true] at hok
    cases c with
    | none => simp only [execIf, ihL _ _ hok.1.2]
    | some ce => simp only [execIf, ihE _ _ hok.1.1, ihL _ _ hok.1.2, ihI _ _ hok.2]

theorem exec_step (depth : Nat) (st : Stmt) (hok : okS R st = true) :
    exec fs' depth (fuel + 1) st = exec fs depth (fuel + 1) st := by
  obtain ⟨ihE, -, -, ihB, ihL, -, ihP, ihI⟩ := ih
  -- the fourteen statement forms; `forS` split on its optional step, `returnS` on its optional expression
  rcases st with _ | _ | _ | _ | _ | _ | ⟨_, _, _, _ | _, _, _⟩ | _ | _ | _ | ⟨_ | _⟩ | _ | _ | _ <;>
    simp only [okS, Bool.and_eq_true, and_true] at hok <;> simp only [exec, ihE, ihL, ihB, ihP, ihI, hok] <;> rfl

end step

theorem ext_all {R : String → Nat → Bool} {fs fs' : List Func} (hx : Ext R fs fs') : ∀ fuel, AllEq R fs fs' fuel := by
  intro fuel
  induction fuel with
  | zero =>
    refine ⟨?_, ?_, ?_, ?_, ?_, ?_, ?_, ?_⟩ <;> intros <;>
      simp only [eval, callFunc, evalArgs, execBlock, execList, exec, evalPrint, execIf]
  | succ fuel ih =>
    exact ⟨eval_step ih, callFunc_step ih hx, evalArgs_step ih, execBlock_step ih, execList_step ih,
      exec_step ih, evalPrint_step ih, execIf_step ih⟩

end BlocV.Lemmas.CliInterp
