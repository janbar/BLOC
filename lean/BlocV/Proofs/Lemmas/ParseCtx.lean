/-
  Helper lemmas for Proofs/C11: `modAt`, `findName`, `findFn` (through `List.modify`, `List.findIdx?`), the restore loop, the
  catch blocks on the flag column, the effects a successful event can have (`Eff`, `step_eff`), `step` outside a function body
  as equations (`step_reg_none` …) and the end of a parse (`finish`),
  the invariants `Inv` (symbols, flags, exec depth) and `JInv` (function table and journal) of the event machine and their
  preservation, effect by effect; what is read off them at the end of a parse: the Spec (`preserved_of_inv`, `jinv_reject`)
  and that the symbols stay coherent (`coherent_parseText`).
-/
import BlocV.Model.ParseCtx

namespace BlocV.ParseCtx

variable {α : Type} {H : Decl → Nat}

theorem modAt_eq_modify (f : α → α) (i : Nat) (l : List α) : modAt f i l = l.modify i f := by
  induction l generalizing i with
  | nil => cases i <;> rfl
  | cons x xs ih => cases i <;> simp [modAt, ih]

theorem findName_eq (n : String) (l : List String) : findName n l = l.findIdx? (· = n) := by
  induction l with
  | nil => rfl
  | cons x xs ih => simp only [findName, List.findIdx?_cons, ih, decide_eq_true_eq]

theorem findFn_eq (n : String) (a : Nat) (l : List Fn) : findFn n a l = l.findIdx? (Fn.is n a) := by
  induction l with
  | nil => rfl
  | cons x xs ih => simp only [findFn, List.findIdx?_cons, ih]

theorem getElem?_modAt (f : α → α) (i j : Nat) (l : List α) :
    (modAt f i l)[j]? = l[j]?.map (if i = j then f else id) := by
  rw [modAt_eq_modify, List.getElem?_modify]
  split <;> simp [*]

@[simp] theorem length_modAt (f : α → α) (i : Nat) (l : List α) : (modAt f i l).length = l.length := by
  rw [modAt_eq_modify, List.length_modify]

theorem take_modAt (f : α → α) (i n : Nat) (l : List α) :
    (modAt f i l).take n = modAt f i (l.take n) := by
  simp only [modAt_eq_modify, List.take_modify]

theorem modAt_modAt (f g : α → α) (i : Nat) (l : List α) : modAt g i (modAt f i l) = modAt (g ∘ f) i l := by
  simp only [modAt_eq_modify, List.modify_modify_eq]

theorem modAt_append_left (f : α → α) (B : List α) : ∀ (A : List α) (i : Nat), i < A.length →
    modAt f i (A ++ B) = modAt f i A ++ B := by
  intro A
  induction A with
  | nil => intro i h; cases h
  | cons a A ih =>
    intro i h
    cases i with
    | zero => rfl
    | succ i => simp only [List.cons_append, modAt, ih i (Nat.lt_of_succ_lt_succ h)]

theorem modAt_append_right (f : α → α) (B : List α) (i : Nat) : ∀ A : List α, modAt f (A.length + i) (A ++ B) = A ++ modAt f i B := by
  intro A
  induction A with
  | nil => simp
  | cons a A ih => simp only [List.length_cons, Nat.succ_add, List.cons_append, modAt, ih]

theorem modAt_id_of {f : α → α} {i : Nat} {l : List α} {x : α} (hx : l[i]? = some x) (h : f x = x) :
    modAt f i l = l := by
  apply List.ext_getElem?
  intro j
  rw [getElem?_modAt]
  by_cases hij : i = j
  · subst hij; simp [hx, h]
  · simp [hij]

/-- writing back the value a write replaced undoes the write, on any front of the list: the backups of the symbols and the
journal of the functions both rest on this -/
theorem take_modAt_undo {l : List α} {i : Nat} {old : α} (new : α) (n : Nat) (h : l[i]? = some old) :
    modAt (fun _ => old) i ((modAt (fun _ => new) i l).take n) = l.take n := by
  rw [← take_modAt, modAt_modAt, modAt_id_of h (by rfl)]

theorem take_modAt_of_le {f : α → α} {i n : Nat} {l : List α} (h : n ≤ i) : (modAt f i l).take n = l.take n := by
  rw [take_modAt, modAt_eq_modify, List.modify_eq_self]
  exact Nat.le_trans (List.length_take_le n l) h

theorem modAt_eq_const {g : α → α} {i : Nat} {l : List α} {x : α} (h : l[i]? = some x) :
    modAt g i l = modAt (fun _ => g x) i l := by
  have := modAt_modAt (fun _ => x) g i l
  rw [modAt_id_of (f := fun _ => x) h rfl] at this
  exact this

theorem all_modAt_const {p : α → Bool} {v : α} {i : Nat} {l : List α} (hl : l.all p = true) (hv : p v = true) :
    (modAt (fun _ => v) i l).all p = true := by
  rw [List.all_eq_true] at hl ⊢
  intro x hx
  obtain ⟨j, hj⟩ := List.getElem?_of_mem hx
  rw [getElem?_modAt] at hj
  cases hy : l[j]? with
  | none => simp [hy] at hj
  | some y =>
    simp only [hy, Option.map_some, Option.some.injEq] at hj
    split at hj
    · exact hj ▸ hv
    · exact hj ▸ hl y (List.mem_of_getElem? hy)

theorem findIdx?_get {p : α → Bool} {l : List α} {i : Nat} (h : l.findIdx? p = some i) :
    ∃ x, l[i]? = some x ∧ p x = true := by
  obtain ⟨hi, hp, _⟩ := List.findIdx?_eq_some_iff_getElem.mp h
  exact ⟨l[i], List.getElem?_eq_getElem hi, hp⟩

theorem Fn.is_iff {n : String} {a : Nat} {f : Fn} : f.is n a = true ↔ f.name = n ∧ f.arity = a := by
  simp only [Fn.is, Bool.and_eq_true, beq_iff_eq]

theorem findFn_is {n : String} {a : Nat} {l : List Fn} {i : Nat} (h : findFn n a l = some i) :
    ∃ f, l[i]? = some f ∧ f.is n a = true :=
  findIdx?_get (findFn_eq n a l ▸ h)

theorem findFn_some_of_mem {n : String} {a : Nat} {l : List Fn} {f : Fn} (hf : f ∈ l) (h : f.is n a = true) :
    (findFn n a l).isSome = true := by
  rw [findFn_eq, List.findIdx?_isSome, List.any_eq_true]
  exact ⟨f, hf, h⟩

theorem findFn_take_none {n : String} {a : Nat} {l : List Fn} {m : Nat} {i : Nat}
    (hpre : findFn n a (l.take m) = none) (hi : findFn n a l = some i) : m ≤ i := by
  rw [findFn_eq] at hi
  rw [findFn_eq, List.findIdx?_take, hi] at hpre
  simpa using hpre

theorem findFn_of_take {n : String} {a : Nat} {l : List Fn} {m i : Nat}
    (h : findFn n a (l.take m) = some i) : findFn n a l = some i := by
  rw [findFn_eq, List.findIdx?_take] at h
  rw [findFn_eq]
  cases hf : l.findIdx? (Fn.is n a) with
  | none => simp [hf] at h
  | some k => simp only [hf, Option.bind_some, Option.guard_eq_some_iff] at h; rw [h.1]

theorem findFn_modAt_same {n : String} {a : Nat} {l : List Fn} {i : Nat} {f : Fn}
    (h : findFn n a l = some i) (hf : f.is n a = true) : findFn n a (modAt (fun _ => f) i l) = some i := by
  rw [findFn_eq] at h ⊢
  obtain ⟨hi, _, hlt⟩ := List.findIdx?_eq_some_iff_getElem.mp h
  rw [modAt_eq_modify]
  refine List.findIdx?_eq_some_iff_getElem.mpr ⟨by rwa [List.length_modify], by rwa [List.getElem_modify_eq], fun j hj => ?_⟩
  rw [List.getElem_modify_ne _ _ (Nat.ne_of_gt hj)]
  exact hlt j hj

theorem findFn_append (n : String) (a : Nat) (l1 l2 : List Fn) :
    findFn n a (l1 ++ l2) = (findFn n a l1).or ((findFn n a l2).map (· + l1.length)) := by
  simp only [findFn_eq, List.findIdx?_append]

theorem take_restoreAll (H : Decl → Nat) (bs : List Backup) (tds : List TD) (n : Nat) :
    (restoreAll H bs tds).take n = restoreAll H bs (tds.take n) := by
  induction bs generalizing tds with
  | nil => rfl
  | cons b bs ih =>
    simp only [restoreAll, restoreOne]
    rw [ih, take_modAt]

theorem length_restoreAll (H : Decl → Nat) (bs : List Backup) (tds : List TD) :
    (restoreAll H bs tds).length = tds.length := by
  induction bs generalizing tds with
  | nil => rfl
  | cons b bs ih => simp only [restoreAll, restoreOne]; rw [ih, length_modAt]

theorem restoreTD_of_coherent (H : Decl → Nat) (i : Nat) (td : TD) (h : td.coherent H = true) :
    restoreTD H ⟨i, td⟩ = td := by
  obtain ⟨t, d⟩ := td
  cases d with
  | nil => simp [restoreTD]
  | cons a d =>
    have ht : t = mkTupleTy H (a :: d) t.level := by simpa [TD.coherent] using h
    have hm : t.major = ROWTYPE := by rw [ht]; rfl
    simp only [restoreTD, hm, List.isEmpty_cons, Bool.false_eq_true, not_false_eq_true, and_self, if_true]
    rw [← ht]

/-- every symbol the code can build is coherent -/
theorem RegTy.td_coherent (H : Decl → Nat) (r : RegTy) : (r.td H).coherent H = true := by
  cases r with
  | plain t => simp [RegTy.td, TD.coherent]
  | tuple d lv =>
    have hl : (mkTupleTy H d lv).level = lv := by unfold mkTupleTy; split <;> rfl
    simp [RegTy.td, TD.coherent, hl]

theorem coherent_restoreTD (H : Decl → Nat) (b : Backup) : (restoreTD H b).coherent H = true := by
  unfold restoreTD
  split
  · exact RegTy.td_coherent H (.tuple b.td.2 b.td.1.level)
  · exact RegTy.td_coherent H (.plain b.td.1)

/-- the flag part of `unwindFrames`: the catch blocks of the open clauses, innermost first -/
def unwindFls : List Frame → List Fl → List Fl
  | [], fls => fls
  | fr :: rest, fls => unwindFls rest (fr.catchFls fls)

theorem take_catchFls (fr : Frame) (fls : List Fl) (n : Nat) : (fr.catchFls fls).take n = fr.catchFls (fls.take n) := by
  cases fr with
  | blk => rfl
  | forC i sb => simp [Frame.catchFls, take_modAt]
  | forallC v sb lb tgt =>
    cases tgt with
    | none => simp [Frame.catchFls, take_modAt]
    | some p => obtain ⟨t, lt⟩ := p; simp [Frame.catchFls, take_modAt]

theorem catchFls_length (fr : Frame) (fls : List Fl) : (fr.catchFls fls).length = fls.length := by
  cases fr with
  | blk => rfl
  | forC i sb => simp [Frame.catchFls]
  | forallC v sb lb tgt =>
    cases tgt with
    | none => simp [Frame.catchFls]
    | some p => simp [Frame.catchFls]

theorem take_unwindFls (stk : List Frame) (fls : List Fl) (n : Nat) :
    (unwindFls stk fls).take n = unwindFls stk (fls.take n) := by
  induction stk generalizing fls with
  | nil => rfl
  | cons fr rest ih => simp only [unwindFls]; rw [ih, take_catchFls]

theorem normalFls_eq_catchFls (fr : Frame) (fls : List Fl) : fr.normalFls fls = fr.catchFls fls := by
  cases fr <;> rfl

theorem unwindFrames_eq (stk : List Frame) (c : Ctx) :
    unwindFrames stk c = { c with fls := unwindFls stk c.fls, exec := c.exec - stk.length } := by
  induction stk generalizing c with
  | nil => rfl
  | cons fr rest ih =>
    simp only [unwindFrames, ih, Frame.exitCatch, unwindFls, List.length_cons, Nat.sub_sub, Nat.add_comm]

theorem exitNormal_eq_exitCatch (fr : Frame) (c : Ctx) : fr.exitNormal c = fr.exitCatch c := by
  simp only [Frame.exitNormal, Frame.exitCatch, normalFls_eq_catchFls]

/-- FOR: restoring the saved getter value into `_safety` is exact because the control variable is not locked -/
theorem enterFor_undo {c c' : Ctx} {i : Nat} {fr : Frame} (h : enterFor c i = some (c', fr)) :
    c = fr.exitCatch c' ∧ c'.exec = c.exec + 1 := by
  unfold enterFor at h
  split at h
  · next fl hf =>
    split at h
    · cases h
    · next hl =>
      cases h
      obtain ⟨s, l⟩ := fl
      obtain rfl : l = false := by simpa [Fl.locked] using hl
      refine ⟨?_, rfl⟩
      cases c
      simp only [Frame.exitCatch, Frame.catchFls, Nat.add_sub_cancel, Ctx.mk.injEq, true_and, and_true, modAt_modAt]
      exact (modAt_id_of hf (by simp [setSafe, Fl.safety])).symm
  · cases h

/-- FORALL: same, with the lock of the target table and the inherited lock of the iterator -/
theorem enterForall_undo {c c' : Ctx} {v : Nat} {tgt : Option Nat} {fr : Frame}
    (h : enterForall c v tgt = some (c', fr)) : c = fr.exitCatch c' ∧ c'.exec = c.exec + 1 := by
  unfold enterForall at h
  cases hf : c.fls[v]? with
  | none => simp [hf] at h
  | some fv =>
    obtain ⟨sv, lv⟩ := fv
    simp only [hf] at h
    split at h
    · cases h
    · next hl =>
      simp only [Fl.locked, Bool.not_eq_true] at hl
      subst hl
      cases tgt with
      | none =>
        cases h
        refine ⟨?_, rfl⟩
        cases c
        simp only [Frame.exitCatch, Frame.catchFls, Nat.add_sub_cancel, Ctx.mk.injEq, true_and, and_true, modAt_modAt]
        exact (modAt_id_of hf (by simp [setSafe, setLock, Fl.safety, Fl.locked])).symm
      | some t =>
        simp only at h
        cases hft : (modAt (setSafe true) v c.fls)[t]? with
        | none => simp [hft] at h
        | some ft =>
          simp only [hft, Option.some.injEq, Prod.mk.injEq] at h
          obtain ⟨rfl, rfl⟩ := h
          refine ⟨?_, rfl⟩
          obtain ⟨names, tds, fls, backed, exec, parsing, fns, bk⟩ := c
          simp only [Frame.exitCatch, Frame.catchFls, Nat.add_sub_cancel, Ctx.mk.injEq, true_and, and_true]
          simp only at hf hft
          -- entry by entry: six writes, each at `v` or at `t`
          refine List.ext_getElem? fun j => ?_
          simp only [getElem?_modAt, Option.map_map]
          cases hy : fls[j]? with
          | none => rfl
          | some y =>
            have hv : v = j → y = (sv, false) := fun e => Option.some.inj (hy.symm.trans (e ▸ hf))
            -- the lock saved for the target is the one it had: `setSafe` does not write that field
            have ht : t = j → ft.2 = y.2 := fun e => by
              rw [getElem?_modAt, e, hy] at hft
              cases hft
              split <;> rfl
            by_cases hvj : v = j <;> by_cases htj : t = j <;>
              simp [hvj, htj, hv, ht, setSafe, setLock, Fl.safety, Fl.locked]

theorem registerSymbol_cases {c c' : Ctx} {n : String} {r : RegTy}
    (h : registerSymbol H c n r = .ok c') :
    (findName n c.names = none ∧
      c' = { c with names := c.names ++ [n], tds := c.tds ++ [r.td H], fls := c.fls ++ [(n.front == '$', false)] }) ∨
    (∃ i cur fl, findName n c.names = some i ∧ c.tds[i]? = some cur ∧ c.fls[i]? = some fl ∧ fl.locked = false ∧
      (c' = c ∨ c' = { c with backed := ⟨i, cur⟩ :: c.backed, tds := modAt (fun _ => r.td H) i c.tds })) := by
  revert h
  fun_cases registerSymbol H c n r with
  | case1 hn => exact fun h => Except.ok.inj h ▸ .inl ⟨hn, rfl⟩
  -- refused: locked, not convertible, an entry missing
  | case2 | case4 | case8 => nofun
  -- kept: the same type, or one that `checkSafety` takes for equal
  | case3 i hi cur fl hfl hcur hl | case5 i hi cur fl hfl hcur hl =>
    exact fun h => Except.ok.inj h ▸ .inr ⟨i, cur, fl, hi, hcur, hfl, Bool.eq_false_iff.mpr hl, .inl rfl⟩
  -- upgraded: `checkSafety` allows it, or the symbol is not type-safe
  | case6 i hi cur fl hfl hcur hl | case7 i hi cur fl hfl hcur hl =>
    exact fun h => Except.ok.inj h ▸ .inr ⟨i, cur, fl, hi, hcur, hfl, Bool.eq_false_iff.mpr hl, .inr rfl⟩

theorem registerSymbol_fns {c c' : Ctx} {n : String} {r : RegTy}
    (h : registerSymbol H c n r = .ok c') : c'.fns = c.fns := by
  rcases registerSymbol_cases h with ⟨_, rfl⟩ | ⟨i, cur, fl, _, _, _, _, rfl | rfl⟩ <;> rfl

/-! ## what a successful event does

Every successful `step` has one of seven effects; the invariants below are shown preserved effect by effect, without
going back to the definition of `step`. -/

def Ev.opens : Ev → Bool
  | .enterFor _ | .enterForall _ _ | .enterBlk => true
  | _ => false

inductive Eff (H : Decl → Nat) (st : St) : Ev → St → Prop
  /-- `registerSymbol` in the private context of a function body -/
  | same {e : Ev} : Eff H st e st
  /-- inside a function body only the nesting depth moves -/
  | depth {e : Ev} (ch : Child) (d : Nat) : st.child = some ch → Eff H st e { st with child := some { ch with depth := d } }
  /-- the end of a function body: its entry gets the body -/
  | done (ch : Child) (i : Nat) : st.child = some ch → findFn ch.name ch.arity st.ctx.fns = some i →
      Eff H st .leave ⟨{ st.ctx with fns := modAt (fun f => { f with body := true }) i st.ctx.fns }, st.stack, none, st.fmark, st.journal⟩
  | reg (n : String) (r : RegTy) (c : Ctx) : st.child = none → registerSymbol H st.ctx n r = .ok c →
      Eff H st (.reg n r) ⟨c, st.stack, none, st.fmark, st.journal⟩
  /-- a clause is entered: its catch block would give back the context before, one level down -/
  | enter {e : Ev} (c : Ctx) (fr : Frame) : e.opens = true → st.child = none → st.ctx = fr.exitCatch c → c.exec = st.ctx.exec + 1 →
      Eff H st e ⟨c, fr :: st.stack, none, st.fmark, st.journal⟩
  | leave (fr : Frame) (rest : List Frame) : st.child = none → st.stack = fr :: rest →
      Eff H st .leave ⟨fr.exitCatch st.ctx, rest, none, st.fmark, st.journal⟩
  | fnBegin (n : String) (a fid : Nat) : st.child = none → st.ctx.exec = 0 →
      Eff H st (.fnBegin n a fid)
        ⟨{ st.ctx with fns := (createOrReplace st.ctx.fns n a fid).1, fbacked := (createOrReplace st.ctx.fns n a fid).2 },
         st.stack, some ⟨1, n, a⟩, st.fmark, journalEntry st.ctx.fns n a ++ st.journal⟩

theorem step_eff {st st' : St} {e : Ev} (h : step H st e = .ok st') : Eff H st e st' := by
  revert h
  fun_cases step H st e with
  -- inside a function body
  | case1 => rintro ⟨⟩; exact .same
  | case2 ch hch | case3 ch hch | case4 ch hch | case7 ch hch => rintro ⟨⟩; exact .depth ch _ hch
  | case5 ch hch _ i hi => rintro ⟨⟩; exact .done ch i hch hi
  -- outside
  | case10 hch n r c hreg => rintro ⟨⟩; exact hch ▸ .reg n r c hch hreg
  | case12 hch i c fr hen => rintro ⟨⟩; exact hch ▸ .enter c fr rfl hch (enterFor_undo hen).1 (enterFor_undo hen).2
  | case14 hch v t c fr hen => rintro ⟨⟩; exact hch ▸ .enter c fr rfl hch (enterForall_undo hen).1 (enterForall_undo hen).2
  | case16 hch => rintro ⟨⟩; exact hch ▸ .enter _ .blk rfl hch rfl rfl
  | case17 hch fr rest hs => rintro ⟨⟩; exact hch ▸ exitNormal_eq_exitCatch fr st.ctx ▸ .leave fr rest hch hs
  | case20 hch n a fid hex fns bk hcr =>
    obtain ⟨rfl, rfl⟩ := Prod.mk.inj hcr
    rintro ⟨⟩; exact .fnBegin n a fid hch (by simpa using hex)
  -- the leaves that throw
  | case6 | case8 | case9 | case11 | case13 | case15 | case18 | case19 | case21 => nofun

theorem step_reg_none {st : St} (hc : st.child = none) (n : String) (r : RegTy) :
    step H st (.reg n r) = match registerSymbol H st.ctx n r with
      | .ok c => .ok { st with ctx := c }
      | .error err => .error err := by
  unfold step; simp only [hc]; rfl

theorem step_enterFor_none {st : St} (hc : st.child = none) (i : Nat) :
    step H st (.enterFor i) = match enterFor st.ctx i with
      | some (c, fr) => .ok { st with ctx := c, stack := fr :: st.stack }
      | none => .error .other := by
  unfold step; simp only [hc]; rfl

theorem step_enterForall_none {st : St} (hc : st.child = none) (v : Nat) (t : Option Nat) :
    step H st (.enterForall v t) = match enterForall st.ctx v t with
      | some (c, fr) => .ok { st with ctx := c, stack := fr :: st.stack }
      | none => .error .protectedIter := by
  unfold step; simp only [hc]; rfl

theorem step_fail (H : Decl → Nat) (st : St) : step H st .fail = .error .other := by
  unfold step; cases st.child <;> rfl

theorem runEvents_induct {P : St → Prop} (evs : List Ev) {st : St} (h0 : P st)
    (hstep : ∀ s e s', e ∈ evs → P s → step H s e = .ok s' → P s') : P (runEvents H st evs).2 := by
  induction evs generalizing st with
  | nil => exact h0
  | cons e es ih =>
    simp only [runEvents]
    cases hs : step H st e with
    | ok st' => exact ih (hstep st e st' List.mem_cons_self h0 hs) fun s e' s' he' => hstep s e' s' (List.mem_cons_of_mem _ he')
    | error err => exact h0

/-- what `Parser::parse` makes of the state its events led to (`parseText`, `parseTextN` after their runs) -/
def finish (H : Decl → Nat) (r : Bool × St) : Outcome :=
  if r.1 || !r.2.stack.isEmpty || r.2.child.isSome then .reject (rejectCtx H r.2) else .accept (parsingEnd H r.2.ctx)

theorem parseText_eq_finish (H : Decl → Nat) (c : Ctx) (evs : List Ev) :
    parseText H c evs = finish H (runEvents H (St.init c) evs) := rfl

theorem parseTextN_eq_finish (H : Decl → Nat) (c : Ctx) (evs : List NEv) :
    parseTextN H c evs = finish H (nrun H (St.init c) evs) := rfl

theorem Outcome.map_ctx (f : Ctx → Ctx) (o : Outcome) : (o.map f).ctx = f o.ctx := by
  cases o <;> rfl

theorem Outcome.map_ok (f : Ctx → Ctx) (o : Outcome) : (o.map f).ok = o.ok := by
  cases o <;> rfl

theorem finish_reject {r : Bool × St} {c' : Ctx} (h : finish H r = .reject c') : c' = rejectCtx H r.2 := by
  unfold finish at h
  split at h <;> cases h
  rfl

theorem finish_accept {r : Bool × St} {c' : Ctx} (h : finish H r = .accept c') :
    c' = parsingEnd H r.2.ctx ∧ r.2.stack = [] := by
  unfold finish at h
  split at h
  · cases h
  · next hno =>
    cases h
    simp only [Bool.or_eq_true, not_or, Bool.not_eq_true, Bool.not_eq_false', List.isEmpty_iff] at hno
    exact ⟨rfl, hno.1.2⟩

/-- both ends of a parse go through `parsingEnd` -/
theorem finish_idle (H : Decl → Nat) (r : Bool × St) : (finish H r).ctx.idle = true := by
  unfold finish
  split <;> rfl

/-- What holds of the machine state during the parse of any text started in the idle, coherent context `c0`:
running the pending restores (catch blocks, restore loop) on the current columns gives back `c0`'s. -/
structure Inv (H : Decl → Nat) (c0 : Ctx) (st : St) : Prop where
  len_n : c0.names.length ≤ st.ctx.names.length
  len_t : c0.tds.length ≤ st.ctx.tds.length
  len_f : c0.fls.length ≤ st.ctx.fls.length
  names : st.ctx.names.take c0.names.length = c0.names
  types : restoreAll H st.ctx.backed (st.ctx.tds.take c0.tds.length) = c0.tds
  flags : unwindFls st.stack (st.ctx.fls.take c0.fls.length) = c0.fls
  exec : st.ctx.exec = c0.exec + st.stack.length
  coh : st.ctx.coherent H = true
  parsing : st.ctx.parsing = true

theorem Ctx.idle_iff {c : Ctx} : c.idle = true ↔ c.parsing = false ∧ c.backed = [] := by
  simp only [Ctx.idle, Bool.and_eq_true, Bool.not_eq_true', List.isEmpty_iff]

theorem inv_init (H : Decl → Nat) (c0 : Ctx) (hidle : c0.idle = true) (hcoh : c0.coherent H = true) :
    Inv H c0 (St.init c0) := by
  have hb := (Ctx.idle_iff.mp hidle).2
  refine ⟨Nat.le_refl _, Nat.le_refl _, Nat.le_refl _, ?_, ?_, ?_, ?_, hcoh, rfl⟩
  · simp [St.init, parsingBegin]
  · simp [St.init, parsingBegin, hb, restoreAll]
  · simp [St.init, parsingBegin, unwindFls]
  · simp [St.init, parsingBegin]

/-- the invariant speaks of the symbol columns and the clause stack only -/
theorem Inv.of_fns {c0 : Ctx} {st : St} (h : Inv H c0 st) {fns : List Fn} {bk : Option Fn}
    {ch : Option Child} {m : Nat} {j : List (Nat × Fn)} :
    Inv H c0 ⟨{ st.ctx with fns := fns, fbacked := bk }, st.stack, ch, m, j⟩ :=
  ⟨h.len_n, h.len_t, h.len_f, h.names, h.types, h.flags, h.exec, h.coh, h.parsing⟩

theorem inv_register {c0 : Ctx} {st : St} {c' : Ctx} {n : String} {r : RegTy}
    (hinv : Inv H c0 st) (h : registerSymbol H st.ctx n r = .ok c') {ch : Option Child} {m : Nat} {j : List (Nat × Fn)} :
    Inv H c0 ⟨c', st.stack, ch, m, j⟩ := by
  rcases registerSymbol_cases h with ⟨_, rfl⟩ | ⟨i, cur, fl, _, hcur, _, _, rfl | rfl⟩
  · refine ⟨?_, ?_, ?_, ?_, ?_, ?_, hinv.exec, ?_, hinv.parsing⟩
    · simp only [List.length_append]; have := hinv.len_n; omega
    · simp only [List.length_append]; have := hinv.len_t; omega
    · simp only [List.length_append]; have := hinv.len_f; omega
    · simp only; rw [List.take_append_of_le_length hinv.len_n]; exact hinv.names
    · simp only; rw [List.take_append_of_le_length hinv.len_t]; exact hinv.types
    · simp only; rw [List.take_append_of_le_length hinv.len_f]; exact hinv.flags
    · have := hinv.coh
      simp only [Ctx.coherent, List.all_append, Bool.and_eq_true] at this ⊢
      exact ⟨this, by simp [RegTy.td_coherent H r]⟩
  · exact hinv.of_fns
  · have hcohcur : cur.coherent H = true := List.all_eq_true.mp hinv.coh cur (List.mem_of_getElem? hcur)
    refine ⟨hinv.len_n, ?_, hinv.len_f, hinv.names, ?_, hinv.flags, hinv.exec, ?_, hinv.parsing⟩
    · simp only [length_modAt]; exact hinv.len_t
    · -- the newest backup undoes the upgrade, because the backed-up symbol is coherent
      simp only [restoreAll, restoreOne, restoreTD_of_coherent H i cur hcohcur]
      rw [take_modAt_undo _ _ hcur]
      exact hinv.types
    · exact all_modAt_const hinv.coh (RegTy.td_coherent H r)

theorem inv_step {c0 : Ctx} {st st' : St} {e : Ev}
    (hinv : Inv H c0 st) (hstep : step H st e = .ok st') : Inv H c0 st' := by
  cases step_eff hstep with
  | same => exact hinv
  | depth | done | fnBegin => exact hinv.of_fns
  | reg n r c' hch hreg => exact inv_register hinv hreg
  | enter c' fr _ hch hu hex =>
    obtain ⟨ctx, stk, ch, fm, jr⟩ := st
    cases hu
    have hf := hinv.len_f
    have hx := hinv.exec
    simp only [catchFls_length] at hf hx hex
    refine ⟨hinv.len_n, hinv.len_t, hf, hinv.names, hinv.types, ?_, ?_, hinv.coh, hinv.parsing⟩
    · simp only [unwindFls]; rw [← take_catchFls]; exact hinv.flags
    · simp only [List.length_cons]; omega
  | leave fr rest hch hs =>
    have hfl := hinv.flags
    have hex := hinv.exec
    simp only [hs, unwindFls, List.length_cons] at hfl hex
    refine ⟨hinv.len_n, hinv.len_t, ?_, hinv.names, hinv.types, ?_, ?_, hinv.coh, hinv.parsing⟩
    · simp only [Frame.exitCatch, catchFls_length]; exact hinv.len_f
    · simp only [Frame.exitCatch]; rw [take_catchFls]; exact hfl
    · simp only [Frame.exitCatch]; omega

theorem inv_run {c0 : Ctx} {st : St} (evs : List Ev) (hinv : Inv H c0 st) :
    Inv H c0 (runEvents H st evs).2 :=
  runEvents_induct evs hinv fun _ _ _ _ h => inv_step h

/-- the catch path of `Parser::parse`, column by column: the catch blocks write flags and exec depth, `rollback` and
`parsingRevert` the function table, the restore loop the types -/
theorem rejectCtx_eq (H : Decl → Nat) (st : St) :
    rejectCtx H st = { st.ctx with
      tds := restoreAll H st.ctx.backed st.ctx.tds, fls := unwindFls st.stack st.ctx.fls,
      exec := st.ctx.exec - st.stack.length, backed := [], parsing := false,
      fns := revertFns st.fmark st.journal (match st.child with | some _ => rollbackCtx st.ctx | none => st.ctx).fns,
      fbacked := (match st.child with | some _ => rollbackCtx st.ctx | none => st.ctx).fbacked } := by
  simp only [rejectCtx, parsingEnd, unwind, unwindFrames_eq]
  cases st.child <;> rfl

/-- from the invariant to the Spec: the pending restores are the ones the catch path runs -/
theorem preserved_of_inv {c0 : Ctx} {st : St} (hidle : c0.idle = true) (hinv : Inv H c0 st) :
    SymsPreserved c0 (rejectCtx H st) := by
  rw [rejectCtx_eq]
  refine ⟨hinv.names, ?_, ?_, ?_, (Ctx.idle_iff.mp hidle).1.symm, rfl⟩
  · simp only; rw [take_restoreAll]; exact hinv.types
  · simp only; rw [take_unwindFls]; exact hinv.flags
  · simp only; have := hinv.exec; omega

theorem preserved_of_inv_accept {c0 : Ctx} {st : St} (hidle : c0.idle = true) (hinv : Inv H c0 st) (hs : st.stack = []) :
    SymsPreserved c0 (parsingEnd H st.ctx) := by
  have hf := hinv.flags
  have hx := hinv.exec
  rw [hs] at hf hx
  refine ⟨hinv.names, ?_, hf, hx, (Ctx.idle_iff.mp hidle).1.symm, rfl⟩
  simp only [parsingEnd]; rw [take_restoreAll]; exact hinv.types

theorem coherent_restoreAll (H : Decl → Nat) (bs : List Backup) {tds : List TD} (h : tds.all (TD.coherent H) = true) :
    (restoreAll H bs tds).all (TD.coherent H) = true := by
  induction bs generalizing tds with
  | nil => exact h
  | cons b bs ih =>
    simp only [restoreAll, restoreOne]
    exact ih (all_modAt_const h (coherent_restoreTD H b))

theorem coherent_parseText {c : Ctx} (hidle : c.idle = true) (hcoh : c.coherent H = true) (evs : List Ev) :
    (parseText H c evs).ctx.coherent H = true := by
  have hc := (inv_run (H := H) evs (inv_init H c hidle hcoh)).coh
  rw [parseText_eq_finish]
  generalize runEvents H (St.init c) evs = r at hc
  unfold finish
  split
  · rw [Outcome.ctx, rejectCtx_eq]
    exact coherent_restoreAll H _ hc
  · exact coherent_restoreAll H _ hc

theorem revertFns_congr (mark : Nat) (j : List (Nat × Fn)) {fns fns' : List Fn} (h : fns'.take mark = fns.take mark) :
    revertFns mark j fns' = revertFns mark j fns := by
  simp only [revertFns, h]

/-- replacing entry `i` and journalling the functor it held is undone by the newest journal entry -/
theorem revertFns_replace {mark i : Nat} {old f : Fn} {j : List (Nat × Fn)} {fns : List Fn} (hold : fns[i]? = some old) :
    revertFns mark ((i, old) :: j) (modAt (fun _ => f) i fns) = revertFns mark j fns := by
  simp only [revertFns, List.foldl_cons]
  congr 1
  by_cases hi : i < mark
  · simp only [hi, if_true]
    exact take_modAt_undo f mark hold
  · simp only [hi, if_false]
    exact take_modAt_of_le (by omega)

theorem createOrReplace_spec (fns : List Fn) (n : String) (a fid : Nat) :
    fns.length ≤ (createOrReplace fns n a fid).1.length ∧
    (∀ b, (createOrReplace fns n a fid).2 = some b → b.is n a = true) ∧
    ((createOrReplace fns n a fid).2 = none → fns.length < (createOrReplace fns n a fid).1.length) := by
  unfold createOrReplace
  cases hfi : findFn n a fns with
  | none => exact ⟨by simp, nofun, fun _ => by simp⟩
  | some i =>
    obtain ⟨f, hf, hfis⟩ := findFn_is hfi
    exact ⟨by simp, fun b hb => by cases hf.symm.trans hb; exact hfis, fun hb => by cases hf.symm.trans hb⟩

/-- a declaration start in the form `JInv.opened` keeps: whatever the written entry holds later, undoing the journal
does not see it -/
theorem revertFns_createOrReplace {mark : Nat} {fns : List Fn} (hlen : mark ≤ fns.length) (j : List (Nat × Fn))
    (n : String) (a fid : Nat) :
    ∃ i, findFn n a (createOrReplace fns n a fid).1 = some i ∧
      ∀ f, revertFns mark (journalEntry fns n a ++ j) (modAt (fun _ => f) i (createOrReplace fns n a fid).1) =
        revertFns mark j fns := by
  unfold createOrReplace journalEntry
  cases hfi : findFn n a fns with
  | none =>
    -- a new entry is appended behind the mark: nothing is journalled
    refine ⟨fns.length, by simp [findFn_append, hfi, findFn, Fn.is], fun f => revertFns_congr _ _ ?_⟩
    rw [take_modAt_of_le hlen, List.take_append_of_le_length hlen]
  | some i =>
    -- an entry is replaced in place: the functor it held goes to the journal
    obtain ⟨old, hold, _⟩ := findFn_is hfi
    refine ⟨i, findFn_modAt_same hfi (by simp [Fn.is]), fun f => ?_⟩
    simp only [hold, List.cons_append, List.nil_append]
    rw [modAt_modAt]
    exact revertFns_replace hold

/-- What holds of the function table and the journal during the parse of any text started in `c0` (ANY context): undoing
the journal on the first `mark` entries gives `c0`'s table; while a declaration is open this is so whatever its entry holds
(the entry is either behind the mark or covered by the newest journal entry), and `rollback` will find that entry. -/
structure JInv (c0 : Ctx) (st : St) : Prop where
  mark : st.fmark = c0.fns.length
  len : c0.fns.length ≤ st.ctx.fns.length
  closed : st.child = none → revertFns st.fmark st.journal st.ctx.fns = c0.fns
  opened : ∀ ch, st.child = some ch → ∃ i, findFn ch.name ch.arity st.ctx.fns = some i ∧
    (∀ f, revertFns st.fmark st.journal (modAt (fun _ => f) i st.ctx.fns) = c0.fns) ∧
    (∀ b, st.ctx.fbacked = some b → b.is ch.name ch.arity = true) ∧
    (st.ctx.fbacked = none → c0.fns.length < st.ctx.fns.length)

theorem jinv_init (c0 : Ctx) : JInv c0 (St.init c0) :=
  ⟨rfl, Nat.le_refl _, (by intro _; simp [St.init, parsingBegin, revertFns]), (by intro ch h; cases h)⟩

theorem jinv_step {c0 : Ctx} {st st' : St} {e : Ev}
    (hinv : JInv c0 st) (hstep : step H st e = .ok st') : JInv c0 st' := by
  -- events that leave the function table alone, outside a function body
  have same : st.child = none → ∀ c : Ctx, c.fns = st.ctx.fns → ∀ stk, JInv c0 ⟨c, stk, none, st.fmark, st.journal⟩ :=
    fun hch c hc stk => ⟨hinv.mark, hc ▸ hinv.len, fun _ => hc ▸ hinv.closed hch, nofun⟩
  cases step_eff hstep with
  | same => exact hinv
  | depth ch d hch => exact ⟨hinv.mark, hinv.len, nofun, fun ch' h' => by cases h'; exact hinv.opened ch hch⟩
  | done ch i hch hi =>
    obtain ⟨i', hi', hall, _, _⟩ := hinv.opened ch hch
    cases hi.symm.trans hi'
    obtain ⟨x, hx, _⟩ := findFn_is hi
    refine ⟨hinv.mark, (length_modAt _ _ _).symm ▸ hinv.len, fun _ => ?_, nofun⟩
    simp only
    rw [modAt_eq_const hx]
    exact hall _
  | reg n r c hch hreg => exact same hch c (registerSymbol_fns hreg) _
  | enter c fr _ hch hu hex => exact same hch c (congrArg Ctx.fns hu).symm _
  | leave fr rest hch hs => exact same hch (fr.exitCatch st.ctx) rfl _
  | fnBegin n a fid hch hex =>
    obtain ⟨i, hi, hall⟩ := revertFns_createOrReplace (hinv.mark ▸ hinv.len) st.journal n a fid
    obtain ⟨hle, hbk, hgrow⟩ := createOrReplace_spec st.ctx.fns n a fid
    refine ⟨hinv.mark, Nat.le_trans hinv.len hle, nofun, fun ch' h' => ?_⟩
    cases h'
    exact ⟨i, hi, fun f => (hall f).trans (hinv.closed hch), hbk, fun h => Nat.lt_of_le_of_lt hinv.len (hgrow h)⟩

theorem jinv_run {c0 : Ctx} {st : St} (evs : List Ev) (hinv : JInv c0 st) :
    JInv c0 (runEvents H st evs).2 :=
  runEvents_induct evs hinv fun _ _ _ _ h => jinv_step h

/-- the catch block of `FUNCTIONStatement::parse` (`rollback`) followed by `parsingRevert` gives back the table of the start -/
theorem jinv_reject {c0 : Ctx} {st : St} (hinv : JInv c0 st) : (rejectCtx H st).fns = c0.fns := by
  rw [rejectCtx_eq]
  cases hch : st.child with
  | none => exact hinv.closed hch
  | some ch =>
    obtain ⟨i, hi, hall, hbk, hlt⟩ := hinv.opened ch hch
    obtain ⟨x, hx, _⟩ := findFn_is hi
    have hcur : revertFns st.fmark st.journal st.ctx.fns = c0.fns := by
      have := hall x
      rwa [modAt_id_of hx (by rfl)] at this
    simp only [rollbackCtx, rollback]
    cases hb : st.ctx.fbacked with
    | none =>
      simp only
      rw [revertFns_congr (fns := st.ctx.fns)]
      · exact hcur
      · rw [hinv.mark, List.dropLast_eq_take, List.take_take, Nat.min_eq_left (Nat.le_sub_one_of_lt (hlt hb))]
    | some b =>
      obtain ⟨hn, ha⟩ := Fn.is_iff.mp (hbk b hb)
      simp only [hn, ha, hi]
      exact hall b

end BlocV.ParseCtx
