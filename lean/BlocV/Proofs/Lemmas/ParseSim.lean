/-
  Two facts about the event machine of Model/ParseCtx.lean. The statement-level machine (`nstepE`, `nrun`, `parseTextN`:
  names, raw clause entries) IS the id-level machine run on `compile`: the guard of `enterFor` / `enterForall` never fires,
  because `registerSymbol` hands out an unlocked symbol. And the insertion of left-over slots (`lift`) commutes with every
  step of the machine, with the catch blocks, with `rollback` and with `parsingEnd`, for events that do not mention the
  left-over names; hence with a whole parse and with a session (the histories are in Proofs/C11.lean). With nothing
  inserted (`Extra.none`) the same theorem says that a parse keeps the columns aligned.
-/
import BlocV.Proofs.Lemmas.ParseCtx
import BlocV.Model.Session

namespace BlocV.ParseCtx

variable {H : Decl → Nat} {x : Extra}

theorem findName_get {n : String} {l : List String} {i : Nat} (h : findName n l = some i) : l[i]? = some n := by
  obtain ⟨x, hx, hp⟩ := findIdx?_get (findName_eq n l ▸ h)
  rw [hx, of_decide_eq_true hp]

theorem findName_append (n : String) (l1 l2 : List String) :
    findName n (l1 ++ l2) = (findName n l1).or ((findName n l2).map (· + l1.length)) := by
  simp only [findName_eq, List.findIdx?_append]

theorem runEvents_single (H : Decl → Nat) (st : St) (e : Ev) : runEvents H st [e] = ofExcept st (step H st e) := by
  simp only [runEvents]
  cases step H st e <;> rfl

theorem runEvents_append (H : Decl → Nat) (st : St) (a b : List Ev) :
    runEvents H st (a ++ b) = match runEvents H st a with
      | (true, s) => (true, s)
      | (false, s) => runEvents H s b := by
  induction a generalizing st with
  | nil => rfl
  | cons e es ih =>
    simp only [List.cons_append, runEvents]
    cases step H st e with
    | ok st' => exact ih st'
    | error err => rfl

/-- what `registerSymbol` guarantees about the symbol it returns: it is not locked (a locked one is refused with
CONST_VIOLATION, a new one is created unlocked) -/
theorem registerSymbol_unlocked {c c' : Ctx} {n : String} {r : RegTy}
    (h : registerSymbol H c n r = .ok c') (hal : c.aligned) :
    ∃ i fl, findName n c'.names = some i ∧ c'.fls[i]? = some fl ∧ fl.locked = false := by
  rcases registerSymbol_cases h with ⟨hnone, rfl⟩ | ⟨i, cur, fl, hi, _, hfl, hl, rfl | rfl⟩
  · refine ⟨c.names.length, (n.front == '$', false), by simp [findName_append, hnone, findName], ?_, rfl⟩
    simp only
    rw [← hal.2]
    simp
  · exact ⟨i, fl, hi, hfl, hl⟩
  · exact ⟨i, fl, hi, hfl, hl⟩

theorem enterFor_eq_raw {c : Ctx} {i : Nat} {fl : Fl} (h : c.fls[i]? = some fl) (hl : fl.locked = false) :
    enterFor c i = enterForRaw c i := by
  unfold enterFor enterForRaw
  simp [h, hl]

theorem enterForall_eq_raw {c : Ctx} {v : Nat} {fl : Fl} (t : Option Nat) (h : c.fls[v]? = some fl) (hl : fl.locked = false) :
    enterForall c v t = enterForallRaw c v t := by
  unfold enterForall enterForallRaw
  simp [h, hl]

theorem nstepE_eq {st : St} (hal : st.ctx.aligned) (e : NEv) :
    nstepE H st e = runEvents H st (compile1 H st e) := by
  obtain ⟨c, stk, child, fm, jr⟩ := st
  cases child with
  | some ch => simp only [nstepE, compile1]; rw [runEvents_single]
  | none =>
    cases e with
    | fail => rfl
    | forLoop n =>
      simp only [nstepE, compile1]
      cases hr : registerSymbol H c n (.plain intTy) with
      | error err => simp only [runEvents, step, hr]
      | ok c1 =>
        obtain ⟨i, fl, hi, hfl, hl⟩ := registerSymbol_unlocked hr hal
        simp only [hi, runEvents, step, hr, enterFor_eq_raw hfl hl]
        cases enterForRaw c1 i <;> rfl
    | forallLoop v r tgt =>
      simp only [nstepE, compile1]
      split
      · rfl
      · cases targetId c tgt with
        | none => rfl
        | some t =>
          simp only
          cases hr : registerSymbol H c v r with
          | error err => simp only [runEvents, step, hr]
          | ok c1 =>
            obtain ⟨i, fl, hi, hfl, hl⟩ := registerSymbol_unlocked hr hal
            simp only [hi, runEvents, step, hr, enterForall_eq_raw t hfl hl]
            cases enterForallRaw c1 i t <;> rfl
    | _ => simp only [nstepE, compile1]; rw [runEvents_single]

theorem step_lengths {st st' : St} {e : Ev} (h : step H st e = .ok st') :
    st.ctx.names.length ≤ st'.ctx.names.length ∧ (st.ctx.aligned → st'.ctx.aligned) := by
  cases step_eff h with
  | same | depth | done | fnBegin => exact ⟨Nat.le_refl _, id⟩
  | reg n r c hch hreg =>
    rcases registerSymbol_cases hreg with ⟨_, rfl⟩ | ⟨i, cur, fl, _, _, _, _, rfl | rfl⟩
    · exact ⟨by simp, fun hal => ⟨by simp [hal.1], by simp [hal.2]⟩⟩
    · exact ⟨Nat.le_refl _, id⟩
    · exact ⟨Nat.le_refl _, fun hal => ⟨(length_modAt _ _ _).trans hal.1, hal.2⟩⟩
  | enter c fr _ hch hu hex =>
    rw [hu]
    exact ⟨Nat.le_refl _, fun hal => ⟨hal.1, (catchFls_length fr _).symm.trans hal.2⟩⟩
  | leave fr rest hch hs => exact ⟨Nat.le_refl _, fun hal => ⟨hal.1, (catchFls_length fr _).trans hal.2⟩⟩

theorem aligned_run {st : St} (evs : List Ev) (hal : st.ctx.aligned) :
    (runEvents H st evs).2.ctx.aligned :=
  runEvents_induct (P := fun s => s.ctx.aligned) evs hal fun _ _ _ _ h hs => (step_lengths hs).2 h

theorem nrun_eq {st : St} (hal : st.ctx.aligned) (evs : List NEv) :
    nrun H st evs = runEvents H st (compile H st evs) := by
  induction evs generalizing st with
  | nil => rfl
  | cons e es ih =>
    simp only [nrun, compile]
    rw [runEvents_append, ← nstepE_eq hal e]
    have hal' : (nstepE H st e).2.ctx.aligned := by rw [nstepE_eq hal e]; exact aligned_run _ hal
    generalize nstepE H st e = res at hal'
    obtain ⟨threw, s⟩ := res
    cases threw with
    | true => simp
    | false => simp only; exact ih hal'

theorem parseTextN_eq {c : Ctx} (hal : c.aligned) (evs : List NEv) :
    parseTextN H c evs = parseText H c (compile H (St.init c) evs) := by
  unfold parseTextN parseText
  rw [nrun_eq hal]

section ins
variable {α : Type}

/-- a list of at least `n0` elements is a front of `n0` elements and a rest, and `ins` puts `xs` between them -/
theorem exists_front {l : List α} {n0 : Nat} (h : n0 ≤ l.length) : ∃ A B, l = A ++ B ∧ A.length = n0 :=
  ⟨l.take n0, l.drop n0, (List.take_append_drop n0 l).symm, by rw [List.length_take]; omega⟩

theorem ins_append (xs A B : List α) : ins A.length xs (A ++ B) = A ++ xs ++ B := by
  simp [ins]

theorem length_ins (n0 : Nat) (xs l : List α) : (ins n0 xs l).length = l.length + xs.length := by
  rw [ins, List.length_append, List.length_append, Nat.add_right_comm, ← List.length_append, List.take_append_drop]

theorem getElem?_ins_ren {n0 : Nat} {xs l : List α} (h : n0 ≤ l.length) {i : Nat} :
    (ins n0 xs l)[ren n0 xs.length i]? = l[i]? := by
  obtain ⟨A, B, rfl, rfl⟩ := exists_front h
  rw [ins_append]
  unfold ren
  split
  · next hi => rw [List.append_assoc, List.getElem?_append_left hi, List.getElem?_append_left hi]
  · next hi =>
    rw [List.getElem?_append_right (by simp; omega), List.getElem?_append_right (by omega)]
    congr 1
    simp; omega

theorem modAt_ins {f : α → α} {n0 : Nat} {xs l : List α} (h : n0 ≤ l.length) {i : Nat} :
    modAt f (ren n0 xs.length i) (ins n0 xs l) = ins n0 xs (modAt f i l) := by
  obtain ⟨A, B, rfl, rfl⟩ := exists_front h
  rw [ins_append]
  unfold ren
  split
  · next hi =>
    rw [modAt_append_left f B A i hi, ← length_modAt f i A, ins_append, List.append_assoc, List.append_assoc,
      modAt_append_left f _ A i hi]
  · next hi =>
    obtain ⟨j, rfl⟩ := Nat.exists_eq_add_of_le (Nat.le_of_not_lt hi)
    rw [modAt_append_right, ins_append, show A.length + j + xs.length = (A ++ xs).length + j by simp; omega,
      modAt_append_right]

theorem take_ins_ge {n0 : Nat} {xs l : List α} (h : n0 ≤ l.length) {n : Nat} (hn : n0 ≤ n) :
    (ins n0 xs l).take (n + xs.length) = ins n0 xs (l.take n) := by
  obtain ⟨A, B, rfl, rfl⟩ := exists_front h
  obtain ⟨j, rfl⟩ := Nat.exists_eq_add_of_le hn
  rw [ins_append, List.take_length_add_append, ins_append, show A.length + j + xs.length = (A ++ xs).length + j by simp; omega,
    List.take_length_add_append]

theorem ins_append_singleton {n0 : Nat} {xs l : List α} {a : α} (h : n0 ≤ l.length) :
    ins n0 xs (l ++ [a]) = ins n0 xs l ++ [a] := by
  obtain ⟨A, B, rfl, rfl⟩ := exists_front h
  rw [List.append_assoc, ins_append, ins_append]
  simp only [List.append_assoc]

theorem ins_dropLast {m0 : Nat} {xs l : List α} (h : m0 < l.length) :
    (ins m0 xs l).dropLast = ins m0 xs l.dropLast := by
  obtain ⟨A, B, rfl, rfl⟩ := exists_front (Nat.le_of_lt h)
  have hB : B ≠ [] := by rintro rfl; simp at h
  rw [ins_append, List.dropLast_append_of_ne_nil hB, List.dropLast_append_of_ne_nil hB, ins_append]

theorem take_ins {n0 : Nat} {xs l : List α} (h : n0 ≤ l.length) : (ins n0 xs l).take n0 = l.take n0 := by
  obtain ⟨A, B, rfl, rfl⟩ := exists_front h
  rw [ins_append, List.append_assoc, List.take_left' rfl, List.take_left' rfl]

theorem ins_leftover {l l' : List α} (h : l'.take l.length = l) : l' = ins l.length (l'.drop l.length) l := by
  unfold ins
  rw [List.take_length, List.drop_length, List.append_nil]
  conv => lhs; rw [← List.take_append_drop l.length l', h]

end ins

theorem findIdx?_ins {α : Type} {p : α → Bool} {xs l : List α} {n0 : Nat} (hx : xs.findIdx? p = none) (h : n0 ≤ l.length) :
    (ins n0 xs l).findIdx? p = (l.findIdx? p).map (ren n0 xs.length) := by
  obtain ⟨A, B, rfl, rfl⟩ := exists_front h
  simp only [ins_append, List.findIdx?_append, hx, Option.map_none, List.length_append]
  cases h1 : A.findIdx? p with
  | some i =>
    obtain ⟨_, hi, _⟩ := findIdx?_get h1
    simp [ren, (List.getElem?_eq_some_iff.mp hi).1]
  | none =>
    cases B.findIdx? p with
    | none => rfl
    | some j =>
      have : ¬ j + A.length < A.length := by omega
      simp only [Option.none_or, Option.map_some, ren, this, if_false, Option.some.injEq]
      omega

theorem findName_lift {n : String} (hn : (!x.names.contains n) = true) {c : Ctx} (h : x.n0 ≤ c.names.length) (g : Option Fn) :
    findName n (lift x g c).names = (findName n c.names).map x.ρ := by
  simp only [findName_eq]
  refine findIdx?_ins (List.findIdx?_eq_none_iff.mpr fun y hy => ?_) h
  simp only [decide_eq_false_iff_not]
  rintro rfl
  simp [hy] at hn

theorem findFn_ins {n : String} {a : Nat} {xs l : List Fn} {m0 : Nat} (hx : (xs.all fun f => !f.is n a) = true) (h : m0 ≤ l.length) :
    findFn n a (ins m0 xs l) = (findFn n a l).map (ren m0 xs.length) := by
  simp only [findFn_eq]
  exact findIdx?_ins (List.findIdx?_eq_none_iff.mpr (by simpa using hx)) h

structure Extra.wf (x : Extra) : Prop where
  t : x.tds.length = x.names.length
  f : x.fls.length = x.names.length

/-- side conditions on the undisturbed context: the insertion points are inside, the columns are aligned -/
structure Fits (x : Extra) (c : Ctx) : Prop where
  n : x.n0 ≤ c.names.length
  al : c.aligned
  m : x.m0 ≤ c.fns.length

theorem Fits.t {c : Ctx} (h : Fits x c) : x.n0 ≤ c.tds.length := by rw [h.al.1]; exact h.n
theorem Fits.f {c : Ctx} (h : Fits x c) : x.n0 ≤ c.fls.length := by rw [h.al.2]; exact h.n

/-- A column `xs` of the left-overs, as long as their names, is read and written through `x.ρ`. The `_lift` lemmas of the
operations on symbols rewrite with these two; what is left makes the same decisions on both sides. -/
theorem getElem?_ins_ρ {α : Type} {xs l : List α} (hl : xs.length = x.names.length) (hf : x.n0 ≤ l.length) (i : Nat) :
    (ins x.n0 xs l)[x.ρ i]? = l[i]? := by
  unfold Extra.ρ; rw [← hl]; exact getElem?_ins_ren hf

theorem modAt_ins_ρ {α : Type} {xs l : List α} (hl : xs.length = x.names.length) (f : α → α) (hf : x.n0 ≤ l.length) (i : Nat) :
    modAt f (x.ρ i) (ins x.n0 xs l) = ins x.n0 xs (modAt f i l) := by
  unfold Extra.ρ; rw [← hl]; exact modAt_ins hf

theorem lift_tds (x : Extra) (g : Option Fn) (c : Ctx) : (lift x g c).tds = ins x.n0 x.tds c.tds := rfl
theorem lift_fls (x : Extra) (g : Option Fn) (c : Ctx) : (lift x g c).fls = ins x.n0 x.fls c.fls := rfl
theorem lift_fns (x : Extra) (g : Option Fn) (c : Ctx) : (lift x g c).fns = ins x.m0 x.fns c.fns := rfl

theorem registerSymbol_lift (hx : x.wf) {c : Ctx} (hf : Fits x c) (g : Option Fn)
    {n : String} (hn : (!x.names.contains n) = true) (r : RegTy) :
    registerSymbol H (lift x g c) n r = (registerSymbol H c n r).map (lift x g) := by
  unfold registerSymbol
  rw [findName_lift hn hf.n]
  cases findName n c.names with
  | none =>
    simp only [Option.map_none, Except.map, lift, ins_append_singleton hf.n, ins_append_singleton hf.t, ins_append_singleton hf.f]
  | some i =>
    simp only [Option.map_some, lift_tds, lift_fls, getElem?_ins_ρ hx.t hf.t, getElem?_ins_ρ hx.f hf.f, modAt_ins_ρ hx.t, hf.t]
    cases c.tds[i]? with
    | none => rfl
    | some cur =>
      cases c.fls[i]? with
      | none => rfl
      | some fl =>
        obtain ⟨safety, locked⟩ := fl
        cases locked with
        | true => rfl
        | false =>
          by_cases ht : r.ty H = cur.1
          · simp only [ht, if_true]; rfl
          · simp only [ht, if_false]
            cases safety with
            | true => cases checkSafety cur.1 (r.ty H) <;> rfl
            | false => rfl

theorem enterFor_lift (hx : x.wf) {c : Ctx} (hf : Fits x c) (g : Option Fn) (i : Nat) :
    enterFor (lift x g c) (x.ρ i) = (enterFor c i).map fun p => (lift x g p.1, p.2.ren x.ρ) := by
  unfold enterFor
  simp only [lift_fls, getElem?_ins_ρ hx.f, modAt_ins_ρ hx.f, hf.f]
  cases c.fls[i]? with
  | none => rfl
  | some fl =>
    obtain ⟨safety, locked⟩ := fl
    cases locked <;> rfl

theorem enterForall_lift (hx : x.wf) {c : Ctx} (hf : Fits x c) (g : Option Fn) (v : Nat) (t : Option Nat) :
    enterForall (lift x g c) (x.ρ v) (t.map x.ρ) = (enterForall c v t).map fun p => (lift x g p.1, p.2.ren x.ρ) := by
  unfold enterForall
  cases t with
  | none =>
    simp only [lift_fls, getElem?_ins_ρ hx.f, modAt_ins_ρ hx.f, hf.f]
    cases c.fls[v]? with
    | none => rfl
    | some fv =>
      obtain ⟨safety, locked⟩ := fv
      cases locked <;> rfl
  | some t =>
    simp only [Option.map_some, lift_fls, getElem?_ins_ρ hx.f, modAt_ins_ρ hx.f, length_modAt, hf.f]
    cases c.fls[v]? with
    | none => rfl
    | some fv =>
      obtain ⟨safety, locked⟩ := fv
      cases locked with
      | true => rfl
      | false => cases (modAt (setSafe true) v c.fls)[t]? <;> rfl

theorem catchFls_lift (hx : x.wf) (fr : Frame) {fls : List Fl} (hf : x.n0 ≤ fls.length) :
    (fr.ren x.ρ).catchFls (ins x.n0 x.fls fls) = ins x.n0 x.fls (fr.catchFls fls) := by
  cases fr with
  | blk => rfl
  | forC i sb => exact modAt_ins_ρ hx.f _ hf i
  | forallC v sb lb tgt =>
    -- write after write: the column keeps its length
    cases tgt <;> simp only [Frame.ren, Frame.catchFls, Option.map_none, Option.map_some, modAt_ins_ρ hx.f, length_modAt, hf]

theorem exitCatch_lift (hx : x.wf) (fr : Frame) {c : Ctx} (hf : Fits x c) (g : Option Fn) :
    (fr.ren x.ρ).exitCatch (lift x g c) = lift x g (fr.exitCatch c) := by
  simp only [Frame.exitCatch, lift, Ctx.mk.injEq, and_true, true_and]
  exact catchFls_lift hx fr hf.f

theorem fits_exitCatch {c : Ctx} (fr : Frame) (hf : Fits x c) : Fits x (fr.exitCatch c) := by
  refine ⟨hf.n, ?_, hf.m⟩
  have := hf.al
  unfold Ctx.aligned at this ⊢
  simp only [Frame.exitCatch, catchFls_length]; exact this

theorem unwindFrames_lift (hx : x.wf) (stk : List Frame) {c : Ctx} (hf : Fits x c) (g : Option Fn) :
    unwindFrames (stk.map (Frame.ren x.ρ)) (lift x g c) = lift x g (unwindFrames stk c) ∧ Fits x (unwindFrames stk c) := by
  induction stk generalizing c with
  | nil => exact ⟨rfl, hf⟩
  | cons fr rest ih =>
    simp only [List.map_cons, unwindFrames]
    rw [exitCatch_lift hx fr hf g]
    exact ih (fits_exitCatch fr hf)

theorem restoreAll_lift (hx : x.wf) (bs : List Backup) {tds : List TD} (hf : x.n0 ≤ tds.length) :
    restoreAll H (bs.map fun b => ⟨x.ρ b.id, b.td⟩) (ins x.n0 x.tds tds) = ins x.n0 x.tds (restoreAll H bs tds) := by
  induction bs generalizing tds with
  | nil => rfl
  | cons b bs ih =>
    simp only [List.map_cons, restoreAll, restoreOne]
    have e : restoreTD H ⟨x.ρ b.id, b.td⟩ = restoreTD H b := rfl
    rw [e, modAt_ins_ρ hx.t _ hf b.id]
    exact ih (by rw [length_modAt]; exact hf)

theorem parsingEnd_lift (hx : x.wf) {c : Ctx} (hf : Fits x c) (g : Option Fn) :
    parsingEnd H (lift x g c) = lift x g (parsingEnd H c) := by
  simp only [parsingEnd, lift, Ctx.mk.injEq, and_true, true_and, List.map_nil]
  exact restoreAll_lift hx c.backed hf.t

theorem createOrReplace_lift {fns : List Fn} (hm : x.m0 ≤ fns.length) {n : String} {a : Nat}
    (hk : (x.fns.all fun f => !f.is n a) = true) (fid : Nat) :
    createOrReplace (ins x.m0 x.fns fns) n a fid =
      (ins x.m0 x.fns (createOrReplace fns n a fid).1, (createOrReplace fns n a fid).2) := by
  unfold createOrReplace
  rw [findFn_ins hk hm]
  cases h : findFn n a fns with
  | none => simp only [Option.map_none]; rw [ins_append_singleton hm]
  | some i => simp only [Option.map_some]; rw [modAt_ins hm, getElem?_ins_ren hm]

/-- the catch block of `FUNCTIONStatement::parse`; `hk`, `h1`, `h2` are what `Good.opened` says of the open declaration `n`/`a` -/
theorem rollbackCtx_lift {c : Ctx} (hf : Fits x c) {n : String} {a : Nat}
    (hk : (x.fns.all fun f => !f.is n a) = true) (h1 : ∀ b, c.fbacked = some b → b.is n a = true)
    (h2 : c.fbacked = none → x.m0 < c.fns.length) :
    rollbackCtx (lift x c.fbacked c) = lift x (rollbackCtx c).fbacked (rollbackCtx c) ∧ Fits x (rollbackCtx c) := by
  have hm := hf.m
  obtain ⟨names, tds, fls, backed, exec, parsing, fns, bk⟩ := c
  simp only [rollbackCtx, rollback, lift]
  cases bk with
  | none =>
    have := h2 rfl
    simp only
    rw [ins_dropLast this]
    exact ⟨rfl, hf.n, hf.al, by rw [List.length_dropLast]; exact Nat.le_sub_one_of_lt this⟩
  | some b =>
    obtain ⟨rfl, rfl⟩ := Fn.is_iff.mp (h1 b rfl)
    simp only
    rw [findFn_ins hk hm]
    cases findFn b.name b.arity fns with
    | none => exact ⟨rfl, hf.n, hf.al, hm⟩
    | some i =>
      simp only [Option.map_some]
      rw [modAt_ins hm, getElem?_ins_ren hm]
      exact ⟨rfl, hf.n, hf.al, (length_modAt _ _ _).symm ▸ hm⟩

theorem journalEntry_lift {fns : List Fn} (hm : x.m0 ≤ fns.length) {n : String} {a : Nat}
    (hk : (x.fns.all fun f => !f.is n a) = true) :
    journalEntry (ins x.m0 x.fns fns) n a = (journalEntry fns n a).map fun p => (ren x.m0 x.fns.length p.1, p.2) := by
  unfold journalEntry
  rw [findFn_ins hk hm]
  cases findFn n a fns with
  | none => rfl
  | some i =>
    simp only [Option.map_some]
    rw [getElem?_ins_ren hm]
    cases fns[i]? <;> rfl

theorem length_revertFns (mark : Nat) (j : List (Nat × Fn)) (fns : List Fn) :
    (revertFns mark j fns).length = min mark fns.length := by
  unfold revertFns
  refine List.foldlRecOn (motive := fun acc : List Fn => acc.length = min mark fns.length) j _ List.length_take
    fun acc h p _ => ?_
  split
  · rw [length_modAt]; exact h
  · exact h

theorem revertFns_lift (m0 : Nat) (xs : List Fn) {mark : Nat} (hm0 : m0 ≤ mark) (j : List (Nat × Fn)) {fns : List Fn}
    (hm : m0 ≤ fns.length) :
    revertFns (mark + xs.length) (j.map fun p => (ren m0 xs.length p.1, p.2)) (ins m0 xs fns)
      = ins m0 xs (revertFns mark j fns) := by
  have hc : ∀ i, (ren m0 xs.length i < mark + xs.length) ↔ (i < mark) := by
    intro i; unfold ren; split <;> omega
  unfold revertFns
  rw [take_ins_ge hm hm0, List.foldl_map]
  refine (List.foldl_rel (r := fun a b => m0 ≤ b.length ∧ a = ins m0 xs b) ⟨by rw [List.length_take]; omega, rfl⟩
    fun p _ a b ⟨hb, e⟩ => ?_).2
  subst e
  simp only [hc]
  split
  · exact ⟨by rwa [length_modAt], modAt_ins hb⟩
  · exact ⟨hb, rfl⟩

/-- invariant of the undisturbed run that the insertion needs -/
structure Good (x : Extra) (st : St) : Prop where
  fits : Fits x st.ctx
  opened : ∀ ch, st.child = some ch →
    (x.fns.all fun f => !f.is ch.name ch.arity) = true ∧
    (∀ b, st.ctx.fbacked = some b → b.is ch.name ch.arity = true) ∧
    (st.ctx.fbacked = none → x.m0 < st.ctx.fns.length)
  /-- the mark of the parse is not before the insertion point of the left-over functions -/
  mark : x.m0 ≤ st.fmark

theorem good_step {st st' : St} {e : Ev} (hg : Good x st) (he : e.avoids x = true)
    (hstep : step H st e = .ok st') : Good x st' := by
  have hfit : x.m0 ≤ st'.ctx.fns.length → Fits x st'.ctx := fun hm =>
    ⟨Nat.le_trans hg.fits.n (step_lengths hstep).1, (step_lengths hstep).2 hg.fits.al, hm⟩
  cases step_eff hstep with
  | same => exact hg
  | depth ch d hch => exact ⟨hg.fits, fun ch' h' => by cases h'; exact hg.opened ch hch, hg.mark⟩
  | done ch i hch hi => exact ⟨hfit ((length_modAt _ _ _).symm ▸ hg.fits.m), nofun, hg.mark⟩
  | reg n r c hch hreg => exact ⟨hfit (registerSymbol_fns hreg ▸ hg.fits.m), nofun, hg.mark⟩
  | enter c fr _ hch hu hex => exact ⟨hfit ((congrArg Ctx.fns hu) ▸ hg.fits.m), nofun, hg.mark⟩
  | leave fr rest hch hs => exact ⟨hfit hg.fits.m, nofun, hg.mark⟩
  | fnBegin n a fid hch hex =>
    obtain ⟨hle, hbk, hgrow⟩ := createOrReplace_spec st.ctx.fns n a fid
    refine ⟨hfit (Nat.le_trans hg.fits.m hle), fun ch' h' => ?_, hg.mark⟩
    cases h'
    exact ⟨he, hbk, fun h => Nat.lt_of_le_of_lt hg.fits.m (hgrow h)⟩

/-- **one step commutes with the insertion** (`g` = the disturbed context's `_backed`: arbitrary while no declaration is
open, equal to the undisturbed one while one is) -/
theorem step_lift (hx : x.wf) {st : St} (hg : Good x st) {e : Ev} (he : e.avoids x = true)
    (g : Option Fn) (hgc : st.child ≠ none → g = st.ctx.fbacked) :
    ∃ g', step H (liftSt x g st) (e.ren x.ρ) = (step H st e).map (liftSt x g') ∧
      (∀ s, step H st e = .ok s → s.child ≠ none → g' = s.ctx.fbacked) := by
  have hf := hg.fits
  -- `_backed` is written by `createOrReplace` only: when a declaration begins
  refine ⟨match (generalizing := false) st.child, e with
    | none, .fnBegin n a fid => (createOrReplace st.ctx.fns n a fid).2
    | _, _ => g, ?_, fun s hs hne => ?_⟩
  · obtain ⟨c, stk, child, fm, jr⟩ := st
    cases child with
    | some ch =>
      cases e with
      | leave =>
        by_cases hd : ch.depth ≤ 1
        · simp only [step, liftSt, Ev.ren, hd, if_true]
          rw [lift_fns, findFn_ins (hg.opened ch rfl).1 hf.m]
          cases findFn ch.name ch.arity c.fns with
          | none => rfl
          | some i => simp only [Option.map_some, modAt_ins hf.m]; rfl
        · simp only [step, liftSt, Ev.ren, hd, if_false]; rfl
      | _ => rfl
    | none =>
      cases e with
      | reg n r =>
        simp only [step, liftSt, Ev.ren]
        rw [registerSymbol_lift hx hf g he r]
        cases registerSymbol H c n r <;> rfl
      | enterFor i =>
        simp only [step, liftSt, Ev.ren]
        rw [enterFor_lift hx hf g i]
        cases enterFor c i <;> rfl
      | enterForall v t =>
        simp only [step, liftSt, Ev.ren]
        rw [enterForall_lift hx hf g v t]
        cases enterForall c v t <;> rfl
      | leave =>
        cases stk with
        | nil => rfl
        | cons fr rest =>
          simp only [step, liftSt, List.map_cons, Ev.ren]
          rw [exitNormal_eq_exitCatch, exitNormal_eq_exitCatch, exitCatch_lift hx fr hf g]
          rfl
      | fnBegin n a fid =>
        simp only [step, liftSt, Ev.ren]
        have e1 : (lift x g c).exec = c.exec := rfl
        by_cases hex : c.exec > 0
        · simp [e1, hex, Except.map]
        · simp only [e1, hex, if_false, Except.map]
          congr 1
          simp only [lift_fns, createOrReplace_lift hf.m he fid, journalEntry_lift hf.m he]
          simp [lift, liftSt]
      | _ => rfl
  · cases step_eff hs with
    | same => obtain ⟨ch, hch⟩ := Option.ne_none_iff_exists'.mp hne; rw [hch]; exact hgc hne
    | depth ch d hch => rw [hch]; exact hgc (hch ▸ nofun)
    | fnBegin n a fid hch => rw [hch]
    | _ => exact absurd rfl hne

theorem run_lift (hx : x.wf) (evs : List Ev) {st : St} (hg : Good x st)
    (he : evs.all (Ev.avoids x) = true) (g : Option Fn) (hgc : st.child ≠ none → g = st.ctx.fbacked) :
    ∃ g', runEvents H (liftSt x g st) (evs.map (Ev.ren x.ρ)) =
        ((runEvents H st evs).1, liftSt x g' (runEvents H st evs).2) ∧
      ((runEvents H st evs).2.child ≠ none → g' = (runEvents H st evs).2.ctx.fbacked) ∧ Good x (runEvents H st evs).2 := by
  induction evs generalizing st g with
  | nil => exact ⟨g, rfl, hgc, hg⟩
  | cons e es ih =>
    simp only [List.all_cons, Bool.and_eq_true] at he
    obtain ⟨g1, h1, h2⟩ := step_lift (H := H) hx hg he.1 g hgc
    simp only [List.map_cons, runEvents]
    rw [h1]
    cases hs : step H st e with
    | error err => simp only [Except.map]; exact ⟨g, rfl, hgc, hg⟩
    | ok st' =>
      simp only [Except.map]
      exact ih (good_step hg he.1 hs) he.2 g1 (h2 st' hs)

theorem unwind_lift (hx : x.wf) {st : St} (hg : Good x st) (g : Option Fn)
    (hgc : st.child ≠ none → g = st.ctx.fbacked) :
    ∃ g', unwind (liftSt x g st) = lift x g' (unwind st) ∧ Fits x (unwind st) := by
  unfold unwind
  cases hch : st.child with
  | none =>
    simp only [liftSt, hch]
    exact ⟨g, unwindFrames_lift hx st.stack hg.fits g⟩
  | some ch =>
    obtain rfl : g = st.ctx.fbacked := hgc (by rw [hch]; simp)
    obtain ⟨hk, hb, hlt⟩ := hg.opened ch hch
    obtain ⟨hr, hfr⟩ := rollbackCtx_lift hg.fits hk hb hlt
    simp only [liftSt, hch]
    rw [hr]
    exact ⟨_, unwindFrames_lift hx st.stack hfr _⟩

theorem fits_parsingEnd {c1 : Ctx} (h : Fits x c1) : Fits x (parsingEnd H c1) := by
  refine ⟨h.n, ?_, h.m⟩
  have := h.al
  unfold Ctx.aligned at this ⊢
  simp only [parsingEnd, length_restoreAll]; exact this

theorem reject_lift (hx : x.wf) {st : St} (hg : Good x st) (g : Option Fn)
    (hgc : st.child ≠ none → g = st.ctx.fbacked) :
    ∃ g', rejectCtx H (liftSt x g st) = lift x g' (rejectCtx H st) ∧ Fits x (rejectCtx H st) := by
  obtain ⟨g2, hu, hfu⟩ := unwind_lift hx hg g hgc
  have hfit' : Fits x { unwind st with fns := revertFns st.fmark st.journal (unwind st).fns } := by
    refine ⟨hfu.n, hfu.al, ?_⟩
    simp only [length_revertFns]
    have := hg.mark; have := hfu.m
    omega
  refine ⟨g2, ?_, fits_parsingEnd hfit'⟩
  simp only [rejectCtx, hu]
  simp only [liftSt, lift_fns, revertFns_lift x.m0 x.fns hg.mark st.journal hfu.m]
  exact parsingEnd_lift hx hfit' g2

theorem init_lift (c : Ctx) (g : Option Fn) : St.init (lift x g c) = liftSt x g (St.init c) := by
  simp only [St.init, liftSt, List.map_nil, St.mk.injEq, and_true, true_and]
  exact ⟨rfl, length_ins _ _ _⟩

theorem good_init {c : Ctx} (hf : Fits x c) : Good x (St.init c) :=
  ⟨⟨hf.n, hf.al, hf.m⟩, nofun, hf.m⟩

theorem finish_lift (hx : x.wf) {st : St} (hg : Good x st) (g : Option Fn)
    (hgc : st.child ≠ none → g = st.ctx.fbacked) (threw : Bool) :
    ∃ g', finish H (threw, liftSt x g st) = (finish H (threw, st)).map (lift x g') ∧ Fits x (finish H (threw, st)).ctx := by
  have e1 : (liftSt x g st).stack.isEmpty = st.stack.isEmpty := by simp [liftSt]
  have e2 : (liftSt x g st).child = st.child := rfl
  simp only [finish, e1, e2]
  split
  · obtain ⟨g2, hu, hfu⟩ := reject_lift (H := H) hx hg g hgc
    exact ⟨g2, by rw [hu]; rfl, hfu⟩
  · exact ⟨g, by rw [show (liftSt x g st).ctx = lift x g st.ctx from rfl, parsingEnd_lift hx hg.fits g]; rfl,
      fits_parsingEnd hg.fits⟩

/-- **a whole parse commutes with the insertion**: the outcome in the disturbed context is the outcome in the undisturbed
one with the left-overs inserted (same verdict) -/
theorem parseText_lift {H : Decl → Nat} {x : Extra} (hx : x.wf) {c : Ctx} (hf : Fits x c) (evs : List Ev)
    (he : evs.all (Ev.avoids x) = true) (g : Option Fn) :
    ∃ g', parseText H (lift x g c) (evs.map (Ev.ren x.ρ)) = (parseText H c evs).map (lift x g') := by
  obtain ⟨g1, h1, h2, hgood⟩ := run_lift (H := H) hx evs (good_init hf) he g (fun h => absurd rfl h)
  obtain ⟨g2, h, _⟩ := finish_lift (H := H) hx hgood g1 h2 (runEvents H (St.init c) evs).1
  rw [parseText_eq_finish, parseText_eq_finish, init_lift _ g, h1]
  exact ⟨g2, h⟩

theorem aligned_lift (hx : x.wf) {c : Ctx} (hf : Fits x c) (g : Option Fn) : (lift x g c).aligned := by
  unfold Ctx.aligned
  simp only [lift]
  rw [length_ins _ _ _, length_ins _ _ _, length_ins _ _ _, hf.al.1, hf.al.2, hx.t, hx.f]
  exact ⟨rfl, rfl⟩

theorem registerSymbol_names_le {c c' : Ctx} {n : String} {r : RegTy}
    (h : registerSymbol H c n r = .ok c') : c.names.length ≤ c'.names.length := by
  rcases registerSymbol_cases h with ⟨_, rfl⟩ | ⟨i, cur, fl, _, _, _, _, rfl | rfl⟩ <;> simp

theorem protectedIter_lift (hx : x.wf) {c : Ctx} (hf : Fits x c) (g : Option Fn) {v : String}
    (hv : (!x.names.contains v) = true) : protectedIter (lift x g c) v = protectedIter c v := by
  unfold protectedIter
  rw [findName_lift hv hf.n]
  cases findName v c.names with
  | none => rfl
  | some i => simp only [Option.map_some, lift_fls, getElem?_ins_ρ hx.f hf.f]

theorem targetId_lift {c : Ctx} (hf : Fits x c) (g : Option Fn) {tgt : Option String}
    (ht : ∀ t, tgt = some t → (!x.names.contains t) = true) :
    targetId (lift x g c) tgt = (targetId c tgt).map (Option.map x.ρ) := by
  cases tgt with
  | none => rfl
  | some t =>
    simp only [targetId, findName_lift (ht t rfl) hf.n]
    cases findName t c.names <;> rfl

theorem NEv.inChild_avoids {e : NEv} (he : e.avoids x = true) : e.inChild.avoids x = true := by
  cases e with
  | reg | fnBegin => exact he
  | _ => rfl

theorem compile1_lift (hx : x.wf) {st : St} (hf : Fits x st.ctx) {e : NEv}
    (he : e.avoids x = true) (g : Option Fn) :
    compile1 H (liftSt x g st) e = (compile1 H st e).map (Ev.ren x.ρ) ∧ (compile1 H st e).all (Ev.avoids x) = true := by
  have one : ∀ {e' : Ev}, e'.avoids x = true → [e'].all (Ev.avoids x) = true := fun h => by simp [h]
  obtain ⟨c, stk, child⟩ := st
  cases child with
  | some ch => exact ⟨by cases e <;> rfl, one (NEv.inChild_avoids he)⟩
  | none =>
    cases e with
    | forLoop n =>
      have hn' : ¬ n ∈ x.names := by simpa [NEv.avoids] using he
      simp only [compile1, liftSt]
      rw [registerSymbol_lift hx hf g he]
      cases hr : registerSymbol H c n (.plain intTy) with
      | error err => simp [Except.map, Ev.ren, Ev.avoids, hn']
      | ok c1 =>
        simp only [Except.map]
        rw [findName_lift he (Nat.le_trans hf.n (registerSymbol_names_le hr))]
        cases findName n c1.names <;> simp [Ev.ren, Ev.avoids, hn']
    | forallLoop v r tgt =>
      have hv : (!x.names.contains v) = true ∧ (∀ t, tgt = some t → (!x.names.contains t) = true) := by
        simp only [NEv.avoids, Bool.and_eq_true] at he
        exact ⟨he.1, fun t ht => by subst ht; exact he.2⟩
      have hv' : ¬ v ∈ x.names := by simpa using hv.1
      simp only [compile1, liftSt]
      simp only [protectedIter_lift hx hf g hv.1, targetId_lift hf g hv.2]
      by_cases hp : protectedIter c v = true
      · simp [hp, Ev.ren, Ev.avoids]
      · simp only [hp]
        cases targetId c tgt with
        | none => simp [Ev.ren, Ev.avoids]
        | some t =>
          simp only [Option.map_some]
          rw [registerSymbol_lift hx hf g hv.1]
          cases hr : registerSymbol H c v r with
          | error err => simp [Except.map, Ev.ren, Ev.avoids, hv']
          | ok c1 =>
            simp only [Except.map]
            rw [findName_lift hv.1 (Nat.le_trans hf.n (registerSymbol_names_le hr))]
            cases findName v c1.names <;> simp [Ev.ren, Ev.avoids, hv']
    | _ => exact ⟨rfl, one he⟩

theorem nstepE_lift (hx : x.wf) {st : St} (hg : Good x st) {e : NEv} (he : e.avoids x = true)
    (g : Option Fn) (hgc : st.child ≠ none → g = st.ctx.fbacked) :
    ∃ g', nstepE H (liftSt x g st) e = ((nstepE H st e).1, liftSt x g' (nstepE H st e).2) ∧
      ((nstepE H st e).2.child ≠ none → g' = (nstepE H st e).2.ctx.fbacked) ∧ Good x (nstepE H st e).2 := by
  have hal2 : (liftSt x g st).ctx.aligned := aligned_lift hx hg.fits g
  obtain ⟨hc, hav⟩ := compile1_lift (H := H) hx hg.fits he g
  rw [nstepE_eq hal2, nstepE_eq hg.fits.al, hc]
  exact run_lift hx (compile1 H st e) hg hav g hgc

theorem nrun_lift (hx : x.wf) (evs : List NEv) {st : St} (hg : Good x st)
    (he : evs.all (NEv.avoids x) = true) (g : Option Fn) (hgc : st.child ≠ none → g = st.ctx.fbacked) :
    ∃ g', nrun H (liftSt x g st) evs = ((nrun H st evs).1, liftSt x g' (nrun H st evs).2) ∧
      ((nrun H st evs).2.child ≠ none → g' = (nrun H st evs).2.ctx.fbacked) ∧ Good x (nrun H st evs).2 := by
  induction evs generalizing st g with
  | nil => exact ⟨g, rfl, hgc, hg⟩
  | cons e es ih =>
    simp only [List.all_cons, Bool.and_eq_true] at he
    obtain ⟨g1, h1, h2, h3⟩ := nstepE_lift (H := H) hx hg he.1 g hgc
    simp only [nrun]
    rw [h1]
    generalize nstepE H st e = res at h2 h3 ⊢
    obtain ⟨threw, s⟩ := res
    cases threw with
    | true => exact ⟨g1, rfl, h2, h3⟩
    | false => exact ih h3 he.2 g1 h2

theorem parseTextN_lift (hx : x.wf) {c : Ctx} (hf : Fits x c) (evs : List NEv)
    (he : evs.all (NEv.avoids x) = true) (g : Option Fn) :
    ∃ g', parseTextN H (lift x g c) evs = (parseTextN H c evs).map (lift x g') ∧ Fits x (parseTextN H c evs).ctx := by
  obtain ⟨g1, h1, h2, hgood⟩ := nrun_lift (H := H) hx evs (good_init hf) he g (fun h => absurd rfl h)
  rw [parseTextN_eq_finish, parseTextN_eq_finish, init_lift _ g, h1]
  exact finish_lift hx hgood g1 h2 _

theorem lift_prefix {c : Ctx} (hf : Fits x c) (g : Option Fn) :
    (lift x g c).names.take x.n0 = c.names.take x.n0 ∧ (lift x g c).tds.take x.n0 = c.tds.take x.n0 ∧
    (lift x g c).fls.take x.n0 = c.fls.take x.n0 ∧ (lift x g c).fns.take x.m0 = c.fns.take x.m0 ∧
    (lift x g c).exec = c.exec ∧ (lift x g c).idle = c.idle :=
  ⟨take_ins hf.n, take_ins hf.t, take_ins hf.f, take_ins hf.m, rfl, by
    simp only [Ctx.idle, lift]; cases c.backed <;> rfl⟩

def Extra.none (c : Ctx) : Extra := ⟨c.names.length, [], [], [], c.fns.length, []⟩

theorem ins_nil {α : Type} (n0 : Nat) (l : List α) : ins n0 [] l = l := by
  simp [ins]

theorem ren_zero (n0 i : Nat) : ren n0 0 i = i := by
  unfold ren; split <;> rfl

theorem lift_none (c0 : Ctx) (g : Option Fn) (c : Ctx) : lift (Extra.none c0) g c = { c with fbacked := g } := by
  simp only [lift, Extra.none, Extra.ρ, ins_nil, ren_zero, List.length_nil]
  rw [List.map_id'' fun _ => rfl]

theorem Ev.ren_id (e : Ev) : e.ren id = e := by
  cases e <;> simp [Ev.ren]

theorem nev_avoids_none (c0 : Ctx) (evs : List NEv) : evs.all (NEv.avoids (Extra.none c0)) = true := by
  rw [List.all_eq_true]
  intro e _
  cases e with
  | forallLoop v r tgt => cases tgt <;> simp [NEv.avoids, Extra.none]
  | _ => simp [NEv.avoids, Extra.none]

theorem ev_avoids_none (c0 : Ctx) (e : Ev) : e.avoids (Extra.none c0) = true := by
  cases e <;> simp [Ev.avoids, Extra.none]

theorem wf_none (c0 : Ctx) : (Extra.none c0).wf := ⟨rfl, rfl⟩

theorem fits_none {c : Ctx} (h : c.aligned) : Fits (Extra.none c) c := ⟨Nat.le_refl _, h, Nat.le_refl _⟩

/-- read off `parseTextN_lift` with nothing inserted (`Extra.none`) -/
theorem aligned_parseTextN {c : Ctx} (h : c.aligned) (evs : List NEv) : (parseTextN H c evs).ctx.aligned := by
  obtain ⟨_, _, hf⟩ := parseTextN_lift (H := H) (wf_none c) (fits_none h) evs (nev_avoids_none c evs) none
  exact hf.al

theorem runHistory_append (H : Decl → Nat) (c : Ctx) (a b : List Text) :
    runHistory H c (a ++ b) =
      ((runHistory H c a).1 ++ (runHistory H (runHistory H c a).2 b).1, (runHistory H (runHistory H c a).2 b).2) := by
  induction a generalizing c with
  | nil => rfl
  | cons t ts ih =>
    simp only [List.cons_append, runHistory]
    rw [ih]

theorem submit_reject (H : Decl → Nat) (fuel : Nat) {s : Session.Sess} {R : Session.Sub} {c' : Ctx}
    (hrej : parseTextN H s.pc R.eff = .reject c') : Session.submit H fuel s R = ({ s with pc := c' }, none) := by
  simp only [Session.submit, hrej]

theorem submit_lift (H : Decl → Nat) (fuel : Nat) (hx : x.wf) (s : Session.Sess) (hf : Fits x s.pc) (g : Option Fn)
    (T : Session.Sub) (hT : T.eff.all (NEv.avoids x) = true) :
    ∃ g', Session.submit H fuel { s with pc := lift x g s.pc } T
        = ({ (Session.submit H fuel s T).1 with pc := lift x g' (Session.submit H fuel s T).1.pc }, (Session.submit H fuel s T).2)
      ∧ Fits x (Session.submit H fuel s T).1.pc := by
  obtain ⟨g', h, hfit⟩ := parseTextN_lift (H := H) hx hf T.eff hT g
  refine ⟨g', ?_, ?_⟩
  · simp only [Session.submit, h]
    cases parseTextN H s.pc T.eff <;> rfl
  · simp only [Session.submit]
    cases hp : parseTextN H s.pc T.eff <;> (rw [hp] at hfit; exact hfit)

theorem submitAll_lift (H : Decl → Nat) (fuel : Nat) (hx : x.wf) (ts : List Session.Sub) (s : Session.Sess)
    (hf : Fits x s.pc) (g : Option Fn) (hts : ts.all (fun t => t.eff.all (NEv.avoids x)) = true) :
    (Session.submitAll H fuel { s with pc := lift x g s.pc } ts).1 = (Session.submitAll H fuel s ts).1 ∧
    ∃ g', (Session.submitAll H fuel { s with pc := lift x g s.pc } ts).2
      = { (Session.submitAll H fuel s ts).2 with pc := lift x g' (Session.submitAll H fuel s ts).2.pc } := by
  induction ts generalizing s g with
  | nil => exact ⟨rfl, g, rfl⟩
  | cons t ts ih =>
    simp only [List.all_cons, Bool.and_eq_true] at hts
    obtain ⟨g1, h1, hf1⟩ := submit_lift H fuel hx s hf g t hts.1
    simp only [Session.submitAll]
    rw [h1]
    obtain ⟨ihv, g2, ihc⟩ := ih (Session.submit H fuel s t).1 hf1 g1 hts.2
    exact ⟨by rw [ihv], g2, ihc⟩

end BlocV.ParseCtx
