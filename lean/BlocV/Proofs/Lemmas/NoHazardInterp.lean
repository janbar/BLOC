/-
  Whole programs (C01): a Hoare-style predicate `NH bad I Q x` on computations of the interpreter's monad `EvalM` — from every
  state satisfying `I`, `x` does not end in a hazard that counts, leaves a state satisfying `I`, and a value it returns satisfies
  `Q` — with `Post` (the same of one run), `NHR` (the same in `Res`) and their rules; `evalWalk` makes `NH` an instance of the walk
  of Lemmas/BuiltinWalk.lean, where the deep representation invariant `okVal` of values is defined.
-/
import BlocV.Proofs.Lemmas.Interp
import BlocV.Proofs.Lemmas.Containers

namespace BlocV.NHI

theorem okVals_of_sub {a b : List Val} (hb : okVals b = true) (h : ∀ v ∈ a, v ∈ b) : okVals a = true :=
  (okVals_iff a).2 fun v hv => (okVals_iff b).1 hb v (h v hv)

theorem okVals_reverse (l : List Val) (h : okVals l = true) : okVals l.reverse = true :=
  okVals_of_sub h fun _ hv => List.mem_reverse.mp hv
theorem okVals_listPut (l : List Val) (n : Nat) (x : Val) (h : okVals l = true) (hx : okVal x = true) : okVals (listPut l n x) = true :=
  (okVals_iff _).2 fun v hv => (mem_listPut hv).elim ((okVals_iff l).1 h v) fun e => e ▸ hx
theorem okVals_listIns (l : List Val) (n : Nat) (xs : List Val) (h : okVals l = true) (hx : okVals xs = true) : okVals (listIns l n xs) = true :=
  (okVals_iff _).2 fun v hv => (mem_listIns hv).elim ((okVals_iff l).1 h v) ((okVals_iff xs).1 hx v)
theorem okVals_listDel (l : List Val) (n : Nat) (h : okVals l = true) : okVals (listDel l n) = true :=
  okVals_of_sub h fun _ => mem_listDel
theorem okVals_getElem? (l : List Val) (n : Nat) (v : Val) (h : okVals l = true) (hv : l[n]? = some v) : okVal v = true :=
  (okVals_iff l).1 h v (List.mem_of_getElem? hv)

theorem wfArg_of_okVal {v : Val} (h : okVal v = true) : C09.WfArg v := by
  intro t d es e; subst e
  simp [okVal_tab] at h
  exact h.1

/-! ## outcomes in `Res`

Everything below is parametric in `bad : Hazard → Bool`, the hazards that count: `fun _ => true` for "no hazard at all";
`(· != .signedOverflow)` for "no hazard except the signed index arithmetic of `substr` / `subraw`", which the model reaches on a
string of 2^63 bytes or more — a value no process can hold, but one that `Val.str` (an unbounded list) can, and that no invariant
of the interpreter's state excludes (63 doublings `s = s + s` build it). -/

/-- `r` is not a hazard that counts -/
def nb {α} (bad : Hazard → Bool) (r : Res α) : Prop := ∀ h, r = .haz h → bad h = false

theorem nb_of_nh {α} {bad : Hazard → Bool} {r : Res α} (h : r.isHazard = false) : nb bad r := by
  intro x e; rw [e] at h; cases h

theorem nb_all {α} {r : Res α} (h : nb (fun _ => true) r) : r.isHazard = false := by
  cases r with
  | haz x => exact absurd (h x rfl) (by simp)
  | _ => rfl

def NHR {α} (bad : Hazard → Bool) (Q : α → Prop) (r : Res α) : Prop := nb bad r ∧ ∀ a, r = .ok a → Q a

variable {bad : Hazard → Bool}

theorem NHR.ok {α} {Q : α → Prop} {a : α} (h : Q a) : NHR bad Q (.ok a) := ⟨nb_of_nh rfl, fun _ e => by cases e; exact h⟩
theorem NHR.err {α} {Q : α → Prop} {c : Nat} {x : Bytes} : NHR bad Q (.err c x) := ⟨nb_of_nh rfl, fun _ e => by cases e⟩
theorem NHR.unm {α} {Q : α → Prop} : NHR bad Q (.unmodelled : Res α) := ⟨nb_of_nh rfl, fun _ e => by cases e⟩
theorem NHR.haz {α} {Q : α → Prop} {h : Hazard} (hb : bad h = false) : NHR bad Q (.haz h) :=
  ⟨fun _ e => by cases e; exact hb, fun _ e => by cases e⟩
theorem NHR.ite {α} {Q : α → Prop} (c : Prop) [Decidable c] {x y : Res α} (hx : c → NHR bad Q x) (hy : ¬ c → NHR bad Q y) :
    NHR bad Q (if c then x else y) := iteInduction hx hy
theorem NHR.mono {α} {P Q : α → Prop} {r : Res α} (h : NHR bad P r) (hpq : ∀ a, P a → Q a) : NHR bad Q r :=
  ⟨h.1, fun a e => hpq a (h.2 a e)⟩
theorem NHR.of_nb {α} {r : Res α} (h : nb bad r) : NHR bad (fun a => r = .ok a) r := ⟨h, fun _ e => e⟩
theorem NHR.of_nh {α} {r : Res α} (h : r.isHazard = false) : NHR bad (fun a => r = .ok a) r := NHR.of_nb (nb_of_nh h)
theorem NHR.mk' {α} {Q : α → Prop} {r : Res α} (h : r.isHazard = false) (hq : ∀ a, r = .ok a → Q a) : NHR bad Q r := ⟨nb_of_nh h, hq⟩
theorem NHR.bind {α β} {P : α → Prop} {Q : β → Prop} {r : Res α} {f : α → Res β} (hr : NHR bad P r) (hf : ∀ a, P a → NHR bad Q (f a)) :
    NHR bad Q (r >>= f) := by
  cases r with
  | ok a => exact hf a (hr.2 a rfl)
  | err c x => exact NHR.err
  | haz h => exact NHR.haz (hr.1 h rfl)
  | unmodelled => exact NHR.unm

theorem haz_absurd {α} {r : Res α} {h : Hazard} (e : r = .haz h) (nh : r.isHazard = false) : False := by
  rw [e] at nh; cases nh

def NH (bad : Hazard → Bool) (I : St → Prop) {α} (Q : α → Prop) (x : EvalM α) : Prop :=
  ∀ s, I s → nb bad (x s).1 ∧ I (x s).2 ∧ ∀ a, (x s).1 = .ok a → Q a

/-- what `NH` says of one run: `NH bad I Q x` is `∀ s, I s → Post bad I Q (x s)` -/
def Post (bad : Hazard → Bool) (I : St → Prop) {α} (Q : α → Prop) (r : Res α × St) : Prop :=
  nb bad r.1 ∧ I r.2 ∧ ∀ a, r.1 = .ok a → Q a

variable {I : St → Prop}

section
variable {α β : Type} {P : α → Prop} {Q : β → Prop} {s : St}

theorem Post.lift {Q : α → Prop} {r : Res α} (h : NHR bad Q r) (hs : I s) : Post bad I Q (r, s) := ⟨h.1, hs, h.2⟩

theorem Post.bind {x : EvalM α} {f : α → EvalM β} (hx : Post bad I P (x s))
    (hf : ∀ a s', x s = (.ok a, s') → P a → I s' → Post bad I Q (f a s')) : Post bad I Q ((x >>= f) s) := by
  rw [Lemmas.bind_app]
  cases hxs : x s with
  | mk r s' =>
    rw [hxs] at hx
    cases r with
    | ok a => exact hf a s' hxs (hx.2.2 a rfl) hx.2.1
    | err c a => exact Post.lift NHR.err hx.2.1
    | haz h => exact Post.lift (NHR.haz (hx.1 h rfl)) hx.2.1
    | unmodelled => exact Post.lift NHR.unm hx.2.1

theorem Post.bind_lift {r : Res α} {f : α → EvalM β} (hr : NHR bad P r) (hs : I s) (hf : ∀ a, r = .ok a → P a → Post bad I Q (f a s)) :
    Post bad I Q ((liftM r >>= f) s) :=
  Post.bind (x := liftM r) (Post.lift hr hs) fun a _ e pa _ => by cases e; exact hf a rfl pa

theorem Post.ite {c : Prop} [Decidable c] {x y : EvalM β} (hx : c → Post bad I Q (x s)) (hy : ¬ c → Post bad I Q (y s)) :
    Post bad I Q ((if c then x else y) s) := by
  split
  · exact hx ‹_›
  · exact hy ‹_›

theorem Post.getSt_bind {f : St → EvalM β} (h : Post bad I Q (f s s)) : Post bad I Q ((BlocV.getSt >>= f) s) := h
end

theorem NH.pure {α} {Q : α → Prop} {a : α} (h : Q a) : NH bad I Q (Pure.pure a : EvalM α) := fun _ => Post.lift (NHR.ok h)

theorem NH.bind {α β} {P : α → Prop} {Q : β → Prop} {x : EvalM α} {f : α → EvalM β}
    (hx : NH bad I P x) (hf : ∀ a, P a → NH bad I Q (f a)) : NH bad I Q (x >>= f) :=
  fun s hs => Post.bind (hx s hs) fun a s' _ pa hs' => hf a pa s' hs'

theorem NH.getSt_bind {β} {Q : β → Prop} {f : St → EvalM β} (h : ∀ s, I s → Post bad I Q (f s s)) :
    NH bad I Q (BlocV.getSt >>= f) := h

theorem NH.mono {α} {P Q : α → Prop} {x : EvalM α} (h : NH bad I P x) (hpq : ∀ a, P a → Q a) : NH bad I Q x :=
  fun s hs => ⟨(h s hs).1, (h s hs).2.1, fun a e => hpq a ((h s hs).2.2 a e)⟩

theorem NH.lift {α} {Q : α → Prop} {r : Res α} (h : NHR bad Q r) : NH bad I Q (liftM r : EvalM α) := fun _ => Post.lift h
theorem NH.mlift {α} {Q : α → Prop} {r : Res α} (h : NHR bad Q r) : NH bad I Q (monadLift r : EvalM α) := fun _ => Post.lift h
theorem NH.never {α} {Q : α → Prop} {x : EvalM α} (h : ∀ s, ∃ c a, x s = (.err c a, s)) : NH bad I Q x := by
  intro s hs
  obtain ⟨c, a, e⟩ := h s
  rw [e]
  exact Post.lift NHR.err hs
theorem NH.failE {α} {Q : α → Prop} (c : Nat) (a : Bytes) : NH bad I Q (BlocV.failE c a : EvalM α) := NH.never fun _ => ⟨_, _, rfl⟩
theorem NH.oof {α} {Q : α → Prop} : NH bad I Q (BlocV.oof : EvalM α) := NH.never fun _ => ⟨_, _, rfl⟩
theorem NH.getSt : NH bad I I BlocV.getSt := fun _ hs => Post.lift (NHR.ok hs) hs
theorem NH.modifySt {f : St → St} (hf : ∀ s, I s → I (f s)) : NH bad I (fun _ => True) (BlocV.modifySt f) :=
  fun s hs => Post.lift (NHR.ok trivial) (hf s hs)
theorem NH.ite {α} {Q : α → Prop} (c : Prop) [Decidable c] {x y : EvalM α} (hx : c → NH bad I Q x) (hy : ¬ c → NH bad I Q y) :
    NH bad I Q (if c then x else y) := iteInduction hx hy

/-- `(x >>= g) >>= f` computed away (no `LawfulMonad` instance is needed) -/
theorem bind_assoc_eval {α β γ} (x : EvalM α) (g : α → EvalM β) (f : β → EvalM γ) :
    ((x >>= g) >>= f) = (x >>= fun a => g a >>= f) := by
  funext s
  simp only [Lemmas.bind_app]
  cases x s with
  | mk r s' => cases r <;> rfl
theorem NH.bind_assoc {α β γ} {Q : γ → Prop} {x : EvalM α} {g : α → EvalM β} {f : β → EvalM γ}
    (h : NH bad I Q (x >>= fun a => g a >>= f)) : NH bad I Q ((x >>= g) >>= f) := by
  rw [bind_assoc_eval]; exact h

theorem NH.bind_lift {α β} {Q : β → Prop} {r : Res α} {f : α → EvalM β} (h1 : nb bad r)
    (hf : ∀ a, r = .ok a → NH bad I Q (f a)) : NH bad I Q ((liftM r : EvalM α) >>= f) := NH.bind (NH.lift (NHR.of_nb h1)) hf
theorem NH.bind_mlift {α β} {Q : β → Prop} {r : Res α} {f : α → EvalM β} (h1 : nb bad r)
    (hf : ∀ a, r = .ok a → NH bad I Q (f a)) : NH bad I Q ((monadLift r : EvalM α) >>= f) := NH.bind (NH.mlift (NHR.of_nb h1)) hf
theorem NH.bind_never {α β} {Q : β → Prop} {x : EvalM α} {f : α → EvalM β} (h : ∀ s, ∃ c a, x s = (.err c a, s)) : NH bad I Q (x >>= f) :=
  NH.bind (P := fun _ => False) (NH.never h) fun _ h => h.elim

abbrev okV (v : Val) : Prop := okVal v = true
/-- the argument thunks of a built-in call: computations that keep `I`, reach no hazard and return deep-well-formed values -/
def NArgs (bad : Hazard → Bool) (I : St → Prop) (args : List (EvalM Val)) : Prop := ∀ t ∈ args, NH bad I okV t

/-- The walk in the interpreter's monad: `NArgs` is its `Args`. -/
def evalWalk (bad : Hazard → Bool) (I : St → Prop) : Walk EvalM where
  T Q x := NH bad I Q x
  ok r := nb bad r
  sound := True
  W := okV
  pure := NH.pure
  bind := NH.bind
  lift h hq := NH.lift ⟨h, hq⟩
  ok_nh h := nb_of_nh (h trivial)
  W_tab _ h := tabOk_of_okVal h
  W_ok h := h
  W_mkTab hl he := by
    rw [okV, okVal_tab, Bool.and_eq_true]
    exact ⟨bne_iff_ne.2 hl, (okVals_iff _).2 he⟩
  W_mkTup hd hi := by
    rw [okV, okVal_tup, Bool.and_eq_true]
    exact ⟨beq_iff_eq.2 hd, (okVals_iff _).2 hi⟩

/-- `nn_tac` closes `b = false` from a hypothesis `¬ b = true`, `(!b) = true`, or the like about `b || c`, `c || b`, `(b || c) || d`. -/
macro "nn_tac" : tactic => `(tactic| first
  | assumption
  | exact nn_of_not ‹_›
  | exact nn_of_bnot ‹_›
  | exact nn_orL ‹_›
  | exact nn_orR ‹_›
  | exact nn_orL' (nn_orL ‹_›)
  | exact nn_orR' (nn_orL ‹_›))

end BlocV.NHI
