/-
  C12: the fuel measures of statements (`ssize` … `ssizeB`; `esize` of expressions is in Parse.lean), and their bound by the
  number of tokens (`ssizeB p ≤ 3 * (toksBlock p).length`), so that the fuel `Parse.parseFuel` that `parseText` hands to the parser
  covers the bound of `C12.program_roundtrip`.
-/
import BlocV.Proofs.Lemmas.Parse

namespace BlocV.C12L
open BlocV.Parse BlocV.Unparse

def osize : Option PExpr → Nat
  | none => 0
  | some e => esize e + 1

mutual
  /-- fuel measure of a statement (every kind) -/
  def ssize : PStmt → Nat
    | .nop | .brk | .cont | .ret none | .raise _ => 1
    | .trace e => esize e + 1
    | .ret (some e) => esize e + 1
    | .doS e => esize e + 1
    | .letS _ e nx => esize e + 2 + ssizeNext nx
    | .letn _ _ nx => 2 + ssizeNext nx
    | .print args => esizeArgs args + 2
    | .put args => esizeArgs args + 2
    | .ifS rules els => ssizeRules rules + ssizeElse els + 2
    | .whileS c body => esize c + ssizeB body + 2
    | .forS _ b e step _ body => esize b + esize e + osize step + ssizeB body + 2
    | .forall _ e _ body => esize e + ssizeB body + 2
    | .begin body catches => ssizeB body + ssizeCatches catches + 3
    | .func _ params _ body catches => params.length + ssizeB body + ssizeCatches catches + 4
  def ssizeNext : Option PStmt → Nat
    | none => 0
    | some s => ssize s + 1
  def ssizeElse : Option (List PStmt) → Nat
    | none => 0
    | some b => ssizeB b + 1
  def ssizeRules : List (PExpr × List PStmt) → Nat
    | [] => 0
    | (c, b) :: rs => esize c + ssizeB b + 2 + ssizeRules rs
  def ssizeCatches : List (Bytes × List PStmt) → Nat
    | [] => 0
    | (_, b) :: cs => ssizeB b + 2 + ssizeCatches cs
  def ssizeB : List PStmt → Nat
    | [] => 0
    | s :: ss => ssize s + 1 + ssizeB ss
end

theorem tparen_length (b : Bool) (l : List Tok) : (tparen b l).length = l.length + (if b then 2 else 0) := by
  cases b <;> simp [tparen]

mutual
  theorem esize_le : ∀ (e : PExpr), esize e ≤ 2 * (toksExpr e).length ∧ 1 ≤ (toksExpr e).length
    | .int v => by simp only [esize, toksExpr, intTok]; split <;> simp
    | .num _ | .str _ | .var _ | .kw _ => by simp [esize, toksExpr]
    | .call n args | .fcall n args => by
      have h := esizeArgs_le args
      simp only [esize, toksExpr, List.length_cons, List.length_append, List.length_nil]; omega
    | .member e n args => by
      have h := esizeArgs_le args
      have he := esize_le e
      simp only [esize, toksExpr, List.length_cons, List.length_append, List.length_nil]; omega
    | .setm e no a => by
      have he := esize_le e
      have ha := esize_le a
      simp only [esize, toksExpr, List.length_cons, List.length_append, List.length_nil]; omega
    | .item e no => by
      have he := esize_le e
      simp only [esize, toksExpr, List.length_cons, List.length_append, List.length_nil]; omega
    | .un op enc x => by
      have hx := esize_le x
      simp only [esize, toksExpr, tparen_length, List.length_cons]
      cases enc <;> cases (!enclosed x) <;> simp <;> omega
    | .bin op enc a b => by
      have ha := esize_le a
      have hb := esize_le b
      simp only [esize, toksExpr, tparen_length, List.length_cons, List.length_append]
      cases enc <;> simp <;> omega
  theorem esizeArgs_le : ∀ (as : List PExpr),
      esizeArgs as ≤ 2 * (joinToks (ch 44) (toksArgs as)).length + 1 ∧ esizeArgs as ≤ 3 * (toksArgs as).flatten.length
    | [] => by simp [esizeArgs, toksArgs, joinToks]
    | [a] => by
      have ha := esize_le a
      simp only [esizeArgs, toksArgs, joinToks, List.flatten_cons, List.flatten_nil, List.append_nil]; omega
    | a :: b :: r => by
      have ha := esize_le a
      have h := esizeArgs_le (b :: r)
      simp only [toksArgs] at h
      simp only [esizeArgs, toksArgs, joinToks, List.flatten_cons, List.length_append, List.length_cons] at h ⊢; omega
end

theorem params_le : ∀ (ps : List (Bytes × Bytes)), ps.length ≤ (joinToks (ch 44) (ps.map paramToks)).length
  | [] => by simp
  | [p] => by simp only [List.map, joinToks, paramToks, List.length_cons, List.length_nil]; split <;> simp
  | p :: q :: r => by
    have h := params_le (q :: r)
    have hp : 1 ≤ (paramToks p).length := by simp only [paramToks]; split <;> simp
    simp only [List.map, joinToks, List.length_cons, List.length_append] at h ⊢
    omega

theorem osize_le (st : Option PExpr) :
    osize st ≤ 3 * (match st with | some s => kw "step" :: toksExpr s | none => ([] : List Tok)).length := by
  cases st with
  | none => simp [osize]
  | some s => have := esize_le s; simp only [osize, List.length_cons]; omega

mutual
  theorem ssize_le : ∀ (s : PStmt), ssize s ≤ 3 * (toksStmt s).length
    | .nop | .brk | .cont | .ret none | .raise _ => by simp [ssize, toksStmt]
    | .trace e | .ret (some e) | .doS e => by
      have := esize_le e; simp only [ssize, toksStmt, List.length_cons]; omega
    | .letS n e nx => by
      have := esize_le e
      have hs := ssizeNext_le nx
      simp only [ssize, toksStmt, List.length_cons, List.length_append]; omega
    | .letn n ty nx => by
      have hs := ssizeNext_le nx
      simp only [ssize, toksStmt, List.length_cons]; omega
    | .print args | .put args => by
      have := esizeArgs_le args; simp only [ssize, toksStmt, List.length_cons]; omega
    | .ifS rules none => by
      have := ssizeRules_le true rules
      simp only [ssize, ssizeElse, toksStmt, List.length_cons, List.length_append, List.length_nil]; omega
    | .ifS rules (some b) => by
      have := ssizeRules_le true rules
      have hb := ssizeB_le b
      simp only [ssize, ssizeElse, toksStmt, List.length_cons, List.length_append, List.length_nil]; omega
    | .whileS c body | .forall _ c _ body => by
      have := esize_le c
      have hb := ssizeB_le body
      simp only [ssize, toksStmt, List.length_cons, List.length_append, List.length_nil]; omega
    | .forS v b e st dir body => by
      have h1 := esize_le b
      have h2 := esize_le e
      have h3 := osize_le st
      have hb := ssizeB_le body
      cases st <;> simp only [ssize, toksStmt, List.length_cons, List.length_append, List.length_nil] at h3 ⊢ <;> omega
    | .begin body catches => by
      have hb := ssizeB_le body
      have hc := ssizeCatches_le catches
      simp only [ssize, toksStmt, List.length_cons, List.length_append, List.length_nil]; omega
    | .func n params rt body catches => by
      have hb := ssizeB_le body
      have hc := ssizeCatches_le catches
      have hp := params_le params
      simp only [ssize, toksStmt, List.length_cons, List.length_append, List.length_nil]
      split
      · rename_i he
        have : params.length = 0 := congrArg List.length (List.isEmpty_iff.1 he)
        simp; omega
      · simp only [List.length_cons, List.length_append, List.length_nil]; omega
  theorem ssizeNext_le : ∀ (nx : Option PStmt), ssizeNext nx ≤ 3 * (toksNext nx).length
    | none => by simp [ssizeNext, toksNext]
    | some s => by
      have hs := ssize_le s
      simp only [ssizeNext, toksNext, List.length_cons]; omega
  theorem ssizeCatches_le : ∀ (cs : List (Bytes × List PStmt)), ssizeCatches cs ≤ 3 * (toksCatches cs).length
    | [] => by simp [ssizeCatches, toksCatches]
    | (n, b) :: cs => by
      have hb := ssizeB_le b
      have hc := ssizeCatches_le cs
      simp only [ssizeCatches, toksCatches, List.length_cons, List.length_append]; omega
  theorem ssizeRules_le : ∀ (first : Bool) (rs : List (PExpr × List PStmt)), ssizeRules rs ≤ 3 * (toksRules first rs).length
    | _, [] => by simp [ssizeRules, toksRules]
    | first, (c, b) :: rs => by
      have h1 := esize_le c
      have hb := ssizeB_le b
      have hr := ssizeRules_le false rs
      simp only [ssizeRules, toksRules, List.length_cons, List.length_append]; omega
  theorem ssizeB_le : ∀ (ss : List PStmt), ssizeB ss ≤ 3 * (toksBlock ss).length
    | [] => by simp [ssizeB, toksBlock]
    | s :: ss => by
      have h1 := ssize_le s
      have h2 := ssizeB_le ss
      simp only [ssizeB, toksBlock, List.length_cons, List.length_append]; omega
end

end BlocV.C12L
