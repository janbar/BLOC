/-
  The temporary-pool discipline of Model/Store.lean: a result location is good (`LocOK w σ`) when it is an existing variable
  slot or constant cell, or a live temporary at or above the base watermark `w`; a store extends another above `w` (`Ext`)
  when only such temporaries differ. Allocation, LVAL1, LVAL2 and `place` extend the store and return a good location
  holding the written value; an operator that returns an operand reference has that operand's value as its result.
-/
import BlocV.Model.Store

namespace BlocV.Lemmas

theorem default_cell_val : (default : Cell).val = .null Ty.none := rfl
theorem default_cell_lv : (default : Cell).lv = false := rfl

def LocOK (w : Nat) (σ : Store) : Loc → Prop
  | .var i => i < σ.vars.length
  | .cst i => i < σ.csts.length
  | .tmp j => w ≤ j ∧ j < σ.wm ∧ j < σ.pool.length ∧ (σ.pool.getD j default).lv = false

structure Ext (w : Nat) (σ σ' : Store) : Prop where
  vars : σ'.vars = σ.vars
  csts : σ'.csts = σ.csts
  wm : σ.wm ≤ σ'.wm
  len : σ.pool.length ≤ σ'.pool.length
  low : ∀ j, j < w → σ'.pool.getD j default = σ.pool.getD j default

theorem Ext.refl (w : Nat) (σ : Store) : Ext w σ σ := ⟨rfl, rfl, Nat.le_refl _, Nat.le_refl _, fun _ _ => rfl⟩

theorem Ext.trans {w : Nat} {a b c : Store} (h1 : Ext w a b) (h2 : Ext w b c) : Ext w a c :=
  ⟨h2.vars.trans h1.vars, h2.csts.trans h1.csts, Nat.le_trans h1.wm h2.wm, Nat.le_trans h1.len h2.len,
   fun j hj => (h2.low j hj).trans (h1.low j hj)⟩

theorem Ext.mono {w w' : Nat} {a b : Store} (h : Ext w a b) (hw : w' ≤ w) : Ext w' a b :=
  ⟨h.vars, h.csts, h.wm, h.len, fun j hj => h.low j (Nat.lt_of_lt_of_le hj hw)⟩

theorem Ext.flagInv {w : Nat} {a b : Store} (h : Ext w a b) (hi : FlagInv a) : FlagInv b := by
  unfold FlagInv at *; rw [h.vars, h.csts]; exact hi

theorem LocOK.mono {w w' : Nat} {σ : Store} {ℓ : Loc} (h : LocOK w σ ℓ) (hw : w' ≤ w) : LocOK w' σ ℓ := by
  cases ℓ with
  | var i => exact h
  | cst i => exact h
  | tmp j => exact ⟨Nat.le_trans hw h.1, h.2⟩

theorem LocOK.ext {w : Nat} {σ σ' : Store} {ℓ : Loc} (h : LocOK w σ ℓ) (hx : Ext σ.wm σ σ') :
    LocOK w σ' ℓ ∧ σ'.get ℓ = σ.get ℓ := by
  cases ℓ with
  | var i => exact ⟨by show i < σ'.vars.length; rw [hx.vars]; exact h, by simp [Store.get, hx.vars]⟩
  | cst i => exact ⟨by show i < σ'.csts.length; rw [hx.csts]; exact h, by simp [Store.get, hx.csts]⟩
  | tmp j =>
    obtain ⟨h1, h2, h3, h4⟩ := h
    have hl := hx.low j h2
    refine ⟨⟨h1, Nat.lt_of_lt_of_le h2 hx.wm, Nat.lt_of_lt_of_le h3 hx.len, ?_⟩, ?_⟩
    · rw [hl]; exact h4
    · exact hl

theorem flag_var {σ : Store} (h : FlagInv σ) {i : Nat} (hi : i < σ.vars.length) : (σ.get (.var i)).lv = true := by
  have := h.1 _ (List.getElem_mem hi)
  simpa [Store.get, List.getD, hi] using this

theorem flag_cst {σ : Store} (h : FlagInv σ) {i : Nat} (hi : i < σ.csts.length) : (σ.get (.cst i)).lv = true := by
  have := h.2 _ (List.getElem_mem hi)
  simpa [Store.get, List.getD, hi] using this

/-- Under the invariant a location whose LVALUE flag reads clear is a pool slot or an index without a cell: a write there, into
any store of the same shape, changes no variable and no constant. -/
theorem set_clear {σ τ : Store} {ℓ : Loc} (h : FlagInv σ) (hl : (σ.get ℓ).lv = false) (hv : τ.vars.length = σ.vars.length)
    (hc : τ.csts.length = σ.csts.length) (c : Cell) : (τ.set ℓ c).vars = τ.vars ∧ (τ.set ℓ c).csts = τ.csts := by
  cases ℓ with
  | var i =>
    refine ⟨List.set_eq_of_length_le (Nat.le_of_not_lt fun hi => ?_), rfl⟩
    rw [flag_var h (hv ▸ hi)] at hl; cases hl
  | cst i =>
    refine ⟨rfl, List.set_eq_of_length_le (Nat.le_of_not_lt fun hi => ?_)⟩
    rw [flag_cst h (hc ▸ hi)] at hl; cases hl
  | tmp i => exact ⟨rfl, rfl⟩

theorem get_var_of_set {σ σ' : Store} {i j : Nat} {c : Cell} (e : σ'.vars = σ.vars.set i c) (hj : j ≠ i) :
    σ'.get (.var j) = σ.get (.var j) := by
  simp [Store.get, e, List.getD, Ne.symm hj]

/-- Value-level view of a variable slot / constant cell (also out of range: both sides are the untyped null). -/
theorem val_getD (l : List Cell) (i : Nat) : (l.getD i default).val = (l.map (·.val)).getD i (.null Ty.none) := by
  simp only [List.getD, List.getElem?_map]
  cases l[i]? <;> rfl

/-- `r` is the result of writing `v` somewhere above `w`: the store extends `σ`, the location is a live temporary holding `v`. -/
def Wrote (w : Nat) (σ : Store) (v : Val) (r : Loc × Store) : Prop :=
  Ext w σ r.2 ∧ LocOK w r.2 r.1 ∧ (r.2.get r.1).val = v ∧ ∃ j, r.1 = .tmp j

theorem set_tmp_ok {w : Nat} {σ : Store} {j : Nat} {v : Val} (h : LocOK w σ (.tmp j)) :
    Wrote w σ v (.tmp j, σ.set (.tmp j) { val := v, lv := false }) := by
  obtain ⟨h1, h2, h3, _⟩ := h
  refine ⟨⟨rfl, rfl, Nat.le_refl _, by simp [Store.set], ?_⟩, ⟨h1, h2, by simpa [Store.set] using h3, ?_⟩, ?_, _, rfl⟩
  · intro k hk
    have : j ≠ k := by omega
    simp [Store.set, List.getD, this]
  · simp [Store.set, List.getD, h3]
  · simp [Store.set, Store.get, List.getD, h3]

/-- The pool after `Pool::keep` at watermark `wm`. -/
def allocPool (pool : List Cell) (wm : Nat) (c : Cell) : List Cell :=
  if wm < pool.length then pool.set wm c else pool ++ List.replicate (wm - pool.length) default ++ [c]

theorem allocPool_spec (pool : List Cell) (wm : Nat) (c : Cell) :
    wm < (allocPool pool wm c).length ∧ pool.length ≤ (allocPool pool wm c).length ∧
    (allocPool pool wm c).getD wm default = c ∧
    ∀ k, k < wm → (allocPool pool wm c).getD k default = pool.getD k default := by
  unfold allocPool
  by_cases hlt : wm < pool.length
  · rw [if_pos hlt]
    refine ⟨by simpa using hlt, by simp, by simp [List.getD, hlt], ?_⟩
    intro k hk
    have : wm ≠ k := by omega
    simp [List.getD, this]
  · rw [if_neg hlt]
    have hl2 : (pool ++ List.replicate (wm - pool.length) (default : Cell)).length = wm := by
      rw [List.length_append, List.length_replicate]; omega
    have hlen : (pool ++ List.replicate (wm - pool.length) (default : Cell) ++ [c]).length = wm + 1 := by
      rw [List.length_append, hl2]; rfl
    have hget : (pool ++ List.replicate (wm - pool.length) (default : Cell) ++ [c])[wm]? = some c := by
      rw [List.getElem?_append_right (by rw [hl2]; exact Nat.le_refl _), hl2, Nat.sub_self]; rfl
    refine ⟨by rw [hlen]; omega, by rw [hlen]; omega, by simp only [List.getD, hget]; rfl, ?_⟩
    intro k hk
    simp only [List.getD]
    rw [List.getElem?_append_left (by rw [hl2]; exact hk)]
    by_cases hkl : k < pool.length
    · rw [List.getElem?_append_left hkl]
    · rw [List.getElem?_append_right (by omega), List.getElem?_eq_none (l := pool) (by omega),
        List.getElem?_replicate]
      split <;> rfl

theorem alloc_eq (σ : Store) (v : Val) :
    alloc σ v = (.tmp σ.wm, { σ with pool := allocPool σ.pool σ.wm { val := v, lv := false }, wm := σ.wm + 1 }) := rfl

theorem alloc_ok {w : Nat} {σ : Store} {v : Val} (hw : w ≤ σ.wm) : Wrote w σ v (alloc σ v) := by
  rw [alloc_eq]
  obtain ⟨h1, h2, h3, h4⟩ := allocPool_spec σ.pool σ.wm { val := v, lv := false }
  refine ⟨⟨rfl, rfl, Nat.le_succ _, h2, fun k hk => h4 k (by omega)⟩, ⟨hw, Nat.lt_succ_self _, h1, ?_⟩, ?_, _, rfl⟩
  · show ((allocPool σ.pool σ.wm { val := v, lv := false }).getD σ.wm default).lv = false
    rw [h3]
  · show ((allocPool σ.pool σ.wm { val := v, lv := false }).getD σ.wm default).val = v
    rw [h3]

/-- The guarded write of LVAL1 / LVAL2 at a good location: a live temporary is overwritten; a variable slot or a constant
cell carries the flag, and the write goes where `r` put it. -/
theorem guard_ok {w : Nat} {σ : Store} {v : Val} {a : Loc} {r : Loc × Store} (hinv : FlagInv σ) (ha : LocOK w σ a)
    (hr : Wrote w σ v r) : Wrote w σ v (if !(σ.get a).lv then (a, σ.set a { val := v, lv := false }) else r) := by
  cases a with
  | var i => rw [flag_var hinv ha]; exact hr
  | cst i => rw [flag_cst hinv ha]; exact hr
  | tmp j =>
    rw [show (σ.get (.tmp j)).lv = false from ha.2.2.2]
    exact set_tmp_ok ha

theorem lval1_ok {w : Nat} {σ : Store} (v : Val) {a : Loc} (hinv : FlagInv σ) (hw : w ≤ σ.wm)
    (ha : LocOK w σ a) : Wrote w σ v (lval1 σ v a) :=
  guard_ok hinv ha (alloc_ok hw)

theorem lval2_ok {w : Nat} {σ : Store} (v : Val) {a b : Loc} (hinv : FlagInv σ) (hw : w ≤ σ.wm)
    (ha : LocOK w σ a) (hb : LocOK w σ b) : Wrote w σ v (lval2 σ v a b) :=
  guard_ok hinv ha (lval1_ok v hinv hw hb)

/-! ### Placement is consistent with the value-level operators: an operator that *returns an operand
reference* (`ret1`/`ret2`) has, at value level, that operand's value as its result. -/

/-- A unary operator applied to a null gives back that null; only on the untyped null, and not for unary minus, may the
result differ (`not` / `~` give the integer / boolean null). -/
theorem evalUn_null {op : UnOp} {t : Ty} {v : Val} (he : evalUn op (.null t) = .ok v) :
    v = .null t ∨ (t.major = .none ∧ op ≠ .neg) := by
  unfold evalUn at he
  split at he
  · cases he
  · split at he
    all_goals first | exact Or.inl (Res.ok.inj he).symm | exact Or.inr ⟨‹_›, nofun⟩ | cases he

theorem evalUn_pos {a v : Val} (he : evalUn .pos a = .ok v) : v = a := by
  unfold evalUn at he
  split at he
  · cases he
  · cases hm : a.type.major <;> simp only [hm] at he <;> first | exact (Res.ok.inj he).symm | cases he

theorem unPlace_ret {op : UnOp} {a1 v : Val} (hp : unPlace op a1 = .ret1 ∨ unPlace op a1 = .ret2)
    (he : evalUn op a1 = .ok v) : v = a1 := by
  unfold unPlace at hp
  split at hp
  · exact evalUn_pos he
  · exact (evalUn_null he).elim id fun h => absurd rfl h.2
  · split at hp
    · rcases hp with hp | hp <;> cases hp
    · rename_i hn
      exact (evalUn_null he).elim id fun h => absurd (by simp [h.1]) hn
  · split at hp
    · rcases hp with hp | hp <;> cases hp
    · rename_i hn
      exact (evalUn_null he).elim id fun h => absurd (by simp [h.1]) hn
  · rcases hp with hp | hp <;> cases hp

theorem binPlace_ret {op : BinOp} {a1 a2 : Val} {same : Bool} :
    (binPlace op a1 a2 = .ret1 → evalBin op a1 a2 same = .ok a1) ∧
    (binPlace op a1 a2 = .ret2 → evalBin op a1 a2 same = .ok a2) := by
  fun_cases binPlace op a1 a2 with
  -- string + untyped null, null string + string
  | case1 a1 a2 hl h2 h1 =>
    simp only [Bool.and_eq_true, beq_iff_eq] at hl
    exact ⟨nofun, fun _ => by simp [evalBin, opAdd, hl.1, hl.2, h1, h2]⟩
  | case2 a1 a2 hl h2 h1 =>
    simp only [Bool.and_eq_true, beq_iff_eq] at hl
    exact ⟨fun _ => by simp [evalBin, opAdd, hl.1, hl.2, h1, h2], nofun⟩
  | case3 a1 a2 hl h2 h1 hn =>
    simp only [Bool.and_eq_true, beq_iff_eq] at hl
    cases a1 <;> cases hn
    exact ⟨nofun, fun _ => by simp [evalBin, opAdd, hl.1, hl.2, h1, h2]⟩
  -- a typed null boolean operand; the case principle leaves the two `if`s of this branch in the goal
  | case8 a1 a2 hl hn2 hnb =>
    rw [if_pos hl, if_pos hn2]
    simp only [Bool.and_eq_true, beq_iff_eq] at hl
    obtain ⟨⟨⟨l1, l2⟩, m1⟩, m2⟩ := hl
    cases a2 <;> cases hn2
    exact ⟨nofun, fun _ => by simp [evalBin, opBxor, l1, l2, m1, m2]⟩
  | case9 a1 a2 hl hn2 hnb =>
    rw [if_pos hl, if_neg hn2]
    simp only [Bool.and_eq_true, beq_iff_eq] at hl
    obtain ⟨⟨⟨l1, l2⟩, m1⟩, m2⟩ := hl
    refine ⟨fun _ => ?_, nofun⟩
    simp [evalBin, opBxor, l1, l2, m1, m2]
    split
    · exact (hnb _ _ rfl rfl).elim
    · cases hn2 rfl
    · rfl
  | case10 a1 a2 hl => rw [if_neg hl]; exact ⟨nofun, nofun⟩
  -- every other leaf builds its result
  | _ => exact ⟨nofun, nofun⟩

/-- Which *named* cell a result location is: a variable slot or a constant cell; `none` for a temporary. -/
def cellId : Loc → Option Loc
  | .var i => some (.var i)
  | .cst i => some (.cst i)
  | .tmp _ => none

/-- Identity of the result of a node from its placement and the identities of its operands. -/
def placeId (p : Place) (i1 i2 : Option Loc) : Option Loc :=
  match p with
  | .ret1 => i1
  | .ret2 => i2
  | _ => none

/-- Do two results denote the same named cell? (Two temporaries never coincide.) -/
def sameCell : Option Loc → Option Loc → Bool
  | some a, some b => a == b
  | _, _ => false

/-- The left operand's location was produced below the watermark at which the right operand was
evaluated: as locations they are equal exactly when they are the same named cell. -/
theorem sameCell_eq {w1 : Nat} {σ1 σ2 : Store} {ℓ1 ℓ2 : Loc} (h1 : LocOK w1 σ1 ℓ1) (h2 : LocOK σ1.wm σ2 ℓ2) :
    sameCell (cellId ℓ1) (cellId ℓ2) = (ℓ1 == ℓ2) := by
  cases ℓ1 <;> cases ℓ2 <;> simp [sameCell, cellId]
  have := h1.2.1; have := h2.1; omega

/-- `place` extends the store and returns a good location. What it leaves observable is the value `v` (given that a returned
operand holds `v`) and the identity: the returned operand itself (nothing written), or a live temporary holding the value. -/
theorem place_ok {w : Nat} {σ : Store} (p : Place) (v : Val) {a b : Loc} (hinv : FlagInv σ) (hw : w ≤ σ.wm)
    (ha : LocOK w σ a) (hb : LocOK w σ b)
    (h1 : p = .ret1 → v = (σ.get a).val) (h2 : p = .ret2 → v = (σ.get b).val) :
    Ext w σ (place σ p v a b).2 ∧ LocOK w (place σ p v a b).2 (place σ p v a b).1 ∧
    (((place σ p v a b).2.get (place σ p v a b).1).val, cellId (place σ p v a b).1)
      = (v, placeId p (cellId a) (cellId b)) := by
  cases p with
  | ret1 => exact ⟨Ext.refl _ _, ha, by rw [h1 rfl]; rfl⟩
  | ret2 => exact ⟨Ext.refl _ _, hb, by rw [h2 rfl]; rfl⟩
  | l1 => obtain ⟨px, pk, pv, j, pj⟩ := lval1_ok v hinv hw ha; exact ⟨px, pk, Prod.ext pv (congrArg cellId pj)⟩
  | l2 => obtain ⟨px, pk, pv, j, pj⟩ := lval2_ok v hinv hw ha hb; exact ⟨px, pk, Prod.ext pv (congrArg cellId pj)⟩

end BlocV.Lemmas
