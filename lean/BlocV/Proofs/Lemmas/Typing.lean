/-
  Lemmas for the program-level C02 theorems:
    * the front end forgets parentheses: `elabExpr (norm e) = elabExpr e`;
    * programs of assignments and DO statements read back from their tokens (`C12L.let_rt`, `C12L.do_rt`);
    * the constraint pass of Model/Safety.lean keeps the kind of every protected symbol.
-/
import BlocV.Proofs.Lemmas.ParseStmt
import BlocV.Model.Elab
import BlocV.Model.Safety

namespace BlocV.C02L
open BlocV.Parse BlocV.Unparse BlocV.Roundtrip BlocV.Elab BlocV.C12L

theorem elab_setEnc (e : PExpr) : elabExpr (setEnc e) = elabExpr e := by
  cases e <;> first | rfl | simp [setEnc, elabExpr]

mutual
  theorem elab_norm : ∀ e : PExpr, elabExpr (norm e) = elabExpr e
    | .int _ | .num _ | .str _ | .var _ | .kw _ => by simp [norm]
    | .call n args | .fcall n args => by simp [norm, elabExpr, elabArgs_norm args]
    | .member e n args => by simp [norm, elabExpr, elab_norm e, elabArgs_norm args]
    | .setm e no a => by simp [norm, elabExpr]
    | .item e no => by simp [norm, elabExpr, elab_norm e]
    | .un op enc x => by simp [norm, elabExpr, elab_setEnc, elab_norm x]
    | .bin op enc a b => by simp [norm, elabExpr, elab_norm a, elab_norm b]
  theorem elabArgs_norm : ∀ as : List PExpr, elabArgs (normArgs as) = elabArgs as
    | [] => by simp [normArgs, elabArgs]
    | a :: as => by simp [normArgs, elabArgs, elab_norm a, elabArgs_norm as]
end

/-- the statements C12's round-trip theorems cover: `NAME = e;` and `do e;` -/
inductive SStmt
  | letS (n : Bytes) (e : PExpr)
  | doS (e : PExpr)
  deriving Repr, Inhabited

def SStmt.expr : SStmt → PExpr
  | .letS _ e => e
  | .doS e => e

def SStmt.toP : SStmt → PStmt
  | .letS n e => .letS n e none
  | .doS e => .doS e

/-- the tokens `Executable::unparse` writes for the statement (text + separator) -/
def SStmt.toks : SStmt → List Tok
  | .letS n e => C12.toksLet n e
  | .doS e => toksDo e

/-- in the domain of the round trip: upper-case non-reserved target name, expression in the parser's image; `core e` is
part of the domain as stated, the round trip itself does not need it -/
def SStmt.ok : SStmt → Bool
  | .letS n e => nameOk n && wf e && core e
  | .doS e => wf e && core e

def toksProg : List SStmt → List Tok
  | [] => []
  | s :: ss => s.toks ++ toksProg ss

/-- fuel that suffices to read the program back: the bound of `let_rt` (`16 * esize + 16`) and one for `pProgram` -/
def need : List SStmt → Nat
  | [] => 1
  | s :: ss => max (16 * esize s.expr + 17) (need ss + 1)

theorem pStmt_simple (s : SStmt) (hok : s.ok = true) (rest : List Tok) (f : Nat) (hf : 16 * esize s.expr + 16 ≤ f) :
    pStmt f false (s.toks ++ rest) = .ok (some (normS s.toP), rest) := by
  cases s with
  | letS n e =>
    simp only [SStmt.ok, Bool.and_eq_true] at hok
    exact let_rt n e hok.1.1 hok.1.2 false rest f hf
  | doS e =>
    simp only [SStmt.ok, Bool.and_eq_true] at hok
    exact do_rt e hok.1 false rest f (by simp only [SStmt.expr] at hf; omega)

theorem toks_head (s : SStmt) : ∃ t ts, s.toks = t :: ts ∧ t.code = cKW := by
  cases s with
  | letS n e => exact ⟨⟨cKW, n⟩, _, rfl, rfl⟩
  | doS e => exact ⟨kw "do", _, rfl, rfl⟩

theorem pProgram_simple : ∀ (ss : List SStmt), (∀ s ∈ ss, s.ok = true) → ∀ f, need ss ≤ f →
    pProgram f (toksProg ss) = .ok (normB (ss.map SStmt.toP))
  | [], _ => fuel_succ fun _ _ => rfl
  | s :: ss, hok => fun f hf => by
    obtain ⟨h1, h2⟩ := Nat.max_le.1 hf
    cases f with
    | zero => omega
    | succ f =>
      exact pProgram_cons (toks_head s) (pStmt_simple s (hok s (by simp)) (toksProg ss) f (by omega))
        (pProgram_simple ss (fun x hx => hok x (by simp [hx])) f (by omega))

theorem elabStmt_normS (s : SStmt) : elabStmt (normS s.toP) = elabStmt s.toP := by
  cases s <;> simp [SStmt.toP, normS, normNext, elabStmt, elab_norm]

theorem elabProgram_normS : ∀ ss : List SStmt,
    elabProgram (normB (ss.map SStmt.toP)) = elabProgram (ss.map SStmt.toP)
  | [] => rfl
  | s :: ss => by
    have ih := elabProgram_normS ss
    simp only [elabProgram] at ih ⊢
    simp [normB, elabBlock, elabStmt_normS, ih]

open BlocV.Safety

theorem sameKind_iff {a b : Ty} : sameKind a b = true ↔
    (a.level = 0 ∧ b.level = 0 ∧ a.major = b.major) ∨ (0 < a.level ∧ 0 < b.level) := by
  simp [sameKind, and_assoc]

theorem sameKind_refl (a : Ty) : sameKind a a = true :=
  sameKind_iff.2 ((Nat.eq_zero_or_pos a.level).imp (fun h => ⟨h, h, rfl⟩) fun h => ⟨h, h⟩)

theorem sameKind_trans {a b c : Ty} (h1 : sameKind a b = true) (h2 : sameKind b c = true) : sameKind a c = true := by
  rw [sameKind_iff] at *
  rcases h1 with ⟨l1, l2, m1⟩ | ⟨l1, l2⟩ <;> rcases h2 with ⟨k1, k2, m2⟩ | ⟨k1, k2⟩
  · exact .inl ⟨l1, k2, m1.trans m2⟩
  · omega
  · omega
  · exact .inr ⟨l1, k2⟩

/-- Under an active constraint (`registerSymbol`, `storeVariable`: `safety && check_safety(…) == KO` refuses), a type that is
not refused is of the same kind. -/
theorem checkSafety_sameKind {safe : Bool} {sym ty : Ty} (hs : safe = true)
    (h : ¬(safe && checkSafety sym ty == .ko) = true) : sameKind sym ty = true := by
  subst hs
  -- a type of another kind is answered KO on every path of `check_safety`
  refine Decidable.by_contra fun hk => h ?_
  have hne : ¬(ty == sym) = true := fun he => hk (eq_of_beq he ▸ sameKind_refl _)
  rw [sameKind_iff] at hk
  rw [Bool.true_and, beq_iff_eq, checkSafety, if_neg hne]
  by_cases hl : sym.level > 0
  · rw [if_pos hl, if_neg fun hl2 => hk (.inr ⟨hl, hl2⟩)]
  · rw [if_neg hl]
    by_cases hl2 : (ty.level == 0) = true
    · rw [if_pos hl2, if_neg fun hm => hk (.inl ⟨by omega, eq_of_beq hl2, eq_of_beq hm⟩)]
    · rw [if_neg hl2]

theorem curOf_cons (k : String) (c f : Ty) (t : SymTab) (m : String) :
    curOf ((k, c, f) :: t) m = if k = m then some c else curOf t m := by
  by_cases h : k = m <;> simp [curOf, h]

theorem curOf_setCur (t : SymTab) (n m : String) (ty : Ty) :
    curOf (setCur t n ty) m = if n = m then some ty else curOf t m := by
  induction t with
  | nil => exact curOf_cons n ty ty [] m
  | cons p t ih =>
    obtain ⟨k, c, f⟩ := p
    unfold setCur
    split
    · rename_i hk
      cases eq_of_beq hk
      rw [curOf_cons, curOf_cons]
      split <;> rfl
    · rename_i hk
      rw [curOf_cons, curOf_cons, ih]
      by_cases hm : k = m
      · subst hm; rw [if_pos rfl, if_neg fun h => hk (beq_iff_eq.2 h.symm), if_pos rfl]
      · rw [if_neg hm, if_neg hm]

/-- every protected symbol of `t` is still there in `t'`, of the same kind -/
def Keeps (prot : List String) (t t' : SymTab) : Prop :=
  ∀ m, isSafe prot m = true → ∀ cur, curOf t m = some cur → ∃ cur', curOf t' m = some cur' ∧ sameKind cur cur' = true

theorem Keeps.refl {prot : List String} {t : SymTab} : Keeps prot t t :=
  fun _ _ cur h => ⟨cur, h, sameKind_refl cur⟩

theorem Keeps.trans {prot : List String} {a b c : SymTab} (h1 : Keeps prot a b) (h2 : Keeps prot b c) : Keeps prot a c := by
  intro m hs cur hc
  obtain ⟨c1, e1, k1⟩ := h1 m hs cur hc
  obtain ⟨c2, e2, k2⟩ := h2 m hs c1 e1
  exact ⟨c2, e2, sameKind_trans k1 k2⟩

theorem isSafe_cons {prot : List String} {v m : String} (h : isSafe prot m = true) : isSafe (v :: prot) m = true := by
  unfold isSafe at *
  simp only [Bool.or_eq_true, List.contains_cons] at *
  rcases h with h | h
  · exact Or.inl h
  · exact Or.inr (Or.inr h)

theorem Keeps.weaken {prot : List String} {v : String} {a b : SymTab} (h : Keeps (v :: prot) a b) : Keeps prot a b :=
  fun m hs cur hc => h m (isSafe_cons hs) cur hc

theorem setCur_keeps {prot : List String} {t : SymTab} {n : String} {ty : Ty}
    (h : isSafe prot n = true → ∀ cur, curOf t n = some cur → sameKind cur ty = true) : Keeps prot t (setCur t n ty) := by
  intro m hs cur hc
  rw [curOf_setCur]
  by_cases hmn : n = m
  · subst hmn; exact ⟨ty, if_pos rfl, h hs cur hc⟩
  · exact ⟨cur, (if_neg hmn).trans hc, sameKind_refl cur⟩

theorem regS_keeps {prot : List String} {t t' : SymTab} {n : String} {ty : Ty} (h : regS prot t n ty = .ok t') :
    Keeps prot t t' := by
  unfold regS at h
  cases hcur : curOf t n with
  | none =>
    rw [hcur] at h
    cases h
    exact setCur_keeps fun _ cur hc => by rw [hcur] at hc; cases hc
  | some cur0 =>
    rw [hcur] at h
    simp only at h
    by_cases he : (ty == cur0) = true
    · rw [if_pos he] at h; cases h; exact Keeps.refl
    · rw [if_neg he] at h
      by_cases hko : (isSafe prot n && checkSafety cur0 ty == .ko) = true
      · rw [if_pos hko] at h; cases h
      · rw [if_neg hko] at h
        cases h
        exact setCur_keeps fun hs cur hc => by rw [hcur] at hc; cases hc; exact checkSafety_sameKind hs hko

theorem foldE_keeps {α : Type} {prot : List String} {f : SymTab → α → Except Nat SymTab}
    (hf : ∀ t t' a, f t a = .ok t' → Keeps prot t t') :
    ∀ {as : List α} {t t' : SymTab}, foldE f t as = .ok t' → Keeps prot t t'
  | [], t, t', h => by simp [foldE] at h; cases h; exact Keeps.refl
  | a :: as, t, t', h => by
    unfold foldE at h
    split at h
    · rename_i t1 h1
      exact (hf t t1 a h1).trans (foldE_keeps hf h)
    · cases h

theorem checkStmt_keeps (funcs : List Func) : ∀ (fuel : Nat) (prot : List String) (t t' : SymTab) (st : Stmt),
    checkStmt funcs fuel prot t st = .ok t' → Keeps prot t t'
  | 0, prot, t, t', st, h => by simp [checkStmt] at h; cases h; exact Keeps.refl
  | fuel + 1, prot, t, t', st, h => by
    have ih := checkStmt_keeps funcs fuel
    cases st
    case letS n e => exact regS_keeps (by simpa [checkStmt] using h)
    case forS v b e step dir body =>
      simp only [checkStmt] at h
      split at h
      · rename_i t1 h1
        exact (regS_keeps h1).trans (Keeps.weaken (foldE_keeps (ih (v :: prot)) h))
      · cases h
    case forallS it src dir body =>
      simp only [checkStmt] at h
      split at h
      · cases h
      · split at h
        · rename_i t1 h1
          exact (regS_keeps h1).trans (Keeps.weaken (foldE_keeps (ih (it :: prot)) h))
        · cases h
    case whileS c body =>
      simp only [checkStmt] at h
      exact foldE_keeps (ih prot) h
    case ifS rules =>
      simp only [checkStmt] at h
      exact foldE_keeps (fun _ _ _ hr => foldE_keeps (ih prot) hr) h
    case beginS body catches =>
      simp only [checkStmt] at h
      split at h
      · rename_i t1 h1
        exact (foldE_keeps (ih prot) h1).trans (foldE_keeps (fun _ _ _ hr => foldE_keeps (ih prot) hr) h)
      · cases h
    all_goals
      simp only [checkStmt] at h
      cases h
      exact Keeps.refl

end BlocV.C02L
