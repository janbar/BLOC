/-
  The invariant `WorldOk` of the permission model (Model/Plugin.lean, part Perm)
  and its preservation by compilation, execution and every host operation.
-/
import BlocV.Model.Plugin

namespace BlocV.Proofs.Perm
open BlocV.Plugin BlocV.Plugin.Perm

/-- What is claimed of the ghost tag of a constructor node / of an object (`eg` = every name ever granted so far,
`ts` = some context has been trusted at some time so far): the permission test saw a trusted context or a granted
name; "granted" means the name really was granted (so it was unbanned earlier); "trusted" means a trusted context
really existed. -/
def TagOk (eg : List Name) (ts : Bool) (m : Name) (t : Tag) : Prop :=
  (t.ctxTrusted = true ∨ t.granted = true) ∧ (t.granted = true → m ∈ eg) ∧ (t.ctxTrusted = true → ts = true)

def NodeOk (eg : List Name) (ts : Bool) : Node → Prop
  | .ctor m t => TagOk eg ts m t
  | _ => True

def NodesOk (eg : List Name) (ts : Bool) (ns : List Node) : Prop := ∀ n ∈ ns, NodeOk eg ts n

def FunsOk (eg : List Name) (ts : Bool) (funs : Funs) : Prop := ∀ e ∈ funs, NodesOk eg ts e.2

def ObjsOk (eg : List Name) (ts : Bool) (objs : List Obj) : Prop := ∀ o ∈ objs, TagOk eg ts o.m o.t

structure CtxOk (eg : List Name) (ts : Bool) (c : Ctx) : Prop where
  flag : c.trusted = true → ts = true
  objs : ObjsOk eg ts c.objs
  funs : FunsOk eg ts c.funs

structure WorldOk (w : World) : Prop where
  ctxs : ∀ c, some c ∈ w.ctxs → CtxOk w.proc.everGranted w.trustedSeen c
  exes : ∀ x, some x ∈ w.exes → NodesOk w.proc.everGranted w.trustedSeen x
  granted : ∀ n, n ∈ w.proc.granted → n ∈ w.proc.everGranted

theorem TagOk.mono {eg eg' : List Name} {ts ts' : Bool} {m : Name} {t : Tag} (h : TagOk eg ts m t)
    (he : eg ⊆ eg') (ht : ts = true → ts' = true) : TagOk eg' ts' m t :=
  ⟨h.1, fun g => he (h.2.1 g), fun g => ht (h.2.2 g)⟩

theorem NodeOk.mono {eg eg' : List Name} {ts ts' : Bool} {n : Node} (h : NodeOk eg ts n)
    (he : eg ⊆ eg') (ht : ts = true → ts' = true) : NodeOk eg' ts' n := by
  cases n with
  | ctor m t => exact TagOk.mono h he ht
  | _ => trivial

theorem CtxOk.mono {eg eg' : List Name} {ts ts' : Bool} {c : Ctx} (h : CtxOk eg ts c)
    (he : eg ⊆ eg') (ht : ts = true → ts' = true) : CtxOk eg' ts' c :=
  ⟨fun g => ht (h.flag g), fun o ho => (h.objs o ho).mono he ht, fun e hm n hn => (h.funs e hm n hn).mono he ht⟩

theorem NodesOk.cons {eg : List Name} {ts : Bool} {n : Node} {ns : List Node} (h : NodeOk eg ts n)
    (hs : NodesOk eg ts ns) : NodesOk eg ts (n :: ns) :=
  List.forall_mem_cons.mpr ⟨h, hs⟩

/-- what holds of every value a result can be `.ok` of: nothing to show for a failure, the value itself for a success -/
theorem of_error {ε α : Type} {P : α → Prop} {e : ε} (a : α) (h : (.error e : Except ε α) = .ok a) : P a := nomatch h

theorem of_ok {ε α : Type} {P : α → Prop} {a0 : α} (h0 : P a0) (a : α) (h : (.ok a0 : Except ε α) = .ok a) : P a :=
  Except.ok.inj h ▸ h0

/-! ### compilation

`g` and `eg` are the granted and the ever-granted names of the process: compilation changes neither. -/

def Perms (g eg : List Name) (p : Proc) : Prop := p.granted = g ∧ p.everGranted = eg

theorem register_perms {g eg : List Name} {p : Proc} (hp : Perms g eg p) (l : Lib) : Perms g eg (p.register l).1 := by
  unfold Proc.register
  split
  · exact hp
  · split <;> exact hp

theorem setFun_ok {eg : List Name} {ts : Bool} {funs : Funs} (hf : FunsOk eg ts funs) (f : Name) {b : List Node}
    (hb : NodesOk eg ts b) : FunsOk eg ts (setFun funs f b) := by
  unfold setFun
  split
  · intro e he
    obtain ⟨e0, he0, rfl⟩ := List.mem_map.mp he
    split
    · exact hb
    · exact hf e0 he0
  · exact List.forall_mem_append.mpr ⟨hf, List.forall_mem_singleton.mpr hb⟩

/-- What holds of the pair that compiling a statement or a function body returns: the process has the permissions it
had, and `Q` holds of what was compiled, if the text was accepted. -/
structure StepOk {α : Type} (g eg : List Name) (Q : α → Prop) (r : Proc × Except PErr α) : Prop where
  proc : Perms g eg r.1
  res : ∀ a, r.2 = .ok a → Q a

/-- The same of the result of compiling top-level statements, which hands back the function table as well: also when
the text is rejected, the functions installed so far have their constructor nodes in order. -/
structure ResOk (g eg : List Name) (ts : Bool) (r : CompRes) : Prop where
  proc : Perms g eg r.proc
  funs : FunsOk eg ts r.funs
  res : ∀ ns, r.res = .ok ns → NodesOk eg ts ns

theorem ResOk.map {g eg : List Name} {ts : Bool} {r : CompRes} (h : ResOk g eg ts r) {f : List Node → List Node}
    (hf : ∀ {ns}, NodesOk eg ts ns → NodesOk eg ts (f ns)) : ResOk g eg ts ⟨r.proc, r.funs, r.res.map f⟩ := by
  refine ⟨h.proc, h.funs, fun ns e => ?_⟩
  cases hr : r.res with
  | error e' => rw [hr] at e; cases e
  | ok ns0 => rw [hr] at e; cases e; exact hf (h.res _ hr)

/-- What a compilation step function has to satisfy (used for the include recursion). -/
def CompOk (g eg : List Name) (ts : Bool) (f : Proc → Funs → List Top → CompRes) : Prop :=
  ∀ p funs tops, Perms g eg p → FunsOk eg ts funs → ResOk g eg ts (f p funs tops)

section Compile
variable {g eg : List Name} (hg : ∀ n, n ∈ g → n ∈ eg) {tr ts : Bool} (htr : tr = true → ts = true) (ext : Ext)
include hg htr

theorem compileSimple_ok (funs : Funs) {p : Proc} (hp : Perms g eg p) (s : Simple) :
    StepOk g eg (NodeOk eg ts) (compileSimple ext tr funs p s) := by
  cases s with
  | ctor m =>
    simp only [compileSimple]
    split
    · split
      · exact ⟨hp, of_error⟩
      next hc =>
        refine ⟨hp, of_ok ⟨?_, fun hgr => hg _ (hp.1 ▸ List.contains_iff_mem.mp hgr), htr⟩⟩
        simp only [Bool.and_eq_true, Bool.not_eq_eq_eq_not, Bool.not_true, not_and, Bool.not_eq_false] at hc
        cases htr' : tr with
        | true => exact .inl rfl
        | false => exact .inr (hc htr')
    · split
      · exact ⟨hp, of_ok trivial⟩
      · exact ⟨hp, of_error⟩
  | typedDecl m | call f =>
    simp only [compileSimple]
    split
    · exact ⟨hp, of_ok trivial⟩
    · exact ⟨hp, of_error⟩
  | importName nm =>
    simp only [compileSimple]
    split
    · exact ⟨hp, of_error⟩
    · split
      · exact ⟨register_perms hp _, of_ok trivial⟩
      · exact ⟨register_perms hp _, of_error⟩
  | importPath path =>
    simp only [compileSimple]
    split
    · exact ⟨hp, of_error⟩
    · split
      · exact ⟨hp, of_error⟩
      · split
        · exact ⟨register_perms hp _, of_ok trivial⟩
        · exact ⟨register_perms hp _, of_error⟩
  | trace b | raise => exact ⟨hp, of_ok trivial⟩
  | bad => exact ⟨hp, of_error⟩

theorem compileSimples_ok (funs : Funs) : ∀ (body : List Simple) {p : Proc}, Perms g eg p →
    StepOk g eg (NodesOk eg ts) (compileSimples ext tr funs p body)
  | [], p, hp => ⟨hp, of_ok fun _ h => nomatch h⟩
  | s :: rest, p, hp => by
    have h1 := compileSimple_ok hg htr ext funs hp s
    simp only [compileSimples]
    split
    next heq => rw [heq] at h1; exact ⟨h1.proc, of_error⟩
    next p1 n heq =>
      rw [heq] at h1
      have h2 := compileSimples_ok funs rest h1.proc
      split
      next heq2 => rw [heq2] at h2; exact ⟨h2.proc, of_error⟩
      next heq2 => rw [heq2] at h2; exact ⟨h2.proc, of_ok (.cons (h1.res n rfl) (h2.res _ rfl))⟩

theorem compileList_ok (inc : Nat → Proc → Funs → List Top → CompRes) (hinc : ∀ d, CompOk g eg ts (inc d)) (depth : Nat) :
    CompOk g eg ts (compileList ext tr inc depth) := by
  intro p funs tops
  induction tops generalizing p funs with
  | nil => exact fun hp hf => ⟨hp, hf, of_ok fun _ h => nomatch h⟩
  | cons t rest ih =>
    intro hp hf
    cases t with
    | simple s =>
      have h1 := compileSimple_ok hg htr ext funs hp s
      simp only [compileList]
      split
      next heq => rw [heq] at h1; exact ⟨h1.proc, hf, of_error⟩
      next p1 n heq =>
        rw [heq] at h1
        exact (ih p1 funs h1.proc hf).map (.cons (h1.res n rfl))
    | func f body =>
      simp only [compileList]
      have h1 := compileSimples_ok hg htr ext (if (lookupFun funs f).isSome then funs else setFun funs f []) body hp
      split
      next heq => rw [heq] at h1; exact ⟨h1.proc, hf, of_error⟩
      next p1 b heq =>
        rw [heq] at h1
        exact (ih p1 _ h1.proc (setFun_ok hf f (h1.res b rfl))).map (.cons trivial)
    | incl file =>
      simp only [compileList]
      split
      · exact ⟨hp, hf, of_error⟩
      · split
        · exact ⟨hp, hf, of_error⟩
        · split
          · exact ⟨hp, hf, of_error⟩
          next tops _ =>
            have h1 := hinc (depth + 1) p funs tops hp hf
            split
            · exact ⟨h1.proc, h1.funs, of_error⟩
            next ns1 hr1 =>
              exact (ih _ _ h1.proc h1.funs).map fun hs => List.forall_mem_append.mpr ⟨h1.res ns1 hr1, hs⟩

theorem compileTops_ok : ∀ fuel depth, CompOk g eg ts (compileTops ext tr fuel depth)
  | 0, _ => fun _ _ _ hp hf => ⟨hp, hf, of_error⟩
  | fuel + 1, depth => compileList_ok hg htr ext _ (compileTops_ok fuel) depth

end Compile

theorem runNodes_ok {eg : List Name} {ts : Bool} {funs : Funs} (hf : FunsOk eg ts funs) :
    ∀ (fuel : Nat) (ns : List Node) (r : RunSt), NodesOk eg ts ns → ObjsOk eg ts r.objs →
      ObjsOk eg ts (runNodes funs fuel ns r).objs
  | 0, _, _, _, ho => ho
  | _ + 1, [], _, _, ho => ho
  | k + 1, n :: rest, r, hn, ho => by
    obtain ⟨hn, hrest⟩ := List.forall_mem_cons.mp hn
    simp only [runNodes]
    split
    · exact ho
    · cases n with
      | ctor m t =>
        exact runNodes_ok hf k rest _ hrest (List.forall_mem_append.mpr ⟨ho, List.forall_mem_singleton.mpr hn⟩)
      | nop | trace b => exact runNodes_ok hf k rest _ hrest ho
      | raise => exact ho
      | call f =>
        dsimp only
        split
        next b hl =>
          refine runNodes_ok hf k rest _ hrest (runNodes_ok hf k b r ?_ ho)
          unfold lookupFun at hl
          split at hl
          next e he => cases hl; exact hf e (List.mem_of_find?_eq_some he)
          · cases hl
        · exact runNodes_ok hf k rest r hrest ho

/-- `getCtx` reads slot `k` of the list of contexts, so what a host operation does to a slot is a fact about
`List.set` and `++`. -/
theorem getCtx_eq (w : World) (k : Nat) : getCtx w k = w.ctxs[k]?.join := by
  unfold getCtx
  rcases w.ctxs[k]? with _ | _ | c <;> rfl

theorem getCtx_eq_some {w : World} {k : Nat} {c : Ctx} : getCtx w k = some c ↔ w.ctxs[k]? = some (some c) := by
  rw [getCtx_eq, Option.join_eq_some_iff]

theorem getCtx_lt {w : World} {k : Nat} {c : Ctx} (h : getCtx w k = some c) : k < w.ctxs.length :=
  (List.getElem?_eq_some_iff.mp (getCtx_eq_some.mp h)).1

theorem getExe_mem {w : World} {x : Nat} {e : List Node} (h : getExe w x = some e) : some e ∈ w.exes := by
  unfold getExe at h
  split at h
  next hk => cases h; exact List.mem_of_getElem? hk
  · cases h

theorem WorldOk.ctx {w : World} (hw : WorldOk w) {k : Nat} {c : Ctx} (h : getCtx w k = some c) :
    CtxOk w.proc.everGranted w.trustedSeen c :=
  hw.ctxs c (List.mem_of_getElem? (getCtx_eq_some.mp h))

theorem WorldOk.seen {w : World} (hw : WorldOk w) (b : Bool) : WorldOk { w with trustedSeen := w.trustedSeen || b } :=
  have ht : w.trustedSeen = true → (w.trustedSeen || b) = true := fun h => by simp [h]
  ⟨fun c hc => (hw.ctxs c hc).mono (List.Subset.refl _) ht,
    fun x hx n hn => (hw.exes x hx n hn).mono (List.Subset.refl _) ht, hw.granted⟩

theorem WorldOk.setCtx {w : World} (hw : WorldOk w) (k : Nat) {c : Ctx} (hc : CtxOk w.proc.everGranted w.trustedSeen c) :
    WorldOk { w with ctxs := w.ctxs.set k (some c) } :=
  ⟨fun c' h => (List.mem_or_eq_of_mem_set h).elim (hw.ctxs c') fun h => Option.some.inj h ▸ hc, hw.exes, hw.granted⟩

theorem WorldOk.pushCtx {w : World} (hw : WorldOk w) {c : Ctx} (hc : CtxOk w.proc.everGranted w.trustedSeen c) :
    WorldOk { w with ctxs := w.ctxs ++ [some c] } :=
  ⟨fun c' h => (List.mem_append.mp h).elim (hw.ctxs c') fun h => by cases List.mem_singleton.mp h; exact hc,
    hw.exes, hw.granted⟩

theorem hostStep_ok (ext : Ext) {w : World} (op : HostOp) (hw : WorldOk w) : WorldOk (hostStep ext w op) := by
  cases op with
  | unban n =>
    have he : w.proc.everGranted ⊆ (w.proc.unban n).everGranted := List.subset_append_left ..
    refine ⟨fun c hc => (hw.ctxs c hc).mono he id, fun x hx n' hn' => (hw.exes x hx n' hn').mono he id, fun x hx => ?_⟩
    simp only [hostStep, Proc.unban] at hx ⊢
    split at hx
    · exact List.mem_append_left _ (hw.granted x hx)
    · exact (List.mem_append.mp hx).elim (fun h => List.mem_append_left _ (hw.granted x h)) (List.mem_append_right _)
  | clearPerms => exact ⟨hw.ctxs, hw.exes, (fun _ h => nomatch h)⟩
  | newCtx tr => exact (hw.seen tr).pushCtx ⟨fun (h : tr = true) => by simp [h], (fun _ h => nomatch h), (fun _ h => nomatch h)⟩
  | setTrace k b =>
    simp only [hostStep]
    split
    next c hk => have h0 := hw.ctx hk; exact hw.setCtx k ⟨h0.flag, h0.objs, h0.funs⟩
    · exact hw
  | setTrusted k b =>
    simp only [hostStep]
    split
    next c hk =>
      have h0 := (hw.seen b).ctx hk
      exact (hw.seen b).setCtx k ⟨fun (h : b = true) => by simp [h], h0.objs, h0.funs⟩
    · exact hw
  | clone k =>
    simp only [hostStep]
    split
    next c hk => have h0 := hw.ctx hk; exact hw.pushCtx ⟨h0.flag, h0.objs, h0.funs⟩
    · exact hw
  | free k => exact ⟨fun c h => (List.mem_or_eq_of_mem_set h).elim (hw.ctxs c) (fun h => nomatch h), hw.exes, hw.granted⟩
  | purge k =>
    simp only [hostStep]
    split
    next c hk => exact hw.setCtx k ⟨(hw.ctx hk).flag, (fun _ h => nomatch h), (fun _ h => nomatch h)⟩
    · exact hw
  | compile k prog =>
    simp only [hostStep]
    split
    next c hk =>
      -- three changes in turn: the process (same permissions), the function table of context `k`, the new executable
      have hc := hw.ctx hk
      obtain ⟨⟨h1, h2⟩, h3, h4⟩ := compileTops_ok hw.granted hc.flag ext compFuel 0 w.proc c.funs prog ⟨rfl, rfl⟩ hc.funs
      have hw1 : WorldOk { w with proc := (compileTops ext c.trusted compFuel 0 w.proc c.funs prog).proc } :=
        ⟨h2 ▸ hw.ctxs, h2 ▸ hw.exes, h1 ▸ h2 ▸ hw.granted⟩
      have hw2 := hw1.setCtx k (c := { c with funs := (compileTops ext c.trusted compFuel 0 w.proc c.funs prog).funs })
        ⟨hc.flag, h2 ▸ hc.objs, h2 ▸ h3⟩
      split
      next ns hr =>
        exact ⟨hw2.ctxs, fun x hx => (List.mem_append.mp hx).elim (hw2.exes x) fun h => by
          cases List.mem_singleton.mp h; exact h2 ▸ h4 ns hr, hw2.granted⟩
      · exact ⟨hw2.ctxs, fun x hx => (List.mem_append.mp hx).elim (hw2.exes x) fun h => (nomatch List.mem_singleton.mp h),
          hw2.granted⟩
    · exact hw
  | run x k =>
    simp only [hostStep]
    split
    next ns c hx hk =>
      have hc := hw.ctx hk
      refine ⟨fun c' h => (List.mem_or_eq_of_mem_set h).elim (hw.ctxs c') fun h => ?_, hw.exes, hw.granted⟩
      cases h
      exact ⟨hc.flag, runNodes_ok hc.funs _ _ ⟨c.objs, c.trace, false⟩ (hw.exes ns (getExe_mem hx)) hc.objs, hc.funs⟩
    · exact hw
  | freeExe x =>
    exact ⟨hw.ctxs, fun e he => (List.mem_or_eq_of_mem_set he).elim (hw.exes e) (fun h => nomatch h), hw.granted⟩

theorem init_ok : WorldOk World.init := ⟨(fun _ h => nomatch h), (fun _ h => nomatch h), (fun _ h => nomatch h)⟩

theorem hostRun_ok (ext : Ext) (ops : List HostOp) {w : World} (hw : WorldOk w) : WorldOk (hostRun ext w ops) :=
  List.foldlRecOn ops _ hw fun _ hw op _ => hostStep_ok ext op hw

end BlocV.Proofs.Perm
