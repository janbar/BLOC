/-
  The interpreter model (Model/Interp.lean) as the proofs use it: rewrite rules for applied `EvalM` computations and equations of
  `exec`; `Pres R x` ("whatever the outcome of `x`, the state after is `R`-related to the state before"); one mutual induction over
  the eight functions of the mutual block for every predicate closed under what the interpreter does (`IRules`, `interp_all`), the
  built-ins by the walks of Lemmas/BuiltinWalk.lean; the loop of a `forall` by a rule of its own (`forallLoop_run`); instances
  `SameIters` and `Frame` (more in Lemmas/ErrRec.lean).
-/
import BlocV.Proofs.Lemmas.BuiltinWalk
namespace BlocV.Lemmas

/-! ## computing with `EvalM` — rewrite rules for *applied* computations (so that `simp only`
never has to unfold the monad operations under a binder) -/

theorem pure_app {α} (a : α) (s : St) : (pure a : EvalM α) s = (.ok a, s) := rfl
theorem bind_app {α β} (x : EvalM α) (f : α → EvalM β) (s : St) :
    (x >>= f) s = (match x s with
      | (.ok a, s') => f a s'
      | (.err c a, s') => (.err c a, s')
      | (.haz h, s') => (.haz h, s')
      | (.unmodelled, s') => (.unmodelled, s')) := rfl
theorem bind_snd_cases {α β} {P : St → Prop} {x : EvalM α} {f : α → EvalM β} {s : St}
    (hx : P (x s).2) (hf : ∀ a s1, x s = (.ok a, s1) → P s1 → P (f a s1).2) : P ((x >>= f) s).2 := by
  rw [bind_app]
  cases hxs : x s with
  | mk r s1 =>
    rw [hxs] at hx
    cases r with
    | ok a => exact hf a s1 hxs hx
    | _ => exact hx

theorem bind_app_eq_ok {α β} {x : EvalM α} {f : α → EvalM β} {s s' : St} {b : β} (h : (x >>= f) s = (.ok b, s')) :
    ∃ a s1, x s = (.ok a, s1) ∧ f a s1 = (.ok b, s') := by
  rw [bind_app] at h
  split at h
  · exact ⟨_, _, ‹_›, h⟩
  all_goals cases h

theorem getSt_app (s : St) : getSt s = (.ok s, s) := rfl
theorem modifySt_app (f : St → St) (s : St) : modifySt f s = (.ok (), f s) := rfl
theorem failE_app {α} (c : Nat) (a : Bytes) (s : St) : (failE c a : EvalM α) s = (.err c a, s) := rfl
theorem oof_app {α} (s : St) : (oof : EvalM α) s = (.err oofCode [], s) := rfl
theorem liftM_app {α} (r : Res α) (s : St) : (liftM r : EvalM α) s = (r, s) := rfl
theorem evalM_ite_app {α} (c : Prop) [Decidable c] (x y : EvalM α) (s : St) :
    (if c then x else y) s = if c then x s else y s := by split <;> rfl

theorem eval_lit (funcs : List Func) (depth fuel : Nat) (v : Val) (s : St) :
    eval funcs depth (fuel + 1) (.lit v) s = (.ok v, s) := by simp only [eval, pure_app]

theorem eval_var (funcs : List Func) (depth fuel : Nat) (n : String) (s : St) :
    eval funcs depth (fuel + 1) (.var n) s = (readVar s n, s) := by
  simp only [eval, bind_app, getSt_app, liftM_app]

theorem eval_error (funcs : List Func) (depth fuel : Nat) (s : St) :
    eval funcs depth (fuel + 1) .errorE s = (errorTuple s.lastErr, s) := by
  simp only [eval, bind_app, getSt_app, liftM_app]

theorem eval_fcall (funcs : List Func) (depth fuel : Nat) (name : String) (args : List Expr) :
    eval funcs depth (fuel + 1) (.fcall name args) = callFunc funcs depth fuel name args := by rw [eval]

theorem readVar_of_not_iter {s : St} {n : String} (h : s.iters.any (·.it == n) = false) : readVar s n = .ok (lookupVar s.vars n) := by
  rw [readVar, List.find?_eq_none.mpr (List.any_eq_false.mp h)]

theorem eval_var_run {funcs : List Func} {depth fuel : Nat} {n : String} {s s' : St} {v : Val}
    (h : eval funcs depth fuel (.var n) s = (.ok v, s')) : s' = s ∧ (s.iters.any (·.it == n) = false → v = lookupVar s.vars n) := by
  cases fuel with
  | zero => rw [eval] at h; cases h
  | succ k =>
    rw [eval_var] at h
    obtain ⟨hv, rfl⟩ := Prod.mk.inj h
    exact ⟨rfl, fun hn => Res.ok.inj ((readVar_of_not_iter hn).symm.trans hv).symm⟩

theorem evalArgs_nil (funcs : List Func) (d k : Nat) (s : St) : evalArgs funcs d (k + 1) [] s = (.ok [], s) := by
  simp only [evalArgs, pure_app]

theorem callFunc_unfold {funcs : List Func} {depth fuel : Nat} {name : String} {args : List Expr}
    {s s1 : St} {f : Func} {vals : List Val}
    (hf : funcs.find? (fun f => f.name == name && f.params.length == args.length) = some f)
    (hd : (depth == Gen.RECURSION_LIMIT) = false)
    (ha : evalArgs funcs depth fuel args s = (.ok vals, s1)) :
    callFunc funcs depth (fuel + 1) name args s =
      finishCall s1 (execBlock funcs (depth + 1) fuel f.body f.catches (calleeInit f vals s1)) := by
  simp [callFunc, hf, hd, bind, ha]

theorem finishCall_snd (caller : St) (r : Res Flow × St) :
    (finishCall caller r).2 = { caller with out := r.2.out, budget := r.2.budget } := by
  unfold finishCall; cases r.1 <;> rfl

theorem finishCall_fst (c c' : St) (r : Res Flow × St) : (finishCall c r).1 = (finishCall c' r).1 := by
  unfold finishCall; cases r.1 <;> rfl

theorem forallExit_fst (it : String) (r : Res Flow × St) : (forallExit it r).1 = r.1 := by
  unfold forallExit; split <;> rfl

theorem handlerExit_fst (o : LastErr) (r : Res Flow × St) : (handlerExit o r).1 = r.1 := by
  unfold handlerExit; split <;> rfl

theorem handlerExit_ok (o : LastErr) (fl : Flow) (s : St) : handlerExit o (.ok fl, s) = (.ok fl, { s with lastErr := o }) := rfl

theorem handlerExit_err (o : LastErr) (c : Nat) (a : Bytes) (s : St) : handlerExit o (.err c a, s) = (.err c a, s) := rfl

theorem handlerExit_output (o : LastErr) (r : Res Flow × St) : (handlerExit o r).2.output = r.2.output := by
  unfold handlerExit; split <;> rfl

/-- **A block is its body unless a clause matches**: whatever the body's outcome — no error, out of fuel, an error no clause matches,
a hazard — it is the block's; only an error that a clause matches is replaced by the run of the first such clause. -/
theorem execBlock_cases {P : Res Flow × St → Prop} {funcs : List Func} {depth fuel : Nat} {body : List Stmt}
    {catches : List (String × List Stmt)} {s : St} (pass : P (execList funcs depth fuel body s))
    (handle : ∀ c a s' n h, execList funcs depth fuel body s = (.err c a, s') → (c == oofCode) = false →
      catches.find? (fun cl => catchMatches cl.1 c a) = some (n, h) →
      P (handlerExit s.lastErr (execList funcs depth fuel h { s' with lastErr := (c, a) }))) :
    P (execBlock funcs depth (fuel + 1) body catches s) := by
  unfold execBlock
  split
  · rename_i c a s' heq
    rw [heq] at pass
    split
    · exact pass
    · rename_i hc
      split
      · exact handle c a s' _ _ heq (Bool.eq_false_iff.mpr hc) ‹_›
      · exact pass
  · exact pass

theorem execBlock_no_catches (funcs : List Func) (depth fuel : Nat) (body : List Stmt) (s : St) :
    execBlock funcs depth (fuel + 1) body [] s = execList funcs depth fuel body s :=
  execBlock_cases (P := (· = _)) rfl fun _ _ _ _ _ _ _ hm => nomatch hm

/-- the state in which a statement's own work starts: one unit of the work budget is consumed -/
def tick (s : St) : St := { s with budget := s.budget - 1 }

theorem tick_iters (s : St) : (tick s).iters = s.iters := rfl
theorem readVar_tick (s : St) (n : String) : readVar (tick s) n = readVar s n := rfl

theorem budget_left {s : St} (h : s.budget ≠ 0) : ¬ (s.budget == 0) = true := fun hb => h (eq_of_beq hb)

/-- The end of the `for` case of `exec` (Model/Interp.lean; FORStatement::doit, first entry), bounds and step being integers: the
direction, the first assignment, the re-entry loop. The case after its bounds is cut in two, `forFrom` and `forRun`, in the model's
own text: `exec_forS` holds by unfolding, and a proof about one stage of the header does not normalise the others. -/
def forRun (funcs : List Func) (depth fuel : Nat) (v : String) (dir : Dir) (body : List Stmt) (bi ei s : Int64) : EvalM Flow := do
  if ei > bi then
    if dir == .desc then return .norm
    modifySt fun st => { st with vars := setVar st.vars v (.int bi) }
    forLoop (execList funcs depth fuel body) v bi ei s fuel
  else
    if dir == .asc && ei != bi then return .norm
    modifySt fun st => { st with vars := setVar st.vars v (.int bi) }
    forLoop (execList funcs depth fuel body) v ei bi (0 - s) fuel

/-- The `for` case of `exec` from its bounds on, both evaluated and not null: the step (absent = 1), then `forRun`. -/
def forFrom (funcs : List Func) (depth fuel : Nat) (v : String) (step : Option Expr) (dir : Dir) (body : List Stmt) (vb ve : Val) :
    EvalM Flow := do
  let mut s : Int64 := 1
  match step with
  | some se =>
    let vs ← eval funcs depth fuel se
    if vs.isNull then return .norm
    s ← liftM vs.asInt
    if s < 1 then failE Gen.EXC_RT_OUT_OF_RANGE else pure ()
  | none => pure ()
  let bi ← liftM vb.asInt
  let ei ← liftM ve.asInt
  forRun funcs depth fuel v dir body bi ei s

section equations
variable (funcs : List Func) (depth fuel : Nat) {s : St} (h : s.budget ≠ 0)
include h

theorem exec_doS (e : Expr) : exec funcs depth (fuel + 1) (.doS e) s =
    (do let _ ← eval funcs depth fuel e; pure .norm : EvalM Flow) (tick s) := by
  rw [exec]; exact if_neg (budget_left h)

theorem exec_beginS (body : List Stmt) (catches : List (String × List Stmt)) :
    exec funcs depth (fuel + 1) (.beginS body catches) s = execBlock funcs depth fuel body catches (tick s) := by
  rw [exec]; exact if_neg (budget_left h)

theorem exec_raiseS (name : String) : exec funcs depth (fuel + 1) (.raiseS name) s =
    (if findThrowable name == Gen.EXC_RT_USER_S then failE (findThrowable name) (nameBytes name) else failE (findThrowable name) : EvalM Flow)
      (tick s) := by
  rw [exec]; exact if_neg (budget_left h)

theorem exec_ifS (rules : List (Option Expr × List Stmt)) :
    exec funcs depth (fuel + 1) (.ifS rules) s = execIf funcs depth fuel rules (tick s) := by
  rw [exec]; exact if_neg (budget_left h)

theorem exec_returnS (e : Expr) : exec funcs depth (fuel + 1) (.returnS (some e)) s =
    (do
      let v ← eval funcs depth fuel e
      modifySt fun s => { s with returned := some v }
      pure .ret : EvalM Flow) (tick s) := by
  rw [exec]; exact if_neg (budget_left h)

theorem exec_letS (n : String) (e : Expr) : exec funcs depth (fuel + 1) (.letS n e) s =
    (do
      let s ← getSt
      match s.iters.find? (·.it == n) with
      | none =>
        let v ← eval funcs depth fuel e
        modifySt fun s => { s with vars := setVar s.vars n v }
        pure .norm
      | some b0 =>
        if b0.locked then liftM (Res.unmodelled : Res Flow) else do
        let v ← eval funcs depth fuel e
        let s ← getSt
        match s.iters.find? (·.it == n) with
        | none => liftM (Res.unmodelled : Res Flow)
        | some b =>
          let tbl' ← liftM (forallStep (s.iterTable b) b.idx v)
          match b.src with
          | some t => modifySt fun st => { st with vars := setVar st.vars t tbl' }
          | none => modifySt fun st => { st with iters := st.iters.map fun x => if x.it == n then { x with priv := tbl' } else x }
          pure .norm : EvalM Flow) (tick s) := by
  rw [exec]; exact if_neg (budget_left h)

theorem exec_forS (v : String) (b e : Expr) (step : Option Expr) (dir : Dir) (body : List Stmt) :
    exec funcs depth (fuel + 1) (.forS v b e step dir body) s =
    (do
      let vb ← eval funcs depth fuel b
      if vb.isNull then return .norm
      let ve ← eval funcs depth fuel e
      if ve.isNull then return .norm
      forFrom funcs depth fuel v step dir body vb ve : EvalM Flow) (tick s) := by
  rw [exec]; exact if_neg (budget_left h)

theorem exec_forallS (it : String) (src : Expr) (dir : Dir) (body : List Stmt) :
    exec funcs depth (fuel + 1) (.forallS it src dir body) s =
    (do
      let tv ← eval funcs depth fuel src
      if tv.isNull then return .norm
      if tv.type.level == 0 then liftM (Res.unmodelled : Res Flow) else
      let n := tableSize tv
      if n == 0 then return .norm
      let s ← getSt
      if s.iters.any (·.it == it) then failE Gen.EXC_RT_NOT_IMPLEMENTED else
      let desc := dir == .desc
      let first := if desc then n - 1 else 0
      let bak := (lookupVar s.vars it).type
      match src with
      | .var t =>
        if s.iters.any (·.it == t) then liftM (Res.unmodelled : Res Flow) else
        let b : Iter := { it := it, src := some t, priv := .null Ty.none, idx := first, bak := bak,
                          locked := s.iters.any (·.src == some t) }
        fun s1 => forallExit it (forallLoop (execList funcs depth fuel body) it desc fuel { s1 with iters := b :: s1.iters })
      | _ =>
        let b : Iter := { it := it, src := none, priv := tv, idx := first, bak := bak, locked := false }
        fun s1 => forallExit it (forallLoop (execList funcs depth fuel body) it desc fuel { s1 with iters := b :: s1.iters })
      : EvalM Flow) (tick s) := by
  rw [exec]; exact if_neg (budget_left h)
end equations

theorem exec_forS_bounds {funcs : List Func} {depth fuel : Nat} {v : String} {b e : Expr} {step : Option Expr} {dir : Dir}
    {body : List Stmt} {s s1 s2 : St} {vb ve : Val} (hbud : s.budget ≠ 0)
    (hb : eval funcs depth fuel b (tick s) = (.ok vb, s1)) (hnb : vb.isNull = false)
    (he : eval funcs depth fuel e s1 = (.ok ve, s2)) (hne : ve.isNull = false) :
    exec funcs depth (fuel + 1) (.forS v b e step dir body) s = forFrom funcs depth fuel v step dir body vb ve s2 := by
  rw [exec_forS funcs depth fuel hbud]
  simp only [Bool.false_eq_true, if_false, bind_app, evalM_ite_app, hb, he, hnb, hne]

structure StRel (R : St → St → Prop) : Prop where
  refl : ∀ s, R s s
  trans : ∀ {a b c}, R a b → R b c → R a c

theorem StRel.of_eq {β} (f : St → β) : StRel fun s s' => f s' = f s := ⟨fun _ => rfl, fun h1 h2 => h2.trans h1⟩

structure Pres (R : St → St → Prop) {α} (x : EvalM α) : Prop where
  h : ∀ s, R s (x s).2

variable {R : St → St → Prop}

theorem Pres.run {α} {x : EvalM α} (h : Pres R x) {s s' : St} {r : Res α} (e : x s = (r, s')) : R s s' := by
  have := h.h s
  rwa [e] at this

theorem Pres.pure (hR : StRel R) {α} (a : α) : Pres R (pure a : EvalM α) := ⟨fun s => hR.refl s⟩

theorem Pres.bindRet (hR : StRel R) {α β} {x : EvalM α} {f : α → EvalM β}
    (hx : Pres R x) (hf : ∀ a, (∃ s, (x s).1 = .ok a) → Pres R (f a)) : Pres R (x >>= f) :=
  ⟨fun s => bind_snd_cases (hx.h s) fun a s1 e h1 => hR.trans h1 ((hf a ⟨s, by rw [e]⟩).h s1)⟩

theorem Pres.bind (hR : StRel R) {α β} {x : EvalM α} {f : α → EvalM β}
    (hx : Pres R x) (hf : ∀ a, Pres R (f a)) : Pres R (x >>= f) := Pres.bindRet hR hx fun a _ => hf a

theorem Pres.lift (hR : StRel R) {α} (r : Res α) : Pres R (liftM r : EvalM α) := ⟨fun s => hR.refl s⟩
theorem Pres.mlift (hR : StRel R) {α} (r : Res α) : Pres R (monadLift r : EvalM α) := ⟨fun s => hR.refl s⟩
theorem Pres.liftR (hR : StRel R) {α} (r : Res α) : Pres R (liftR r : EvalM α) := ⟨fun s => hR.refl s⟩
theorem Pres.argTypeErr (hR : StRel R) {α} : Pres R (argTypeErr : EvalM α) := ⟨fun s => hR.refl s⟩

theorem Pres.getSt (hR : StRel R) : Pres R getSt := ⟨fun s => hR.refl s⟩
theorem Pres.getSt_bind {R : St → St → Prop} {β} {f : St → EvalM β} (hf : ∀ s, R s (f s s).2) : Pres R (BlocV.getSt >>= f) := ⟨fun s => hf s⟩
theorem Pres.failE (hR : StRel R) {α} (c : Nat) (a : Bytes) : Pres R (failE c a : EvalM α) := ⟨fun s => hR.refl s⟩
theorem Pres.modifySt {f : St → St} (hf : ∀ s, R s (f s)) : Pres R (modifySt f) := ⟨hf⟩

/-! ## predicates that hold of every run of the interpreter

`T` is a predicate on computations. `MRules T`: `T` is closed under the operations of `EvalM` that do not write the state — enough
for the loop runners and the built-ins. `BRules T`: also under the writes that leave the variables alone. `IRules T strict`: under every
state change the interpreter makes, each as it makes it. The steps (`eval_rules` … `exec_rules`) give `T` of a function at `fuel + 1`
from what it needs of the parts at `fuel` (`NeedsE`, `NeedsS`); under `IRules` the needs are met by induction, so `T` holds of all
eight functions of the mutual block (`interp_all`); with `strict`, of code without exception clauses only, and nothing is asked of a
callee or of a clause. -/

structure MRules (T : ∀ {α : Type}, EvalM α → Prop) : Prop where
  pure : ∀ {α} (a : α), T (Pure.pure a : EvalM α)
  /-- `f` need only be good on the values `x` can return -/
  bindRet : ∀ {α β} {x : EvalM α} {f : α → EvalM β}, T x → (∀ a, (∃ s, (x s).1 = .ok a) → T (f a)) → T (x >>= f)
  lift : ∀ {α} (r : Res α), T (liftM r : EvalM α)
  getSt : T getSt
  failE : ∀ {α} (c : Nat) (a : Bytes), T (failE c a : EvalM α)

theorem Pres.mrules (hR : StRel R) : MRules (fun {_} x => Pres R x) :=
  ⟨Pres.pure hR, Pres.bindRet hR, Pres.lift hR, Pres.getSt hR, Pres.failE hR⟩

section rules
variable {T : ∀ {α : Type}, EvalM α → Prop}

theorem MRules.bind (M : MRules T) {α β} {x : EvalM α} {f : α → EvalM β} (hx : T x) (hf : ∀ a, T (f a)) : T (x >>= f) :=
  M.bindRet hx fun a _ => hf a

theorem ite_rule {α} (c : Prop) [Decidable c] {x y : EvalM α} (hx : T x) (hy : T y) : T (if c then x else y) := by
  split <;> assumption

theorem whileLoop_rules (M : MRules T) {cond : EvalM Val} {body : EvalM Flow} (hc : T cond) (hb : T body) :
    ∀ k, T (whileLoop cond body k)
  | 0 => M.failE _ _
  | k + 1 => by
    unfold whileLoop
    refine M.bind hc fun v => M.bind (M.lift _) fun t => ite_rule _ (M.pure _) (M.bind hb fun fl => ?_)
    cases fl
    case brk | ret => exact M.pure _
    all_goals exact whileLoop_rules M hc hb k

theorem forLoop_rules (M : MRules T) {body : EvalM Flow} {v : String}
    (hv : ∀ x, T (modifySt fun st => { st with vars := setVar st.vars v x })) (hb : T body) (mn mx step : Int64) :
    ∀ k, T (forLoop body v mn mx step k)
  | 0 => M.failE _ _
  | k + 1 => by
    unfold forLoop
    refine M.bind hb fun fl => ?_
    cases fl
    case brk | ret => exact M.pure _
    all_goals
      exact M.bind M.getSt fun s => M.bind (M.lift _) fun cur =>
        ite_rule _ (M.pure _) (M.bind (hv _) fun _ => forLoop_rules M hv hb mn mx step k)

/-- The walks of Lemmas/BuiltinWalk.lean for `T`: beside `T`, what a returned value satisfies (the walks pass facts about a
value to what follows). Nothing is asked of the `Res` leaves nor of the values. -/
def MRules.walk (M : MRules T) : Walk EvalM where
  T Q x := T x ∧ ∀ s a, (x s).1 = .ok a → Q a
  ok _ := True
  sound := False
  W _ := True
  pure h := ⟨M.pure _, fun _ _ e => by cases e; exact h⟩
  bind := @fun _ _ _ _ x f hx hf => ⟨M.bindRet hx.1 fun a ⟨s, e⟩ => (hf a (hx.2 s a e)).1, fun s b e => by
    obtain ⟨a, s1, hx1, hf1⟩ := bind_app_eq_ok (Prod.ext e rfl)
    exact (hf a (hx.2 s a (by rw [hx1]))).2 s1 b (by rw [hf1])⟩
  lift _ hq := ⟨M.lift _, fun _ a e => hq a e⟩
  ok_nh _ := trivial
  W_tab h := h.elim
  W_ok _ := trivial
  W_mkTab _ _ := trivial
  W_mkTup _ _ := trivial

theorem MRules.args (M : MRules T) {args : List (EvalM Val)} (h : ∀ t ∈ args, T t) : M.walk.Args args :=
  fun t ht => ⟨h t ht, fun _ _ _ => trivial⟩

theorem MRules.builtin (M : MRules T) {fmt : Num.F64 → Bytes} {name : String} {args : List (EvalM Val)} {r : EvalM Val}
    (h : ∀ t ∈ args, T t) (hr : evalBuiltin (m := EvalM) fmt name args = some r) : T r :=
  (evalBuiltin_walk M.walk fmt name args (M.args h) M.walk.W (fun _ h => h)
    (fun _ => ⟨M.args h, fun _ _ _ _ _ _ => trivial⟩) r hr).1

theorem MRules.tab (M : MRules T) {args : List (EvalM Val)} (h : ∀ t ∈ args, T t) : T (biTab (m := EvalM) args) :=
  (biTab_walk M.walk args (M.args h)).1

theorem MRules.tup (M : MRules T) {args : List (EvalM Val)} (h : ∀ t ∈ args, T t) : T (biTup (m := EvalM) args) :=
  (biTup_walk M.walk args (M.args h)).1

theorem MRules.item (M : MRules T) {recv : EvalM Val} (h : T recv) (n : Nat) : T (itemAt (m := EvalM) recv n) :=
  (itemAt_walk M.walk recv ⟨h, fun _ _ _ => trivial⟩ n fun _ _ _ => ⟨trivial, fun _ _ => trivial⟩).1
end rules

/-- What identifies a running `forall` on the control stack: everything but the private table copy. -/
def iterKey (b : Iter) : String × Option String × Nat × Ty × Bool := (b.it, b.src, b.idx, b.bak, b.locked)

/-- The stack of running `forall` loops is the same (names, traversed variables, positions, saved types,
lock flags, in the same order); only the private copies of traversed temporaries may differ. -/
def SameIters (s s' : St) : Prop := s'.iters.map iterKey = s.iters.map iterKey

theorem sameIters_rel : StRel SameIters := .of_eq fun s => s.iters.map iterKey

theorem sameIters_setPriv (n : String) (tbl' : Val) (st : St) :
    SameIters st { st with iters := st.iters.map fun x => if x.it == n then { x with priv := tbl' } else x } := by
  unfold SameIters
  rw [List.map_map]
  refine List.map_congr_left fun x _ => ?_
  simp only [Function.comp]
  split <;> rfl

mutual
  /-- the statement contains no `exception` clause (a `begin … end` without clauses is allowed), at any depth -/
  def noClauseS : Stmt → Bool
    | .ifS rules => noClauseRules rules
    | .whileS _ body => noClauseL body
    | .forS _ _ _ _ _ body => noClauseL body
    | .forallS _ _ _ body => noClauseL body
    | .beginS body catches => catches.isEmpty && noClauseL body
    | _ => true
  def noClauseL : List Stmt → Bool
    | [] => true
    | s :: rest => noClauseS s && noClauseL rest
  def noClauseRules : List (Option Expr × List Stmt) → Bool
    | [] => true
    | (_, body) :: rest => noClauseL body && noClauseRules rest
end

structure BRules (T : ∀ {α : Type}, EvalM α → Prop) : Prop extends MRules T where
  /-- the interpreter makes two such writes: `return e` saves its value, `it = e` replaces a private copy -/
  quiet : ∀ f : St → St, (∀ s, (f s).vars = s.vars ∧ (f s).out = s.out ∧ (f s).ctl = s.ctl ∧ (f s).lastErr = s.lastErr ∧
    SameIters s (f s)) → T (modifySt f)
  push : ∀ bs : Bytes, T (modifySt fun s => { s with out := bs :: s.out })
  tick : ∀ {x : EvalM Flow}, T x → T fun s0 => if s0.budget == 0 then oof s0 else x (tick s0)

structure IRules (T : ∀ {α : Type}, EvalM α → Prop) (strict : Prop) : Prop extends BRules T where
  setVar : ∀ (n : String) (v : Val), T (modifySt fun st => { st with vars := setVar st.vars n v })
  call : ∀ (f : Func) (vals : List Val) {x : EvalM Flow}, (¬ strict → T x) →
    T fun caller => finishCall caller (x (calleeInit f vals caller))
  block : ∀ funcs depth fuel body catches, T (execList funcs depth fuel body) → (strict → catches = []) →
    (∀ p n h, catches.find? p = some (n, h) → T (execList funcs depth fuel h)) →
    T (execBlock funcs depth (fuel + 1) body catches)
  forallRun : ∀ {body : EvalM Flow} (it : String) (desc : Bool) (k : Nat) (b : Iter), T body →
    T fun s1 => forallExit it (forallLoop body it desc k { s1 with iters := b :: s1.iters })

/-! The steps: what `T` needs of the parts of an expression or statement gives `T` of the whole. What differs between the
inductions (which parts a side condition on the syntax lets through, which variables may be written) is in how the needs are met. -/

/-- What the step of `eval` needs: `T` of the parts; `member` writes the receiver's variable back — its whole step is asked for. -/
def NeedsE (T : ∀ {α : Type}, EvalM α → Prop) (funcs : List Func) (depth fuel : Nat) : Expr → Prop
  | .un _ a | .item a _ => T (eval funcs depth fuel a)
  | .bin _ a b => T (eval funcs depth fuel a) ∧ T (eval funcs depth fuel b)
  | .call _ args => ∀ a ∈ args, T (eval funcs depth fuel a)
  | .fcall name args => T (callFunc funcs depth fuel name args)
  | .member m recv args => T (eval funcs depth (fuel + 1) (.member m recv args))
  | _ => True

/-- What the step of `exec` needs: `T` of the parts; for `for` that the control variable may be written; for `forall` the whole run
of the loop, from the stacking of its entry to `forallExit`; `let` writes a variable or, through an iterator, an element of the
traversed table — its whole step is asked for. -/
def NeedsS (T : ∀ {α : Type}, EvalM α → Prop) (funcs : List Func) (depth fuel : Nat) : Stmt → Prop
  | .letS n e => T (exec funcs depth (fuel + 1) (.letS n e))
  | .doS e | .returnS (some e) => T (eval funcs depth fuel e)
  | .printS es => T (evalPrint funcs depth fuel es)
  | .ifS rules => T (execIf funcs depth fuel rules)
  | .whileS c body => T (eval funcs depth fuel c) ∧ T (execList funcs depth fuel body)
  | .forS v b e step _ body => (∀ x, T (modifySt fun st => { st with vars := setVar st.vars v x })) ∧
      T (eval funcs depth fuel b) ∧ T (eval funcs depth fuel e) ∧ (∀ se ∈ step, T (eval funcs depth fuel se)) ∧
      T (execList funcs depth fuel body)
  | .forallS it src _ body => T (eval funcs depth fuel src) ∧ ∀ desc k b, T fun s1 =>
      forallExit it (forallLoop (execList funcs depth fuel body) it desc k { s1 with iters := b :: s1.iters })
  | .beginS body catches => T (execBlock funcs depth fuel body catches)
  | _ => True

section steps
variable {T : ∀ {α : Type}, EvalM α → Prop} {funcs : List Func} {depth fuel : Nat}

theorem eval_rules (M : MRules T) (e : Expr) (hk : NeedsE T funcs depth fuel e) : T (eval funcs depth (fuel + 1) e) := by
  unfold eval
  split
  · exact M.pure _
  · exact M.bind M.getSt fun _ => M.lift _
  · exact M.bind hk fun _ => M.lift _
  · exact M.bind hk.1 fun _ => ite_rule _ (M.bind hk.2 fun _ => M.lift _) (M.lift _)
  · exact M.bind hk.1 fun _ => ite_rule _ (M.bind hk.2 fun _ => M.lift _) (M.lift _)
  · exact M.bind hk.1 fun _ => M.bind hk.2 fun _ => M.lift _
  · exact M.tab (List.forall_mem_map.mpr hk)
  · exact M.tup (List.forall_mem_map.mpr hk)
  · split
    · exact M.builtin (List.forall_mem_map.mpr hk) ‹_›
    · exact M.lift _
  · exact hk
  · rw [NeedsE, eval] at hk; exact hk
  · exact M.bind M.getSt fun _ => M.lift _
  · exact M.item hk _

/-- the step of `member` when every variable may be written -/
theorem member_rules (M : MRules T) (hv : ∀ n v, T (modifySt fun st => { st with vars := setVar st.vars n v }))
    {m : Member} {recv : Expr} {args : List Expr} (hr : T (eval funcs depth fuel recv)) (ha : T (evalArgs funcs depth fuel args)) :
    T (eval funcs depth (fuel + 1) (.member m recv args)) := by
  rw [eval]
  refine M.bind hr fun rv => M.bind ha fun avs => M.bind (M.lift _) fun p => ?_
  split
  split
  · exact M.bind M.getSt fun s => ite_rule _ (M.lift _) (M.bind (hv _ _) fun _ => M.pure _)
  · exact M.pure _

theorem callFunc_rules (M : MRules T) {name : String} {args : List Expr} (hA : T (evalArgs funcs depth fuel args))
    (hc : ∀ (f : Func) vals, T fun caller =>
      finishCall caller (execBlock funcs (depth + 1) fuel f.body f.catches (calleeInit f vals caller))) :
    T (callFunc funcs depth (fuel + 1) name args) := by
  unfold callFunc
  split
  · exact M.lift _
  · exact ite_rule _ (M.failE _ _) (M.bind hA fun vals => hc _ vals)

theorem evalArgs_rules (M : MRules T) (args : List Expr)
    (h : ∀ a as, args = a :: as → T (eval funcs depth fuel a) ∧ T (evalArgs funcs depth fuel as)) :
    T (evalArgs funcs depth (fuel + 1) args) := by
  cases args with
  | nil => unfold evalArgs; exact M.pure _
  | cons a as => unfold evalArgs; exact M.bind (h a as rfl).1 fun _ => M.bind (h a as rfl).2 fun _ => M.pure _

theorem evalPrint_rules (B : BRules T) (es : List Expr)
    (h : ∀ a as, es = a :: as → T (eval funcs depth fuel a) ∧ T (evalPrint funcs depth fuel as)) :
    T (evalPrint funcs depth (fuel + 1) es) := by
  cases es with
  | nil => unfold evalPrint; exact B.pure _
  | cons a as =>
    unfold evalPrint
    exact B.bind (h a as rfl).1 fun _ => B.bind (B.lift _) fun _ => B.bind (B.push _) fun _ => (h a as rfl).2

theorem execList_rules (M : MRules T) (l : List Stmt)
    (h : ∀ a as, l = a :: as → T (exec funcs depth fuel a) ∧ T (execList funcs depth fuel as)) :
    T (execList funcs depth (fuel + 1) l) := by
  cases l with
  | nil => unfold execList; exact M.pure _
  | cons a as => unfold execList; exact M.bind (h a as rfl).1 fun _ => ite_rule _ (h a as rfl).2 (M.pure _)

theorem execIf_rules (M : MRules T) (rules : List (Option Expr × List Stmt))
    (h : ∀ c b rest, rules = (c, b) :: rest → (∀ x ∈ c, T (eval funcs depth fuel x)) ∧ T (execList funcs depth fuel b) ∧
      T (execIf funcs depth fuel rest)) : T (execIf funcs depth (fuel + 1) rules) := by
  match rules with
  | [] => unfold execIf; exact M.pure _
  | (c, b) :: rest =>
    obtain ⟨hc, hb, hr⟩ := h c b rest rfl
    unfold execIf
    split
    · exact hb
    · exact M.bind (hc _ rfl) fun _ => M.bind (M.lift _) fun _ => ite_rule _ hb hr

theorem exec_rules (B : BRules T) (st : Stmt) (hk : NeedsS T funcs depth fuel st) : T (exec funcs depth (fuel + 1) st) := by
  cases st
  case letS => exact hk
  all_goals
    unfold exec
    refine B.tick ?_
  case nop | funcS | breakS | continueS => exact B.pure _
  case doS => exact B.bind hk fun _ => B.pure _
  case printS => exact B.bind hk fun _ => B.bind (B.push _) fun _ => B.pure _
  case ifS => exact hk
  case whileS => exact whileLoop_rules B.toMRules hk.1 hk.2 _
  case forS v b e step dir body =>
    obtain ⟨hv, hb, he, hs, hl⟩ := hk
    refine B.bind hb fun vb => ite_rule _ (B.pure _) (B.bind he fun ve => ite_rule _ (B.pure _) ?_)
    -- the step `s` is a mutable variable of the `do` block; what follows its `match` is a join point: once, for every `s`
    extract_lets s jp
    have hjp : ∀ r s, T (jp r s) := fun _ s => B.bind (B.lift _) fun bi => B.bind (B.lift _) fun ei =>
      ite_rule _ (ite_rule _ (B.pure _) (B.bind (hv _) fun _ => forLoop_rules B.toMRules hv hl _ _ _ _))
        (ite_rule _ (B.pure _) (B.bind (hv _) fun _ => forLoop_rules B.toMRules hv hl _ _ _ _))
    clear_value jp
    cases step with
    | none => exact hjp _ _
    | some se =>
      exact B.bind (hs _ rfl) fun vs => ite_rule _ (B.pure _) (B.bind (B.lift _) fun s =>
        ite_rule _ (B.bind (B.failE _ _) fun _ => hjp _ _) (hjp _ _))
  case forallS it src dir body =>
    refine B.bind hk.1 fun tv => ite_rule _ (B.pure _) (ite_rule _ (B.lift _) (ite_rule _ (B.pure _)
      (B.bind B.getSt fun s => ite_rule _ (B.failE _ _) ?_)))
    cases src
    case var => exact ite_rule _ (B.lift _) (hk.2 _ _ _)
    all_goals exact hk.2 _ _ _
  case beginS => exact hk
  case raiseS => exact ite_rule _ (B.failE _ _) (B.failE _ _)
  case returnS e =>
    cases e with
    | none => exact B.pure _
    | some e => exact B.bind hk fun _ => B.bind (B.quiet _ fun _ => ⟨rfl, rfl, rfl, rfl, rfl⟩) fun _ => B.pure _

/-- the step of `let` when every variable may be written -/
theorem letS_rules (B : BRules T) (hv : ∀ n v, T (modifySt fun st => { st with vars := setVar st.vars n v }))
    {n : String} {e : Expr} (he : T (eval funcs depth fuel e)) : T (exec funcs depth (fuel + 1) (.letS n e)) := by
  rw [exec]
  refine B.tick (B.bind B.getSt fun s => ?_)
  split
  · exact B.bind he fun _ => B.bind (hv _ _) fun _ => B.pure _
  · refine ite_rule _ (B.lift _) (B.bind he fun v => B.bind B.getSt fun s => ?_)
    split
    · exact B.lift _
    · refine B.bind (B.lift _) fun tbl' => ?_
      dsimp only
      split
      · exact B.bind (hv _ _) fun _ => B.pure _
      · exact B.bind (B.quiet _ fun _ => ⟨rfl, rfl, rfl, rfl, sameIters_setPriv _ _ _⟩) fun _ => B.pure _
end steps

def AllRun (T : ∀ {α : Type}, EvalM α → Prop) (strict : Prop) (funcs : List Func) (fuel : Nat) : Prop :=
  (∀ depth e, T (eval funcs depth fuel e)) ∧
  (∀ depth name args, T (callFunc funcs depth fuel name args)) ∧
  (∀ depth args, T (evalArgs funcs depth fuel args)) ∧
  (∀ depth body catches, (strict → catches = [] ∧ noClauseL body = true) → T (execBlock funcs depth fuel body catches)) ∧
  (∀ depth l, (strict → noClauseL l = true) → T (execList funcs depth fuel l)) ∧
  (∀ depth st, (strict → noClauseS st = true) → T (exec funcs depth fuel st)) ∧
  (∀ depth es, T (evalPrint funcs depth fuel es)) ∧
  (∀ depth rules, (strict → noClauseRules rules = true) → T (execIf funcs depth fuel rules))

theorem IRules.needsE {T : ∀ {α : Type}, EvalM α → Prop} {strict : Prop} (I : IRules T strict) {funcs : List Func} {fuel : Nat}
    (h : AllRun T strict funcs fuel) (depth : Nat) (e : Expr) : NeedsE T funcs depth fuel e := by
  obtain ⟨hE, hC, hA, -, -, -, -, -⟩ := h
  cases e
  case bin => exact ⟨hE _ _, hE _ _⟩
  case call => exact fun a _ => hE _ a
  case fcall => exact hC _ _ _
  case member => exact member_rules I.toMRules I.setVar (hE _ _) (hA _ _)
  case un | item => exact hE _ _
  all_goals trivial

theorem IRules.needsS {T : ∀ {α : Type}, EvalM α → Prop} {strict : Prop} (I : IRules T strict) {funcs : List Func} {fuel : Nat}
    (h : AllRun T strict funcs fuel) (depth : Nat) (st : Stmt) (hs : strict → noClauseS st = true) :
    NeedsS T funcs depth fuel st := by
  obtain ⟨hE, -, -, hB, hL, -, hP, hI⟩ := h
  cases st
  case letS => exact letS_rules I.toBRules I.setVar (hE _ _)
  case doS => exact hE _ _
  case printS => exact hP _ _
  case ifS => exact hI _ _ hs
  case whileS => exact ⟨hE _ _, hL _ _ hs⟩
  case forS => exact ⟨I.setVar _, hE _ _, hE _ _, fun _ _ => hE _ _, hL _ _ hs⟩
  case forallS => exact ⟨hE _ _, fun _ _ _ => I.forallRun _ _ _ _ (hL _ _ hs)⟩
  case beginS => exact hB _ _ _ fun h => by simpa only [noClauseS, Bool.and_eq_true, List.isEmpty_iff] using hs h
  case returnS e => cases e <;> first | trivial | exact hE _ _
  all_goals trivial

theorem interp_all {T : ∀ {α : Type}, EvalM α → Prop} {strict : Prop} (I : IRules T strict)
    (funcs : List Func) : ∀ fuel, AllRun T strict funcs fuel
  | 0 => by
    refine ⟨?_, ?_, ?_, ?_, ?_, ?_, ?_, ?_⟩
    · intro d e; unfold eval; exact I.failE _ _
    · intro d n a; unfold callFunc; exact I.failE _ _
    · intro d a; unfold evalArgs; exact I.failE _ _
    · intro d b c _; unfold execBlock; exact I.failE _ _
    · intro d l _; unfold execList; exact I.failE _ _
    · intro d s _; unfold exec; exact I.failE _ _
    · intro d l; unfold evalPrint; exact I.failE _ _
    · intro d l _; unfold execIf; exact I.failE _ _
  | fuel + 1 => by
    have ih := interp_all I funcs fuel
    have ⟨hE, _, hA, hB, hL, hS, hP, hI⟩ := ih
    have M := I.toMRules
    refine ⟨fun d e => eval_rules M e (I.needsE ih d e),
      fun d n a => callFunc_rules M (hA d a) fun f vals => I.call f vals fun hs => hB _ _ _ fun h => (hs h).elim,
      fun d a => evalArgs_rules M a fun _ _ _ => ⟨hE _ _, hA _ _⟩,
      fun d body catches h => I.block funcs d fuel body catches (hL d body fun hs => (h hs).2) (fun hs => (h hs).1)
        fun p n handler hf => hL d handler fun hs => (by rw [(h hs).1] at hf; cases hf),
      fun d l h => execList_rules M l fun a as e => ?_,
      fun d st h => exec_rules I.toBRules st (I.needsS ih d st h),
      fun d es => evalPrint_rules I.toBRules es fun _ _ _ => ⟨hE _ _, hP _ _⟩,
      fun d r h => execIf_rules M r fun c b rest e => ?_⟩
    · subst e
      have h' := fun hs => Bool.and_eq_true_iff.1 (h hs)
      exact ⟨hS _ _ fun hs => (h' hs).1, hL _ _ fun hs => (h' hs).2⟩
    · subst e
      have h' := fun hs => Bool.and_eq_true_iff.1 (h hs)
      exact ⟨fun _ _ => hE _ _, hL _ _ fun hs => (h' hs).1, hI _ _ fun hs => (h' hs).2⟩

/-- The loop rule of `forallLoop`, for an invariant `J` of the states in which the body is entered and a property `G` of runs:
`G` holds of the loop's run if it holds of each run of the body, asks no more than `J` of a run that ends without hazard, and `J`
holds after a body that ends without error and still holds when the index of the top entry has moved. -/
theorem forallLoop_run {J : St → Prop} {G : Res Flow × St → Prop} {body : EvalM Flow} {it : String} {desc : Bool}
    (hb : ∀ s, J s → G (body s)) (hG : ∀ fl s, G (.ok fl, s) → J s) (hJ : ∀ (r : Res Flow) s, J s → r.isHazard = false → G (r, s))
    (hstep : ∀ s b rest j, J s → s.iters = b :: rest → forallNext desc b.idx (tableSize (s.iterTable b)) = some j →
      J { s with iters := { b with idx := j } :: rest }) (k : Nat) : ∀ s, J s → G (forallLoop body it desc k s) := by
  induction k with
  | zero => exact fun s hs => hJ _ s hs rfl
  | succ k ih =>
    intro s hs
    unfold forallLoop
    rw [bind_app]
    have h1 := hb s hs
    cases hbs : body s with
    | mk r s1 =>
      rw [hbs] at h1
      cases r with
      | ok fl =>
        have hs1 := hG fl s1 h1
        cases fl
        case brk | ret => exact hJ _ _ hs1 rfl
        all_goals
          dsimp only [bind_app, getSt_app]
          cases hit : s1.iters with
          | nil => exact hJ _ _ hs1 rfl
          | cons b rest =>
            dsimp only
            split
            · exact hJ _ _ hs1 rfl
            · cases hn : forallNext desc b.idx (tableSize (s1.iterTable b)) with
              | none => exact hJ _ _ hs1 rfl
              | some j => exact ih _ (hstep s1 b rest j hs1 hit hn)
      | _ => exact h1

theorem forallLoop_pres' (hR : StRel R) (hi : ∀ (s : St) (its : List Iter), R s { s with iters := its })
    (body : EvalM Flow) (hb : Pres R body) (it : String) (desc : Bool) (k : Nat) : Pres R (forallLoop body it desc k) :=
  ⟨fun s0 => forallLoop_run (J := (R s0 ·)) (G := fun r => R s0 r.2) (fun s h => hR.trans h (hb.h s)) (fun _ _ h => h)
    (fun _ _ h _ => h) (fun s _ _ _ h _ _ => hR.trans h (hi s _)) k s0 (hR.refl s0)⟩

/-- a whole `forall`: the entry is stacked, the loop runs, `forallExit` unstacks the entry and resets the iterator variable -/
theorem Pres.forallRun (hR : StRel R) (hi : ∀ (s : St) (its : List Iter), R s { s with iters := its }) (it : String)
    (hv : ∀ (s : St) (v : Val), R s { s with vars := setVar s.vars it v }) {body : EvalM Flow} (desc : Bool) (k : Nat) (b : Iter)
    (hb : Pres R body) : Pres R fun s1 => forallExit it (forallLoop body it desc k { s1 with iters := b :: s1.iters }) := by
  refine ⟨fun s1 => hR.trans (hi s1 (b :: s1.iters)) (hR.trans ((forallLoop_pres' hR hi body hb it desc k).h _) ?_)⟩
  unfold forallExit
  split
  · exact hR.trans (hv _ _) (hi _ _)
  · exact hR.refl _

/-- a block: the body; on an error that a clause matches the record is set, the clause runs and, when it ends without error, the
record is set back -/
theorem Pres.block (hR : StRel R) {funcs : List Func} {depth fuel : Nat} {body : List Stmt} {catches : List (String × List Stmt)}
    (hb : Pres R (execList funcs depth fuel body))
    (hh : ∀ p n h, catches.find? p = some (n, h) →
      Pres R (execList funcs depth fuel h) ∧ ∀ (s : St) (e : LastErr), R s { s with lastErr := e }) :
    Pres R (execBlock funcs depth (fuel + 1) body catches) := by
  refine ⟨fun s => execBlock_cases (P := fun r => R s r.2) (hb.h s) fun c a s' n h hbody _ hfind => ?_⟩
  obtain ⟨hh, err⟩ := hh _ _ _ hfind
  have h2 := hR.trans (hb.run hbody) (hR.trans (err s' (c, a)) (hh.h _))
  unfold handlerExit
  split
  · rename_i heq2
    rw [heq2] at h2
    exact hR.trans h2 (err _ _)
  · exact h2

theorem Pres.tick (hR : StRel R) (ht : ∀ s : St, R s (tick s)) {x : EvalM Flow} (hx : Pres R x) :
    Pres R fun s0 => if s0.budget == 0 then BlocV.oof s0 else x (Lemmas.tick s0) :=
  ⟨fun s0 => by
    show R s0 (if s0.budget == 0 then BlocV.oof s0 else _).2
    split
    · exact hR.refl _
    · exact hR.trans (ht s0) (hx.h _)⟩

/-- The rules for `Pres R` from what `R` holds across; with `strict`, `R` need not hold across a change of the error record. -/
theorem Pres.irules (hR : StRel R) {strict : Prop}
    (upd : ∀ s s' : St, s'.out = s.out → s'.ctl = s.ctl → s'.lastErr = s.lastErr → SameIters s s' → R s s')
    (push : ∀ (s : St) (bs : Bytes), R s { s with out := bs :: s.out })
    (err : ¬ strict → ∀ (s : St) (e : LastErr), R s { s with lastErr := e })
    (call : ∀ (f : Func) (vals : List Val) (s1 : St) (r : Res Flow × St),
      (¬ strict → R (calleeInit f vals s1) r.2) → R s1 (finishCall s1 r).2)
    (forallRun : ∀ {body : EvalM Flow} (it : String) (desc : Bool) (k : Nat) (b : Iter), Pres R body →
      Pres R fun s1 => forallExit it (forallLoop body it desc k { s1 with iters := b :: s1.iters })) :
    IRules (fun {_} x => Pres R x) strict where
  toMRules := Pres.mrules hR
  quiet f h := ⟨fun s => upd s (f s) (h s).2.1 (h s).2.2.1 (h s).2.2.2.1 (h s).2.2.2.2⟩
  setVar _ _ := ⟨fun s => upd s _ rfl rfl rfl rfl⟩
  push bs := ⟨fun s => push s bs⟩
  tick := Pres.tick hR fun s => upd s _ rfl rfl rfl rfl
  call f vals _ hx := ⟨fun s1 => call f vals s1 _ fun hs => (hx hs).h _⟩
  forallRun := forallRun
  block _ _ _ _ _ hb hc hh := Pres.block hR hb fun p n h hf =>
    ⟨hh p n h hf, err fun hs => by rw [hc hs] at hf; cases hf⟩

def AllPres (R : St → St → Prop) (funcs : List Func) (fuel : Nat) : Prop :=
  (∀ depth e, Pres R (eval funcs depth fuel e)) ∧
  (∀ depth name args, Pres R (callFunc funcs depth fuel name args)) ∧
  (∀ depth args, Pres R (evalArgs funcs depth fuel args)) ∧
  (∀ depth body catches, Pres R (execBlock funcs depth fuel body catches)) ∧
  (∀ depth l, Pres R (execList funcs depth fuel l)) ∧
  (∀ depth st, Pres R (exec funcs depth fuel st)) ∧
  (∀ depth es, Pres R (evalPrint funcs depth fuel es)) ∧
  (∀ depth rules, Pres R (execIf funcs depth fuel rules))

namespace AllPres
variable {funcs : List Func} {fuel : Nat} (h : AllPres R funcs fuel)
include h
theorem eval : ∀ depth e, Pres R (BlocV.eval funcs depth fuel e) := h.1
theorem callFunc : ∀ depth name args, Pres R (BlocV.callFunc funcs depth fuel name args) := h.2.1
theorem evalArgs : ∀ depth args, Pres R (BlocV.evalArgs funcs depth fuel args) := h.2.2.1
theorem execBlock : ∀ depth body catches, Pres R (BlocV.execBlock funcs depth fuel body catches) := h.2.2.2.1
theorem execList : ∀ depth l, Pres R (BlocV.execList funcs depth fuel l) := h.2.2.2.2.1
theorem exec : ∀ depth st, Pres R (BlocV.exec funcs depth fuel st) := h.2.2.2.2.2.1
theorem evalPrint : ∀ depth es, Pres R (BlocV.evalPrint funcs depth fuel es) := h.2.2.2.2.2.2.1
theorem execIf : ∀ depth rules, Pres R (BlocV.execIf funcs depth fuel rules) := h.2.2.2.2.2.2.2
end AllPres

theorem pres_all (I : IRules (fun {_} x => Pres R x) False) (funcs : List Func) (fuel : Nat) :
    AllPres R funcs fuel := by
  obtain ⟨hE, hC, hA, hB, hL, hS, hP, hI⟩ := interp_all I funcs fuel
  exact ⟨hE, hC, hA, fun d b c => hB d b c False.elim, fun d l => hL d l False.elim, fun d st => hS d st False.elim, hP,
    fun d r => hI d r False.elim⟩

/-- on top of `below` (up to the private copies) the stack has exactly one more entry -/
def OnTop (below : List Iter) (s : St) : Prop := ∃ b rest, s.iters = b :: rest ∧ rest.map iterKey = below.map iterKey

/-- The loop of a `forall` keeps its own entry on top of the stack and, below it, the entries it found. -/
theorem forallLoop_stack {body : EvalM Flow} (hb : Pres SameIters body) (it : String) (desc : Bool) (k : Nat) {below : List Iter} :
    ∀ s, OnTop below s → OnTop below (forallLoop body it desc k s).2 := by
  refine forallLoop_run (G := fun r => OnTop below r.2) ?_ (fun _ _ h => h) (fun _ _ h _ => h) ?_ k
  · rintro s1 ⟨b1, r1, h1, hk⟩
    have h := hb.h s1
    unfold SameIters at h
    rw [h1, List.map_cons, List.map_eq_cons_iff] at h
    obtain ⟨b', rest, hi, -, hr⟩ := h
    exact ⟨b', rest, hi, hr.trans hk⟩
  · rintro s1 b1 r1 j ⟨b2, r2, h2, hk⟩ hit -
    cases h2.symm.trans hit
    exact ⟨_, _, rfl, hk⟩

theorem forallRun_sameIters {body : EvalM Flow} (it : String) (desc : Bool) (k : Nat) (b : Iter) (hb : Pres SameIters body) :
    Pres SameIters fun s1 => forallExit it (forallLoop body it desc k { s1 with iters := b :: s1.iters }) := by
  refine ⟨fun s1 => ?_⟩
  obtain ⟨b', rest, hi, hk⟩ := forallLoop_stack hb it desc k { s1 with iters := b :: s1.iters } ⟨b, _, rfl, rfl⟩
  unfold forallExit
  rw [hi]
  exact hk

/-- Every function of the interpreter's mutual block leaves the stack of running `forall` loops as it found it, whatever the
outcome. -/
theorem sameIters_all (funcs : List Func) : ∀ fuel, AllPres SameIters funcs fuel :=
  pres_all (Pres.irules sameIters_rel (fun _ _ _ _ _ h => h) (fun _ _ => rfl) (fun _ _ _ => rfl)
    (fun _ _ _ _ _ => by unfold SameIters; rw [finishCall_snd])
    forallRun_sameIters) funcs

/-! ## frame relations — relations that look only at the printed output and at the `for`/`while` control entries

`Frame R`: `R` is reflexive-transitive, holds across every change of the OTHER fields (variables, saved return value, budget,
running `forall` loops, error record), across printing one more chunk, and across a call when it holds
across the callee's run (the callee starts with the caller's output and hands its output back; the caller keeps its own control
entries). Every function of the interpreter's mutual block preserves every such relation, whatever the outcome
(`frame_all`). Instances: `OutGrows` (output only grows) and `SameCtl` (control entries untouched). -/

structure Frame (R : St → St → Prop) : Prop where
  rel : StRel R
  upd : ∀ s s' : St, s'.out = s.out → s'.ctl = s.ctl → R s s'
  push : ∀ (s : St) (bs : Bytes), R s { s with out := bs :: s.out }
  call : ∀ (f : Func) (vals : List Val) (s1 : St) (r : Res Flow × St),
    R (calleeInit f vals s1) r.2 → R s1 (finishCall s1 r).2

theorem frame_rules (hF : Frame R) : IRules (fun {_} x => Pres R x) False :=
  Pres.irules hF.rel (fun s s' ho hc _ _ => hF.upd s s' ho hc) hF.push (fun _ _ _ => hF.upd _ _ rfl rfl)
    (fun f vals s1 r h => hF.call f vals s1 r (h not_false))
    fun it => Pres.forallRun hF.rel (fun _ _ => hF.upd _ _ rfl rfl) it fun _ _ => hF.upd _ _ rfl rfl

theorem frame_all (hF : Frame R) (funcs : List Func) : ∀ fuel, AllPres R funcs fuel :=
  pres_all (frame_rules hF) funcs

/-- Everything printed before is still there, in the same order, below what was printed since (`out` holds the chunks most recent first). -/
def OutGrows (s s' : St) : Prop := ∃ l : List Bytes, s'.out = l ++ s.out

theorem outGrows_frame : Frame OutGrows where
  rel := ⟨fun _ => ⟨[], rfl⟩, fun ⟨l1, h1⟩ ⟨l2, h2⟩ => ⟨l2 ++ l1, by rw [h2, h1, List.append_assoc]⟩⟩
  upd := fun _ _ ho _ => ⟨[], ho⟩
  push := fun _ bs => ⟨[bs], rfl⟩
  call := fun f vals s1 r ⟨l, h⟩ => ⟨l, by
    rw [finishCall_snd]; exact h⟩

/-- the `for`/`while` control entries a run could leave behind are untouched -/
def SameCtl (s s' : St) : Prop := s'.ctl = s.ctl

theorem sameCtl_frame : Frame SameCtl where
  rel := .of_eq (·.ctl)
  upd := fun _ _ _ hc => hc
  push := fun _ _ => rfl
  call := fun f vals s1 r _ => by unfold SameCtl; rw [finishCall_snd]

theorem output_prefix_of_outGrows {s s' : St} (h : OutGrows s s') : ∃ t : Bytes, s'.output = s.output ++ t := by
  obtain ⟨l, hl⟩ := h
  refine ⟨l.reverse.flatten, ?_⟩
  unfold St.output
  rw [hl, List.reverse_append, List.flatten_append]

end BlocV.Lemmas
