/-
  A string literal with plain content, scanned whole: `"` LITERALBEG, one LITERALSTR per byte (line breaks
  included), `"` LITERALEND, and what `Parser::next_token` makes of it (one token with the full text).
-/
import BlocV.Proofs.Lemmas.Scan

namespace BlocV.Lex
open BlocV.Scan

def strTok (c : UInt8) : Tok := ⟨tLITERALSTR, [c]⟩

theorem pick_literal_plain (bol : Bool) (c : UInt8) (t : Bytes) (h : plainByte c = true) :
    pick (rulesOf .literal) bol (c :: t) = (some tLITERALSTR, 1) := by
  simp only [plainByte, Bool.and_eq_true, bne_iff_ne, ne_eq] at h
  obtain ⟨⟨h34, h92⟩, _⟩ := h
  have e34 : ((34 : UInt8) == c) = false := by simp; exact fun e => h34 e.symm
  have e92 : ((92 : UInt8) == c) = false := by simp; exact fun e => h92 e.symm
  simp [rulesOf, rulesLiteral, pick, cand, longest, matchLens, isPre, e34, e92, maxL, anyByte]

theorem tbl_quote : (preA.all fun r => !first r.re 34) = true ∧ (preB.all fun r => !first r.re 34) = true := by decide +kernel

theorem pick_initial_quote (bol : Bool) (s : Bytes) : pick (rulesOf .initial) bol (34 :: s) = (some tLITERALBEG, 1) := by
  have hlit : cand litR bol (34 :: s) = 1 := by
    simp [cand, litR, longest, matchLens, reSP, isPre, maxL]
  show pick rulesInitial bol (34 :: s) = _
  rw [rulesInitial_split, pick_dead_first tbl_quote.1]
  -- behind LITERALBEG only the default rule offers anything
  exact pick_take hlit (by decide)
    (by rw [pick_dead_first tbl_quote.2, pick_skip (cand_dead bol s rfl), pick_default]; decide)

theorem noNul_literal {content : Bytes} (h : content.all plainByte = true) : noNul (34 :: content ++ [34]) = true := by
  simp only [noNul, List.cons_append, List.all_cons, List.all_append, List.all_nil, Bool.and_true, Bool.and_eq_true]
  exact ⟨by decide, List.all_eq_true.mpr fun x hx => ((Bool.and_eq_true _ _).mp (List.all_eq_true.mp h x hx)).2, by decide⟩

theorem lex_literal_plain : ∀ (content : Bytes) (bol : Bool), content.all plainByte = true →
    lex .literal bol (content ++ [34]) = (content.map strTok ++ [⟨tLITERALEND, [34]⟩], .initial) := by
  intro content
  induction content with
  | nil => intro bol _; cases bol <;> decide
  | cons c t ih =>
    intro bol h
    simp only [List.all_cons, Bool.and_eq_true] at h
    rw [List.cons_append, ← List.singleton_append,
      lex_token .literal bol c [] _ _ (pick_literal_plain bol c _ h.1),
      show nextSt .literal (some tLITERALSTR) = .literal from rfl, ih _ h.2]
    rfl

theorem lexWhole_literal (content : Bytes) (h : content.all plainByte = true) :
    lexWhole (34 :: content ++ [34]) = ⟨tLITERALBEG, [34]⟩ :: (content.map strTok ++ [⟨tLITERALEND, [34]⟩]) := by
  unfold lexWhole
  rw [List.cons_append, ← List.singleton_append,
    lex_token .initial true 34 [] _ _ (pick_initial_quote true _),
    show nextSt .initial (some tLITERALBEG) = .literal from rfl, lex_literal_plain content _ h]
  rfl

/-- `Parser::next_token` on the three token kinds of a literal (the token codes are closed numerals) -/
theorem reasm_litbeg (k : Bool) (buf x : Bytes) (ts : List Tok) : reasm k buf (⟨tLITERALBEG, x⟩ :: ts) = reasm k x ts := by
  -- the equation of `reasm` first, then its comparisons of token codes: a bare `rfl` unfolds the compiled recursion, which is slow
  rw [reasm]; rfl

theorem reasm_litstr (k : Bool) (buf x : Bytes) (ts : List Tok) :
    reasm k buf (⟨tLITERALSTR, x⟩ :: ts) = reasm k (buf ++ x) ts := by
  rw [reasm]; rfl

theorem reasm_litend (k : Bool) (buf x : Bytes) (ts : List Tok) :
    reasm k buf (⟨tLITERALEND, x⟩ :: ts) = ⟨tLITERALSTR, buf ++ x⟩ :: reasm k (buf ++ x) ts := by
  rw [reasm]; rfl

theorem reasm_strs (k : Bool) : ∀ (content buf : Bytes) (rest : List Tok),
    reasm k buf (content.map strTok ++ rest) = reasm k (buf ++ content) rest := by
  intro content
  induction content with
  | nil => intro buf rest; simp
  | cons c t ih =>
    intro buf rest
    rw [List.map_cons, List.cons_append, strTok, reasm_litstr, ih]
    simp

theorem specStream_literal (k : Bool) (content : Bytes) (h : content.all plainByte = true) :
    specStream k (34 :: content ++ [34]) = [⟨tLITERALSTR, 34 :: content ++ [34]⟩] := by
  unfold specStream
  rw [lexWhole_literal content h, reasm_litbeg, reasm_strs, reasm_litend]
  simp [reasm]

end BlocV.Lex
