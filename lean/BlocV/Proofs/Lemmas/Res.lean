/-
  The outcome monad `Res` (Model/Basic.lean) as the proofs use it: its `>>=` and `pure` on each constructor as `simp` rules — the same
  facts under two sets of names, `Res.bind_ok` … as the operator files (OpsCases, GenOps) cite them and `Lemmas.Res.ok_bind` … as the
  files on built-ins and members (Bytes, MemberEqs, NoHazard, C09, C10) do; a bind that returned a value (`Res.bind_eq_ok`); no hazard
  through a bind (`isHazard_bind`); what a returned value satisfies (`Res.okP`) and what a raised error code satisfies (`Res.errP`),
  each with its rule for every constructor and for `>>=`.
-/
import BlocV.Model.Basic

namespace BlocV

@[simp] theorem Res.bind_ok {α β} (a : α) (f : α → Res β) : (Res.ok a >>= f) = f a := rfl
@[simp] theorem Res.bind_err {α β} (c : Nat) (x : Bytes) (f : α → Res β) : (Res.err c x >>= f) = .err c x := rfl
@[simp] theorem Res.bind_haz {α β} (h : Hazard) (f : α → Res β) : (Res.haz h >>= f) = .haz h := rfl
@[simp] theorem Res.bind_unm {α β} (f : α → Res β) : (Res.unmodelled >>= f) = .unmodelled := rfl
@[simp] theorem Res.pure_eq {α} (a : α) : (pure a : Res α) = .ok a := rfl

theorem isHazard_bind {α β} (r : Res α) (f : α → Res β) (hr : r.isHazard = false)
    (hf : ∀ a, r = .ok a → (f a).isHazard = false) : (r >>= f).isHazard = false := by
  cases r with
  | ok a => exact hf a rfl
  | haz h => cases hr
  | _ => rfl

def Res.okP {α} (P : α → Prop) (r : Res α) : Prop := ∀ v, r = .ok v → P v

theorem okP_ok {α} {P : α → Prop} {a : α} (h : P a) : Res.okP P (.ok a) := by
  intro v hv; cases hv; exact h
theorem okP_pure {α} {P : α → Prop} {a : α} (h : P a) : Res.okP P (pure a) := okP_ok h
theorem okP_err {α} {P : α → Prop} {c : Nat} {x : Bytes} : Res.okP P (.err c x) := by intro v hv; cases hv
theorem okP_haz {α} {P : α → Prop} {h : Hazard} : Res.okP P (.haz h) := by intro v hv; cases hv
theorem okP_unm {α} {P : α → Prop} : Res.okP P (.unmodelled : Res α) := by intro v hv; cases hv
theorem okP_bind {α β} {P : β → Prop} (r : Res α) (f : α → Res β) (h : ∀ a, r = .ok a → Res.okP P (f a)) :
    Res.okP P (r >>= f) := by
  cases r with
  | ok a => exact h a rfl
  | err c x => exact okP_err
  | haz h => exact okP_haz
  | unmodelled => exact okP_unm
theorem okP_mono {α} {P Q : α → Prop} {r : Res α} (h : Res.okP P r) (hpq : ∀ v, P v → Q v) : Res.okP Q r :=
  fun v hv => hpq v (h v hv)

def Res.errP {α} (E : Nat → Prop) (r : Res α) : Prop := ∀ c x, r = .err c x → E c

theorem errP_ok {α} {E : Nat → Prop} {a : α} : Res.errP E (.ok a) := by intro c x h; cases h
theorem errP_haz {α} {E : Nat → Prop} {h : Hazard} : Res.errP E (.haz h : Res α) := by intro c x h; cases h
theorem errP_unm {α} {E : Nat → Prop} : Res.errP E (.unmodelled : Res α) := by intro c x h; cases h
theorem errP_err {α} {E : Nat → Prop} {c : Nat} {x : Bytes} (h : E c) : Res.errP E (.err c x : Res α) := by
  intro c' x' h'; cases h'; exact h
theorem errP_bind {α β} {E : Nat → Prop} (r : Res α) (f : α → Res β) (hr : Res.errP E r)
    (h : ∀ a, r = .ok a → Res.errP E (f a)) : Res.errP E (r >>= f) := by
  cases r with
  | ok a => exact h a rfl
  | err c x => exact errP_err (hr c x rfl)
  | haz h => exact errP_haz
  | unmodelled => exact errP_unm

namespace Lemmas

@[simp] theorem Res.ok_bind {α β} (a : α) (f : α → Res β) : (Res.ok a >>= f) = f a := rfl
@[simp] theorem Res.err_bind {α β} (c : Nat) (x : Bytes) (f : α → Res β) : (Res.err c x >>= f) = .err c x := rfl
@[simp] theorem Res.haz_bind {α β} (h : Hazard) (f : α → Res β) : (Res.haz h >>= f) = .haz h := rfl
@[simp] theorem Res.unm_bind {α β} (f : α → Res β) : (Res.unmodelled >>= f) = .unmodelled := rfl
@[simp] theorem Res.pure_eq {α} (a : α) : (pure a : Res α) = .ok a := rfl
@[simp] theorem Res.monadLift_eq {α} (r : Res α) : (monadLift r : Res α) = r := rfl
@[simp] theorem Res.liftM_eq {α} (r : Res α) : (liftM r : Res α) = r := rfl

theorem Res.bind_eq_ok {α β} (m : Res α) (k : α → Res β) (v : β) (h : (m >>= k) = .ok v) :
    ∃ a, m = .ok a ∧ k a = .ok v := by
  cases m with
  | ok a => exact ⟨a, rfl, h⟩
  | _ => cases h

end Lemmas

end BlocV
