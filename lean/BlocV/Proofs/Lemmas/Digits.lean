/-
  Helper lemmas for C10: decimal integer text. `natDigits`/`intToString` (std::to_string) against
  `stoll` (std::stoll) and the hexadecimal-prefix test `looksHex` of builtin_int.cpp; the first byte of `std::stod`.
-/
import BlocV.Model.Builtins
namespace BlocV.Lemmas

theorem digit_toNat (d : Nat) (h : d < 10) : (UInt8.ofNat (48 + d)).toNat = 48 + d := by
  rw [UInt8.toNat_ofNat']; omega

theorem isDigitC_iff (c : UInt8) : isDigitC c = true ↔ 48 ≤ c.toNat ∧ c.toNat ≤ 57 := by
  simp only [isDigitC, Bool.and_eq_true, decide_eq_true_eq, UInt8.le_iff_toNat_le]
  rfl

theorem digit_isDigit (d : Nat) (h : d < 10) : isDigitC (UInt8.ofNat (48 + d)) = true := by
  rw [isDigitC_iff, digit_toNat d h]; omega

def digVal (l : Bytes) : Nat := l.foldl (fun a c => a * 10 + (c.toNat - 48)) 0

/-- **Reading back the digits `std::to_string` writes gives the number**, for any digit-value function `g` that is right
on `'0'`…`'9'`: `c - '0'` of `stoll` below, `digitVal` of the literal reader (Model/Parse.lean `natOfDigits`). -/
theorem foldl_natDigits (g : UInt8 → Nat) (hg : ∀ d < 10, g (UInt8.ofNat (48 + d)) = d) :
    ∀ fuel n, n < 10 ^ fuel → (natDigits fuel n).foldl (fun a c => a * 10 + g c) 0 = n
  | 0, n, h => by
    have : n = 0 := by simpa using h
    subst this; rfl
  | f + 1, n, h => by
    unfold natDigits
    split
    · next h10 => exact (Nat.zero_add _).trans (hg n h10)
    · rw [List.foldl_append, foldl_natDigits g hg f (n / 10) (by rw [Nat.pow_succ] at h; omega)]
      simp only [List.foldl_cons, List.foldl_nil, hg _ (Nat.mod_lt n (by decide))]
      omega

theorem digVal_natDigits (fuel n : Nat) (h : n < 10 ^ fuel) : digVal (natDigits fuel n) = n :=
  foldl_natDigits _ (fun d hd => by rw [digit_toNat d hd]; omega) fuel n h

theorem natDigits_isDigit : ∀ (fuel n : Nat), ∀ c ∈ natDigits fuel n, isDigitC c = true
  | 0, _, _, hc => nomatch hc
  | f + 1, n, c, hc => by
    unfold natDigits at hc
    split at hc
    · next hn => rw [List.mem_singleton.mp hc]; exact digit_isDigit n hn
    · rcases List.mem_append.1 hc with hc | hc
      · exact natDigits_isDigit f _ c hc
      · rw [List.mem_singleton.mp hc]; exact digit_isDigit _ (Nat.mod_lt _ (by decide))

theorem natDigits_ne_nil (f n : Nat) : natDigits (f + 1) n ≠ [] := by
  unfold natDigits; split <;> simp

theorem isDigit_not_space (c : UInt8) (h : isDigitC c = true) : isSpaceC c = false := by
  rw [isDigitC_iff] at h
  simp only [isSpaceC, Bool.or_eq_false_iff, Bool.and_eq_false_iff, beq_eq_false_iff_ne, decide_eq_false_iff_not,
    UInt8.le_iff_toNat_le, ne_eq, ← UInt8.toNat_inj]
  refine ⟨?_, ?_⟩
  · show ¬ c.toNat = 32; omega
  · right; show ¬ c.toNat ≤ 13; omega

/-- `std::stoll` on an optional '-' followed by a non-empty run of digits and a non-digit rest. -/
theorem stoll_digits (neg : Bool) (ds rest : Bytes) (hne : ds ≠ []) (hd : ∀ c ∈ ds, isDigitC c = true)
    (hr : rest.takeWhile isDigitC = []) :
    stoll ((if neg then [45] else []) ++ ds ++ rest) =
      (let z : Int := if neg then -(digVal ds : Int) else digVal ds
       if z < -2 ^ 63 ∨ z ≥ 2 ^ 63 then .range else .val z) := by
  obtain ⟨d, ds', rfl⟩ := List.exists_cons_of_ne_nil hne
  have hdd := hd d (List.mem_cons_self ..)
  have hds := isDigit_not_space d hdd
  have hdr := (isDigitC_iff d).mp hdd
  have h45 : d ≠ 45 := by intro e; subst e; simp at hdr
  have h43 : d ≠ 43 := by intro e; subst e; simp at hdr
  have htw : ((d :: ds') ++ rest).takeWhile isDigitC = d :: ds' := by
    rw [List.takeWhile_append_of_pos hd, hr, List.append_nil]
  cases neg with
  | true =>
    have e1 : ([45] ++ (d :: ds') ++ rest).dropWhile isSpaceC = 45 :: ((d :: ds') ++ rest) := by
      simp [isSpaceC]
    simp only [stoll, if_true, e1, htw]
    simp [digVal]
  | false =>
    have e1 : ([] ++ (d :: ds') ++ rest).dropWhile isSpaceC = (d :: ds') ++ rest := by
      simp [hds]
    rw [List.nil_append, List.cons_append] at e1
    rw [List.cons_append] at htw
    simp only [stoll, Bool.false_eq_true, if_false, List.nil_append, List.cons_append, e1]
    split
    · rename_i h; simp at h; exact absurd h.1 h45
    · rename_i h; simp at h; exact absurd h.1 h43
    · simp [htw, digVal]

theorem intToString_eq (i : Int64) :
    intToString i = (if decide (i.toInt < 0) then [45] else []) ++ natDigits 20 i.toInt.natAbs := by
  unfold intToString
  by_cases h : i.toInt < 0 <;> simp [h]

/-- **Decimal round trip** at the level of the scanners: `std::stoll(std::to_string(i)) = i`. -/
theorem stoll_intToString (i : Int64) : stoll (intToString i) = .val i.toInt := by
  have h := stoll_digits (decide (i.toInt < 0)) _ [] (natDigits_ne_nil 19 i.toInt.natAbs) (natDigits_isDigit 20 _) rfl
  have := Int64.le_toInt i
  have := Int64.toInt_lt i
  rw [List.append_nil, digVal_natDigits 20 _ (by omega), ← intToString_eq] at h
  have hz : (if decide (i.toInt < 0) = true then -(i.toInt.natAbs : Int) else i.toInt.natAbs) = i.toInt := by
    simp only [decide_eq_true_eq]; split <;> omega
  rw [h, hz, if_neg (by omega)]

/-- A text without `x` and `X` does not look hexadecimal. -/
theorem looksHex_of_no_x (s : Bytes) (h : ∀ c ∈ s, c ≠ 120 ∧ c ≠ 88) : looksHex s = false := by
  unfold looksHex
  split
  · next x r e =>
    have hx := h x ((List.dropWhile_suffix _).subset (e ▸ List.mem_cons_of_mem _ (List.mem_cons_self ..)))
    rw [beq_eq_false_iff_ne.mpr hx.1, beq_eq_false_iff_ne.mpr hx.2]; rfl
  · rfl

theorem looksHex_intToString (i : Int64) : looksHex (intToString i) = false := by
  rw [intToString_eq]
  refine looksHex_of_no_x _ fun c hc => ?_
  -- `c` is the sign or a digit
  have hle : c.toNat ≤ 57 := by
    rcases List.mem_append.1 hc with hc | hc
    · split at hc
      · rw [List.mem_singleton.mp hc]; decide
      · cases hc
    · exact ((isDigitC_iff c).mp (natDigits_isDigit 20 _ c hc)).2
  exact ⟨fun e => by subst e; exact absurd hle (by decide), fun e => by subst e; exact absurd hle (by decide)⟩

/-- A first byte that is neither white space, a sign, a digit, the point nor (in either case) `i` or `n` starts no
number: `std::stod` converts nothing. -/
theorem stod_invalid_of_head (c : UInt8) (b : Bytes) (hsp : Strtod.isSpace c = false) (hd : Strtod.isDigit c = false)
    (h45 : c ≠ 45) (h43 : c ≠ 43) (h46 : c ≠ 46) (hi : Strtod.lowerB c ≠ 105) (hn : Strtod.lowerB c ≠ 110) :
    Strtod.stod (c :: b) = .invalid := by
  have h48 : c ≠ 48 := fun e => by rw [e] at hd; exact absurd hd (by decide)
  simp [Strtod.stod, Strtod.startsCI, Strtod.mantissa, hsp, hd, h45, h43, h46, h48, hi, hn]
end BlocV.Lemmas
