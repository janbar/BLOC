/-
  For `C02.expr_type_sound_partial`: the expression fragment, the store invariant, the run-time trace of the recorded gap
  region, and the unfolding lemmas of `eval` on the operator nodes of the fragment (`eval_un`, `eval_bin`; literals and
  variables: `eval_lit`, `eval_var_run` of Interp.lean).
-/
import BlocV.Proofs.Lemmas.Interp

namespace BlocV.C02T
open BlocV.Lemmas

/-- The fragment: literals, variables, the 4 unary and all 20 binary operators (the lazy `and` / `or` included). -/
def opFrag : Expr → Bool
  | .lit _ => true
  | .var _ => true
  | .un _ a => opFrag a
  | .bin _ a b => opFrag a && opFrag b
  | _ => false

/-- every constant of the expression satisfies the representation invariant of `bloc::Value` -/
def litsWf : Expr → Bool
  | .lit v => v.wf
  | .un _ a => litsWf a
  | .bin _ a b => litsWf a && litsWf b
  | _ => true

/-- The store agrees with the symbol table the parser used: no `forall` running in this context (its iterator is a
pointer, not a variable), every variable holds a well-formed value, and a symbol with a defined type holds a value (or null)
of exactly that type. -/
structure StoreOk (tab : List (String × Ty)) (s : St) : Prop where
  noIter : s.iters = []
  wf : ∀ n, (lookupVar s.vars n).wf = true
  typed : ∀ n t, (tab.find? (·.1 == n)).map (·.2) = some t → t.defined = true → (lookupVar s.vars n).type = t

/-- `op_band.cpp`: the right operand is evaluated unless the left one is `false` (or of a wrong type) -/
def forcedBand (v1 : Val) : Bool :=
  match v1 with
  | .bool false => false
  | _ => v1.type.level == 0 && (v1.type.major == .none || v1.type.major == .bool)

def forcedBior (v1 : Val) : Bool :=
  match v1 with
  | .bool true => false
  | _ => v1.type.level == 0 && (v1.type.major == .none || v1.type.major == .bool)

/-- not `okVal` of BuiltinWalk.lean, which is an invariant of values -/
def okVal (r : Res Val × St) : Option Val :=
  match r.1 with
  | .ok v => some v
  | _ => none

/-- Does the evaluation of `e` in `s` pass through the recorded gap region (`binTypeGapM`, on majors; `C02.binTypeGap` on types:
`- * / ** %` on operands whose run-time majors the static rule did not foresee) at some operator node it actually evaluates? The
static types are the ones `typeOfExpr` gives with its own fuel `tf`, which goes down with the evaluation's. -/
def gapHit (funcs : List Func) (tab : List (String × Ty)) (depth : Nat) : Nat → Nat → Expr → St → Bool
  | fuel + 1, tf + 1, .un _ a, s => gapHit funcs tab depth fuel tf a s
  | fuel + 1, tf + 1, .bin op a b, s =>
    gapHit funcs tab depth fuel tf a s ||
    (match okVal (eval funcs depth fuel a s) with
     | none => false
     | some va =>
       if (op == .band && !forcedBand va) || (op == .bior && !forcedBior va) then false else
       gapHit funcs tab depth fuel tf b s ||
       (match okVal (eval funcs depth fuel b s) with
        | none => false
        | some vb =>
          binTypeGapM op (typeOfExpr funcs tab tf a).major (typeOfExpr funcs tab tf b).major va.type.major vb.type.major))
  | _, _, _, _ => false

/-- `>>=` of `EvalM` on an outcome (`bind_andThen`), named so that `eval_un` / `eval_bin` are equations between outcomes -/
def andThen {α β} (r : Res α × St) (k : α → St → Res β × St) : Res β × St :=
  match r with
  | (.ok a, s') => k a s'
  | (.err c a, s') => (.err c a, s')
  | (.haz h, s') => (.haz h, s')
  | (.unmodelled, s') => (.unmodelled, s')

theorem bind_andThen {α β} (x : EvalM α) (f : α → EvalM β) (s : St) : (x >>= f) s = andThen (x s) (fun a s' => f a s') := rfl

theorem andThen_ok {α β} {r : Res α × St} {k : α → St → Res β × St} {v : β} {s' : St}
    (h : andThen r k = (.ok v, s')) : ∃ a s1, r = (.ok a, s1) ∧ k a s1 = (.ok v, s') :=
  bind_app_eq_ok (x := fun _ => r) (f := k) (s := s') h

variable (funcs : List Func) (depth : Nat)

theorem eval_zero (e : Expr) (s : St) : eval funcs depth 0 e s = (.err oofCode [], s) := by
  simp only [eval]; rfl

theorem eval_un (fuel : Nat) (op : UnOp) (a : Expr) (s : St) :
    eval funcs depth (fuel + 1) (.un op a) s = andThen (eval funcs depth fuel a s) (fun v s1 => (evalUn op v, s1)) := by
  simp only [eval, bind_andThen, liftM_app]

/-- the flag `same` of `evalBin`: `==` / `!=` on tables and tuples compare addresses -/
def sameVar : Expr → Expr → Bool
  | .var x, .var y => x == y
  | _, _ => false

/-- A binary node: the left operand, then — unless a lazy `and` / `or` is decided by it (the test `gapHit` makes) — the right one. -/
theorem eval_bin (fuel : Nat) (op : BinOp) (a b : Expr) (s : St) :
    eval funcs depth (fuel + 1) (.bin op a b) s =
      andThen (eval funcs depth fuel a s) (fun v1 s1 =>
        if (op == .band && !forcedBand v1) || (op == .bior && !forcedBior v1) then (evalBin op v1 (.null Ty.none), s1)
        else andThen (eval funcs depth fuel b s1) (fun v2 s2 => (evalBin op v1 v2 (sameVar a b), s2))) := by
  rw [eval.eq_def]
  by_cases hl : op = .band ∨ op = .bior
  · rcases hl with rfl | rfl
    all_goals
      simp only [bind_andThen]
      congr 1
      funext v1 s1
      rw [evalM_ite_app]
      first
        | (show (if forcedBand v1 = true then _ else _) = _
           cases forcedBand v1 <;> rfl)
        | (show (if forcedBior v1 = true then _ else _) = _
           cases forcedBior v1 <;> rfl)
  · -- an eager operator: the general case of the definition
    obtain ⟨h1, h2⟩ := not_or.1 hl
    simp only [bind_andThen, liftM_app, beq_eq_false_iff_ne.2 h1, beq_eq_false_iff_ne.2 h2, Bool.false_and, Bool.or_false,
      Bool.false_eq_true, if_false]
    rfl

end BlocV.C02T
