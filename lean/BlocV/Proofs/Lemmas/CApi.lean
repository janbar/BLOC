/-
  What ONE call of the C API does to the state (`Call`, `step_call`): every entry point of Model/CApi.lean is followed
  through its branches once, here; what a call does to one context slot (`step_ctx`) and the invariants of
  Proofs/C15.lean are read off that. At the end: `ctxVars` under a lookup (for `api_script_agree_store`), and the
  accessor a type determines.
-/
import BlocV.Model.CApi

namespace BlocV.C15
open BlocV.CApi

@[simp] theorem err_setErr (s : State) (c : Nat) : (setErr s c).err = { code := c, msg := true } := rfl
@[simp] theorem err_razErr (s : State) : (razErr s).err = {} := rfl
@[simp] theorem err_bump (s : State) (c : Nat) (x : Ctx) : (bump s c x).err = s.err := rfl
@[simp] theorem err_setCtx (s : State) (c : Nat) (x : Ctx) : (setCtx s c x).err = s.err := rfl
@[simp] theorem err_killWhere (s : State) (p : VRef → Bool) : (killWhere s p).err = s.err := rfl
@[simp] theorem err_setVal (s : State) (v : Nat) (x : VSlot) : (setVal s v x).err = s.err := rfl
@[simp] theorem err_dropSymsOf (s : State) (c : Nat) : (dropSymsOf s c).err = s.err := rfl
@[simp] theorem err_staleCtxItems (s : State) (c : Nat) : (staleCtxItems s c).err = s.err := rfl
theorem appendSink_eq (s : State) (k : Nat) (b : Bytes) :
    appendSink s k b = { s with sinks := match s.sinks[k]? with | some old => s.sinks.set k (old ++ b) | none => s.sinks } := by
  unfold appendSink; cases s.sinks[k]? <;> rfl

@[simp] theorem ctxs_setErr (s : State) (c : Nat) : (setErr s c).ctxs = s.ctxs := rfl
@[simp] theorem ctxs_razErr (s : State) : (razErr s).ctxs = s.ctxs := rfl
@[simp] theorem ctxs_bump (s : State) (c : Nat) (x : Ctx) : (bump s c x).ctxs = s.ctxs.set c { x with epoch := s.clock } := rfl
@[simp] theorem clock_bump (s : State) (c : Nat) (x : Ctx) : (bump s c x).clock = s.clock + 1 := rfl
@[simp] theorem ctxs_setCtx (s : State) (c : Nat) (x : Ctx) : (setCtx s c x).ctxs = s.ctxs.set c x := rfl
@[simp] theorem ctxs_killWhere (s : State) (p : VRef → Bool) : (killWhere s p).ctxs = s.ctxs := rfl
@[simp] theorem ctxs_setVal (s : State) (v : Nat) (x : VSlot) : (setVal s v x).ctxs = s.ctxs := rfl
@[simp] theorem ctxs_dropSymsOf (s : State) (c : Nat) : (dropSymsOf s c).ctxs = s.ctxs := rfl
@[simp] theorem ctxs_staleCtxItems (s : State) (c : Nat) : (staleCtxItems s c).ctxs = s.ctxs := rfl
@[simp] theorem clock_setErr (s : State) (c : Nat) : (setErr s c).clock = s.clock := rfl
@[simp] theorem clock_razErr (s : State) : (razErr s).clock = s.clock := rfl
@[simp] theorem clock_setCtx (s : State) (c : Nat) (x : Ctx) : (setCtx s c x).clock = s.clock := rfl
@[simp] theorem clock_killWhere (s : State) (p : VRef → Bool) : (killWhere s p).clock = s.clock := rfl
@[simp] theorem clock_setVal (s : State) (v : Nat) (x : VSlot) : (setVal s v x).clock = s.clock := rfl
@[simp] theorem clock_dropSymsOf (s : State) (c : Nat) : (dropSymsOf s c).clock = s.clock := rfl
@[simp] theorem clock_staleCtxItems (s : State) (c : Nat) : (staleCtxItems s c).clock = s.clock := rfl

variable {s : State} {c : Nat} {x : Ctx}

theorem getCtx_eq_some : getCtx s c = some x ↔ (s.ctxs[c]? = some x ∧ x.live = true) := by
  unfold getCtx
  cases s.ctxs[c]? with
  | none => simp
  | some y =>
    simp only [Option.some.injEq]
    split
    · next hl => exact ⟨fun h => ⟨Option.some.inj h, Option.some.inj h ▸ hl⟩, fun h => congrArg some h.1⟩
    · next hl => exact ⟨nofun, fun h => absurd (h.1 ▸ h.2) hl⟩

theorem getCtx_some (h : getCtx s c = some x) : s.ctxs[c]? = some x :=
  (getCtx_eq_some.1 h).1

theorem ctxs_set_self (hx : getCtx s c = some x) (z : Ctx) : (s.ctxs.set c z)[c]? = some z :=
  List.getElem?_set_self (List.getElem?_eq_some_iff.1 (getCtx_some hx)).1

theorem refLive_lib {r : VRef} (hk : r.kind ≠ .boxItem) :
    refLive s r = true ↔ ∃ x, getCtx s r.ctx = some x ∧ x.epoch = r.epoch := by
  unfold refLive
  split
  · next h => exact absurd h hk
  · cases getCtx s r.ctx <;> simp

theorem readRef_congr {t : State} {r : VRef} {d id : Nat} (hroot : r.root = .slot d id) (h : t.ctxs[d]? = s.ctxs[d]?) :
    readRef t r = readRef s r := by
  simp only [readRef, hroot, readRoot, getCtx, h]

theorem init_ctx (h : State.init.ctxs[c]? = some x) : x = {} :=
  List.eq_of_mem_replicate (List.mem_of_getElem? h)

theorem getElem?_replicate_none_ne {α : Type} {n i : Nat} {h : α} : (List.replicate n (none : Option α))[i]? ≠ some (some h) :=
  fun hh => nomatch List.eq_of_mem_replicate (List.mem_of_getElem? hh)

theorem symLive_some {sh id : Nat} (h : symLive s sh c = some (x, id)) : getCtx s c = some x := by
  unfold symLive at h
  split at h
  · next hg =>
    split at h <;> cases h
    exact hg
  · cases h

theorem exprUsable_some {e : Nat} {h : ExprH} (hu : exprUsable s e c = some (x, h)) : getCtx s c = some x := by
  unfold exprUsable at hu
  split at hu
  · next hg =>
    split at hu <;> cases hu
    exact hg
  · cases hu

theorem execUsable_slot {xi : Nat} {h : ExecH} (hu : execUsable s xi = some h) : s.execs[xi]? = some (some h) := by
  unfold execUsable at hu
  split at hu
  · rename_i h' heq
    split at hu
    · split at hu
      · cases hu; exact heq
      · cases hu
    · cases hu
  · cases hu

/-- what `CtxStep.write` asks of `y` in the place of `x`, the values apart -/
structure SameCtx (x y : Ctx) : Prop where
  live : y.live = x.live
  epoch : y.epoch = x.epoch
  gen : y.gen = x.gen
  stop : y.stop = x.stop

theorem storeInto_same {x' : Ctx} {id : Nat} {b : Val} (h : storeInto x id b = .ok x') : SameCtx x x' := by
  revert h
  fun_cases storeInto x id b
  all_goals rintro ⟨⟩
  -- the branches that succeed are left: they change at most `syms` and `vals`
  all_goals exact ⟨rfl, rfl, rfl, rfl⟩

theorem findIdx?_name_set_ty (syms : List Sym) (id : Nat) (sy : Sym) (t : Ty) (h : syms[id]? = some sy) (name : String) :
    (syms.set id { sy with ty := t }).findIdx? (·.name == name) = syms.findIdx? (·.name == name) := by
  induction syms generalizing id with
  | nil => simp
  | cons a rest ih =>
    cases id with
    | zero => simp at h; subst h; simp [List.findIdx?_cons]
    | succ k => simp at h; simp [List.findIdx?_cons, ih k h]

/-- A successful store into an existing variable puts `b` into its slot and keeps every symbol's name (the type of the
symbol may follow the value). -/
theorem storeInto_ok {x x' : Ctx} {id : Nat} {b old : Val} {sy : Sym} (hs : x.syms[id]? = some sy) (hv : x.vals[id]? = some old)
    (h : storeInto x id b = .ok x') :
    x'.vals = x.vals.set id b ∧ ∀ name, x'.syms.findIdx? (·.name == name) = x.syms.findIdx? (·.name == name) := by
  unfold storeInto at h
  rw [hs, hv] at h
  simp only at h
  split at h
  · cases h; exact ⟨rfl, fun _ => rfl⟩
  · split at h
    · cases h
    · cases h; exact ⟨rfl, findIdx?_name_set_ty _ _ _ _ hs⟩

theorem registerSym_same (x : Ctx) (name : String) (ty : Ty) : SameCtx x (registerSym x name ty).1 := by
  fun_cases registerSym x name ty
  all_goals exact ⟨rfl, rfl, rfl, rfl⟩

/-- Context `y'` is `y` except for its epoch, symbols appended behind the existing ones and symbol types restored
(`parsingEnd`): same liveness, generation, functions, returned value, stop condition; every variable keeps its value. -/
def CtxKept (y y' : Ctx) : Prop :=
  y'.live = y.live ∧ y'.gen = y.gen ∧ y'.funcs = y.funcs ∧ y'.returned = y.returned ∧ y'.stop = y.stop ∧
  (∀ (i : Nat) (v : Val), y.vals[i]? = some v → y'.vals[i]? = some v)

theorem CtxKept.refl (y : Ctx) : CtxKept y y := ⟨rfl, rfl, rfl, rfl, rfl, fun _ _ h => h⟩

theorem CtxKept.trans {y y1 y2 : Ctx} (h1 : CtxKept y y1) (h2 : CtxKept y1 y2) : CtxKept y y2 :=
  ⟨h2.1.trans h1.1, h2.2.1.trans h1.2.1, h2.2.2.1.trans h1.2.2.1, h2.2.2.2.1.trans h1.2.2.2.1,
   h2.2.2.2.2.1.trans h1.2.2.2.2.1, fun i v h => h2.2.2.2.2.2 i v (h1.2.2.2.2.2 i v h)⟩

theorem addSyms_kept (news : List (String × Ty)) : ∀ (x : Ctx), CtxKept x (addSyms x news) ∧ (addSyms x news).epoch = x.epoch := by
  induction news with
  | nil => exact fun x => ⟨.refl x, rfl⟩
  | cons p rest ih =>
    intro x
    simp only [addSyms, List.foldl_cons]
    split
    · exact ih x
    · obtain ⟨h, he⟩ := ih { x with syms := x.syms ++ [{ name := p.1, ty := p.2, safety := isSafetyName p.1 }], vals := x.vals ++ [Val.null p.2] }
      refine ⟨⟨h.1, h.2.1, h.2.2.1, h.2.2.2.1, h.2.2.2.2.1, fun i v hv => h.2.2.2.2.2 i v ?_⟩, he⟩
      rw [List.getElem?_append_left (List.getElem?_eq_some_iff.1 hv).1]
      exact hv

theorem addSyms_same (x : Ctx) (news : List (String × Ty)) : SameCtx x (addSyms x news) :=
  have h := addSyms_kept news x
  ⟨h.1.1, h.2, h.1.2.1, h.1.2.2.2.2.1⟩

theorem SameCtx.restore {y : Ctx} (h : SameCtx x y) : SameCtx x (restoreBacked y) :=
  ⟨h.live, h.epoch, h.gen, h.stop⟩

theorem compileInto_same (x : Ctx) (p : List Stmt) : SameCtx x (compileInto x p) :=
  have h := addSyms_same { x with funcs := funcsAfter x.funcs p } _
  .restore ⟨h.live, h.epoch, h.gen, h.stop⟩

theorem writeBack_same (x : Ctx) (vars : List (String × Val)) : SameCtx x (writeBack x vars) :=
  have h := addSyms_same x _
  ⟨h.live, h.epoch, h.gen, h.stop⟩

/-- The call is a write of the HOST into context `c`: a store into it, or an assign through a pointer loaded from it. -/
def hostWrite (o : Op) (s : State) (c : Nat) : Bool :=
  match o with
  | .store c' _ _ _ => c' == c
  | .alit v _ | .araw v _ | .anull v => match liveSlot s v with
      | some (.ref r) => (match r.root with | .slot c' _ => c' == c | _ => false)
      | _ => false
  | _ => false

/-- calls that end a held stop condition of context c: `bloc_reset_stop`, `bloc_ctx_purge`, `bloc_free_context` -/
def releases (c : Nat) : Op → Bool
  | .rst c' => c' == c
  | .cpurge c' => c' == c
  | .cfree c' => c' == c
  | _ => false

/-- Does the call name context `d` as the context it works IN: its context argument, the target of a clone, the context of
the executable it runs, the context of the variable a loaded pointer designates (assign)? Cloning FROM `d`, and every call
on values, expressions, executables and symbols of OTHER contexts, do not. -/
def targets (o : Op) (s : State) (d : Nat) : Bool :=
  match o with
  | .cnew c | .cfree c | .cpurge c | .cpwm c | .reg c _ _ _ _ | .eparse c _ _ | .eval c _ _ | .xparse c _ _ _
  | .exec2 c _ | .drop c _ | .brk c | .rst c | .store c _ _ _ => c == d
  | .cclone _ c _ => c == d
  | .exec xi => match s.execs[xi]? with
    | some (some h) => h.ctx == d
    | _ => false
  | .alit .. | .araw .. | .anull .. => hostWrite o s d
  | _ => false

def isParse : Op → Bool
  | .eparse .. => true
  | .xparse .. => true
  | _ => false

/-- What call `o`, working in context slot `c`, may leave (`z`) where `x` stood, `k` being the clock after the call. -/
inductive CtxStep (s : State) (o : Op) (c : Nat) (x z : Ctx) (k : Nat) : Prop
  /-- the context is changed in place, or not at all (then the clock may have moved for another slot): epoch, liveness and
  generation stay; the values unless the host wrote; a held stop condition unless the call releases it -/
  | write (hc : s.clock ≤ k) (hl : z.live = x.live) (he : z.epoch = x.epoch) (hg : z.gen = x.gen)
      (hv : hostWrite o s c = false → z.vals = x.vals) (hs : releases c o = false → x.stop = true → z.stop = true)
  /-- the old clock value is the new epoch; liveness and generation stay, and a held stop condition -/
  | renew (hc : k = s.clock + 1) (he : z.epoch = s.clock) (hl : z.live = x.live) (hg : z.gen = x.gen)
      (hs : x.stop = true → z.stop = true)
  /-- a new life of the slot begins (create, clone into, purge: the old clock value is the generation too) or it ends
  (free: dead, generation 0) -/
  | reset (hc : k = s.clock + 1) (he : z.epoch = s.clock) (hg : z.gen = s.clock ∨ z.live = false ∧ z.gen = 0)
      (hr : x.live = true → releases c o = true)

section
variable {o : Op} {k : Nat} {z : Ctx}

theorem CtxStep.refl (h : s.clock ≤ k) : CtxStep s o c x x k :=
  .write h rfl rfl rfl (fun _ => rfl) fun _ h => h

theorem CtxStep.clock (h : CtxStep s o c x z k) : s.clock ≤ k := by
  cases h <;> omega

/-- A call leaves context table and clock as they are, or replaces one slot of the table, one it `targets`. -/
inductive Effect (s : State) (o : Op) (s1 : State) : Prop
  | same : s1.ctxs = s.ctxs → s1.clock = s.clock → Effect s o s1
  | slot (c : Nat) (x z : Ctx) : targets o s c = true → s.ctxs[c]? = some x → s1.ctxs = s.ctxs.set c z →
      CtxStep s o c x z s1.clock → Effect s o s1

/-- Every handle of table `t1` is a handle of `t` or carries the generation of a context of `s`. -/
def Inherits {α : Type} (gen : α → Nat) (s : State) (t t1 : List (Option α)) : Prop :=
  ∀ (i : Nat) (h : α), t1[i]? = some (some h) → t[i]? = some (some h) ∨ ∃ (c : Nat) (x : Ctx), s.ctxs[c]? = some x ∧ gen h = x.gen

section
variable {α : Type} {gen : α → Nat} {t t1 : List (Option α)}

theorem Inherits.refl : Inherits gen s t t := fun _ _ h => .inl h

theorem Inherits.set (i : Nat) (v : Option α) (hv : ∀ h, v = some h → ∃ (c : Nat) (x : Ctx), s.ctxs[c]? = some x ∧ gen h = x.gen) :
    Inherits gen s t (t.set i v) := by
  intro j h hj
  rw [List.getElem?_set] at hj
  split at hj
  · split at hj
    · exact .inr (hv h (Option.some.inj hj))
    · cases hj
  · exact .inl hj

theorem Inherits.unset (i : Nat) : Inherits gen s t (t.set i none) := .set i none nofun

theorem Inherits.create (i : Nat) (h : α) (hx : s.ctxs[c]? = some x) (hg : gen h = x.gen) : Inherits gen s t (t.set i (some h)) :=
  .set i _ fun _ hh => ⟨c, x, hx, Option.some.inj hh ▸ hg⟩

theorem Inherits.below (hi : Inherits gen s t t1) (hk : s.clock ≤ k)
    (hc : ∀ (c : Nat) (x : Ctx), s.ctxs[c]? = some x → x.gen < s.clock)
    (ht : ∀ (i : Nat) (h : α), t[i]? = some (some h) → gen h < s.clock) (i : Nat) (h : α) (h1 : t1[i]? = some (some h)) : gen h < k := by
  rcases hi i h h1 with h0 | ⟨c, x, hx, hg⟩
  · exact Nat.lt_of_lt_of_le (ht i h h0) hk
  · exact hg ▸ Nat.lt_of_lt_of_le (hc c x hx) hk
end

theorem Inherits.dropSyms (s0 : State) (c : Nat) : Inherits SymH.gen s s0.syms (dropSymsOf s0 c).syms := by
  intro sh h h1
  unfold dropSymsOf at h1
  rw [List.getElem?_map, Option.map_eq_some_iff] at h1
  obtain ⟨v, hv, hf⟩ := h1
  split at hf
  · split at hf
    · cases hf
    · exact .inl (hf ▸ hv)
  · cases hf

/-- The error record after a call is the failure it reports, else what it was (left open for a parse that succeeds: it
clears it, `C15.parse_success_resets_record`). -/
def ErrOk (s : State) (o : Op) (r : State × Out) : Prop :=
  r.1.err = (match r.2.fail with | some code => { code := code, msg := true } | none => s.err) ∨
  isParse o = true ∧ r.2.fail = none

/-- What call `o`, made in state `s`, did (`r`: new state and result): it left the context table alone or replaced one
slot of it, a slot it `targets`; it created handles only with the generation of a context; it set the error record
exactly when it failed. -/
structure Call (s : State) (o : Op) (r : State × Out) : Prop where
  ctxs : Effect s o r.1
  execs : Inherits ExecH.gen s s.execs r.1.execs := by exact .refl
  exprs : Inherits ExprH.gen s s.exprs r.1.exprs := by exact .refl
  syms : Inherits SymH.gen s s.syms r.1.syms := by exact .refl
  err : ErrOk s o r

variable {s' : State} {out : Out}

/-- a call that changes at most the host's values, the sinks and the error record -/
theorem Call.host (h : { s' with vals := s.vals, sinks := s.sinks, err := s.err } = s) (he : ErrOk s o (s', out)) :
    Call s o (s', out) := by
  cases s'; cases s
  simp only [State.mk.injEq] at h
  obtain ⟨rfl, rfl, -, rfl, rfl, -, rfl, -⟩ := h
  exact { ctxs := .same rfl rfl, err := he }

theorem Call.idle (h : out.fail = none) : Call s o (s, out) :=
  .host rfl (.inl (by rw [h]))

/-- a call that puts `z` into slot `c`; a handle table that is not named stays as it is -/
theorem Call.slot (ht : targets o s c = true) (hx : s.ctxs[c]? = some x) (h : s'.ctxs = s.ctxs.set c z)
    (hz : CtxStep s o c x z s'.clock) (he : ErrOk s o (s', out))
    (execs : Inherits ExecH.gen s s.execs s'.execs := by exact .refl)
    (exprs : Inherits ExprH.gen s s.exprs s'.exprs := by exact .refl)
    (syms : Inherits SymH.gen s s.syms s'.syms := by exact .refl) : Call s o (s', out) :=
  ⟨.slot c x z ht hx h hz, execs, exprs, syms, he⟩

theorem beq_self_false_elim {p : Prop} (h : (c == c) = false) : p := by simp at h

variable {d e v w xi sh : Nat}

/-! `Call s o r` looks at `o` only through `targets`, `releases`, `hostWrite`, `isParse`: an entry point that replaces no
context slot and is no parse satisfies it for EVERY `o` (`opFind_call`); one that several calls share takes what it needs
of `o` as hypotheses (`opAssign_call`). -/

theorem opCnew_call : Call s (.cnew c) (opCnew s c) := by
  unfold opCnew
  split
  · next x hx =>
    split
    · exact .idle rfl
    · next hl => exact .slot (beq_self_eq_true c) hx rfl (.reset rfl rfl (.inl rfl) (absurd · hl)) (.inl rfl)
  · exact .idle rfl

theorem opCclone_call : Call s (.cclone c d k) (opCclone s c d k) := by
  unfold opCclone
  split
  · next x y hx hy =>
    split
    · exact .idle rfl
    · next hl =>
      exact .slot (beq_self_eq_true d) hy rfl (.reset rfl rfl (.inl rfl) fun h => absurd (by rw [h]; rfl) hl) (.inl rfl)
  · exact .idle rfl

theorem opCfree_call : Call s (.cfree c) (opCfree s c) := by
  unfold opCfree
  split
  · next x hx =>
    exact .slot (beq_self_eq_true c) (getCtx_some hx) rfl (.reset rfl rfl (.inr ⟨rfl, rfl⟩) fun _ => beq_self_eq_true c)
      (.inl rfl) (syms := .dropSyms (bump s c _) c)
  · exact .idle rfl

theorem opCpurge_call : Call s (.cpurge c) (opCpurge s c) := by
  unfold opCpurge
  split
  · next x hx =>
    exact .slot (beq_self_eq_true c) (getCtx_some hx) rfl (.reset rfl rfl (.inl rfl) fun _ => beq_self_eq_true c)
      (.inl rfl) (syms := .dropSyms (bump s c _) c)
  · exact .idle rfl

theorem opCpwm_call : Call s (.cpwm c) (opCpwm s c) := by
  unfold opCpwm
  split
  · next x hx => exact .slot (beq_self_eq_true c) (getCtx_some hx) rfl (.renew rfl rfl rfl rfl fun h => h) (.inl rfl)
  · exact .idle rfl

theorem opReg_call {name : String} {major : Major} {ndim : Nat} :
    Call s (.reg c sh name major ndim) (opReg s c sh name major ndim) := by
  unfold opReg
  split
  · next x hx =>
    split
    · exact .idle rfl
    · have hk := registerSym_same x name { major := major, minor := 0, level := ndim }
      split
      · next x' id heq =>
        rw [heq] at hk
        exact .slot (beq_self_eq_true c) (getCtx_some hx) rfl (.renew rfl rfl hk.live hk.gen hk.stop.trans) (.inl rfl)
          (syms := .create sh _ (getCtx_some hx) rfl)
      · next x' code heq =>
        rw [heq] at hk
        exact .slot (beq_self_eq_true c) (getCtx_some hx) rfl (.renew rfl rfl hk.live hk.gen hk.stop.trans) (.inl rfl)
          (syms := .unset sh)
  · exact .idle rfl

theorem opFind_call {name : String} : Call s o (opFind s c sh name) := by
  unfold opFind
  split
  · next x hx =>
    split
    · exact .idle rfl
    · split
      · exact { ctxs := .same rfl rfl, syms := .create sh _ (getCtx_some hx) rfl, err := .inl rfl }
      · exact { ctxs := .same rfl rfl, syms := .unset sh, err := .inl rfl }
  · exact .idle rfl

theorem opStore_call {forget : Bool} : Call s (.store c sh v forget) (opStore s c sh v forget) := by
  unfold opStore
  split
  · next x id b hsl hv =>
    split
    · next x' hst =>
      have hk := storeInto_same hst
      cases forget <;>
        exact .slot (beq_self_eq_true c) (getCtx_some (symLive_some hsl)) rfl
          (.write (Nat.le_refl _) hk.live hk.epoch hk.gen beq_self_false_elim fun _ => hk.stop.trans) (.inl rfl)
    · exact .host rfl (.inl rfl)
  · exact .idle rfl

/-- `bloc_assign_…` through host slot `v`, for the three calls `o` that are one -/
theorem opAssign_call {f : Val → Option Bool × Val} (ht : ∀ c, targets o s c = hostWrite o s c)
    (hw : ∀ (r : VRef) (c id : Nat), liveSlot s v = some (.ref r) → r.root = .slot c id → hostWrite o s c = true) :
    Call s o (opAssign s v f) := by
  fun_cases opAssign s v f
  -- the one branch that writes into a context: `v` holds a pointer loaded from variable `id` of context `c`, which is live
  case case3 r hr _ c id hroot x hx _ _ _ _ _ =>
    have hc := hw r c id hr hroot
    exact .slot ((ht c).trans hc) (getCtx_some hx) rfl
      (.write (Nat.le_refl _) rfl rfl rfl (fun h => by rw [hc] at h; cases h) fun _ h => h) (.inl rfl)
  all_goals exact .host rfl (.inl rfl)

theorem opEparse_call {t : ExprText} : Call s (.eparse c e t) (opEparse s c e t) := by
  unfold opEparse
  split
  · next x hx _ =>
    have hx := getCtx_some hx
    have hz {k : Nat} (hk : k = s.clock + 1) : CtxStep s (.eparse c e t) c x { x with epoch := s.clock } k :=
      .renew hk rfl rfl rfl fun h => h
    split
    · exact .slot (beq_self_eq_true c) hx rfl (hz rfl) (.inr ⟨rfl, rfl⟩) (exprs := .create e _ hx rfl)
    · repeat' split
      · exact .slot (beq_self_eq_true c) hx rfl (hz rfl) (.inl rfl)
      · exact .slot (beq_self_eq_true c) hx rfl (hz rfl) (.inr ⟨rfl, rfl⟩)
      · exact .idle rfl
  · exact .idle rfl

theorem opEfree_call : Call s o (opEfree s e) := by
  unfold opEfree
  split
  · exact { ctxs := .same rfl rfl, exprs := .unset e, err := .inl rfl }
  · exact .idle rfl

theorem opEval_call : Call s (.eval c e w) (opEval s c e w) := by
  unfold opEval
  split
  · next x h hu =>
    have ht : targets (.eval c e w) s c = true := beq_self_eq_true c
    split
    · exact .idle rfl
    · dsimp only
      repeat' split
      all_goals
        rw [appendSink_eq]
        exact .slot ht (getCtx_some (exprUsable_some hu)) rfl (.renew rfl rfl rfl rfl fun h => h) (.inl rfl)
  · exact .idle rfl

theorem opXparse_call {t : ProgText} {pos : Bool} : Call s (.xparse c xi t pos) (opXparse s c xi t pos) := by
  unfold opXparse
  split
  · next x hx _ =>
    have hx := getCtx_some hx
    have ht := beq_self_eq_true c
    split
    · next prog =>
      have hk := compileInto_same x prog
      -- of the compiled context only `SameCtx` is used: as a variable it is not unfolded when the evidence below is checked
      generalize compileInto x prog = y at hk ⊢
      exact .slot ht hx rfl (.renew rfl rfl hk.live hk.gen hk.stop.trans) (.inr ⟨rfl, rfl⟩) (execs := .create xi _ hx rfl)
    · split
      · next bt _ =>
        have hk := addSyms_same x bt.newSyms
        exact .slot ht hx rfl (.renew rfl rfl hk.live hk.gen hk.stop.trans) (.inl rfl)
      · exact .idle rfl
  · exact .idle rfl

theorem opXfree_call : Call s o (opXfree s xi) := by
  unfold opXfree
  split
  · exact { ctxs := .same rfl rfl, execs := .unset xi, err := .inl rfl }
  · exact .idle rfl

/-- `Executable::run` in context `c`, for the two calls `o` that come to it -/
theorem runIn_call {prog : List Stmt} (ht : targets o s c = true) (hx : getCtx s c = some x) : Call s o (runIn s c x prog) := by
  have hx := getCtx_some hx
  unfold runIn
  split
  · exact .slot ht hx rfl (.renew rfl rfl rfl rfl fun h => h) (.inl rfl)
  · next hstop =>
    dsimp only
    -- a variable for the context written back, as in `opXparse_call`
    generalize hy : writeBack x _ = y
    have hy : SameCtx x y := hy ▸ writeBack_same x _
    repeat' split
    all_goals
      rw [appendSink_eq]
      exact .slot ht hx rfl (.renew rfl rfl hy.live hy.gen (absurd · hstop)) (.inl rfl)

theorem opExec_call : Call s (.exec xi) (opExec s xi) := by
  unfold opExec
  split
  · next h hu =>
    split
    · next x hx => exact runIn_call (by simp only [targets, execUsable_slot hu, beq_self_eq_true]) hx
    · exact .idle rfl
  · exact .idle rfl

theorem opExec2_call : Call s (.exec2 c xi) (opExec2 s c xi) := by
  unfold opExec2
  split
  · next x h hx _ =>
    split
    · exact runIn_call (beq_self_eq_true c) hx
    · exact .idle rfl
  · exact .idle rfl

theorem opDrop_call : Call s (.drop c w) (opDrop s c w) := by
  unfold opDrop
  split
  · next x hx =>
    split
    · exact .idle rfl
    · split
      · exact .slot (beq_self_eq_true c) (getCtx_some hx) rfl (.write (Nat.le_refl _) rfl rfl rfl (fun _ => rfl) fun _ h => h) (.inl rfl)
      · exact .idle rfl
  · exact .idle rfl

/-- `bloc_break` / `bloc_reset_stop`; `hb`: a call that sets `false` releases -/
theorem opStop_call {b : Bool} (ht : targets o s c = true) (hb : releases c o = false → b = true) : Call s o (opStop s c b) := by
  unfold opStop
  split
  · next x hx => exact .slot ht (getCtx_some hx) rfl (.write (Nat.le_refl _) rfl rfl rfl (fun _ => rfl) fun h _ => hb h) (.inl rfl)
  · exact .idle rfl

theorem opCreate_call {val : Val} : Call s o (opCreate s v val) := by
  unfold opCreate
  split
  · exact .idle rfl
  · exact .host rfl (.inl rfl)

theorem opItem_call {k : Acc} {idx : Nat} : Call s o (opItem s k v idx w) := by
  fun_cases opItem s k v idx w
  all_goals exact .host rfl (.inl rfl)

theorem step_call (s : State) (o : Op) : Call s o (step s o) := by
  cases o with
  | vnull | vbool | vint | vnum | vlit | vraw | vimag => exact opCreate_call
  | tabitem | tupitem => exact opItem_call
  | load | vfree | vdump | acc | etype | out =>
    -- in every branch at most host values, sinks and — with the failure reported — the error record change
    simp only [step, opLoad, opVfree, opVdump, opAcc, opEtype, opOut]
    repeat' split
    all_goals exact .host rfl (.inl rfl)
  | cnew => exact opCnew_call
  | cclone => exact opCclone_call
  | cfree => exact opCfree_call
  | cpurge => exact opCpurge_call
  | cpwm => exact opCpwm_call
  | reg => exact opReg_call
  | find => exact opFind_call
  | store => exact opStore_call
  | alit v _ | araw v _ | anull v =>
    unfold step
    exact opAssign_call (fun _ => rfl) fun _ _ _ h1 h2 => by simp only [hostWrite, h1, h2, beq_self_eq_true]
  | eparse => exact opEparse_call
  | efree => exact opEfree_call
  | eval => exact opEval_call
  | xparse => exact opXparse_call
  | xfree => exact opXfree_call
  | exec => exact opExec_call
  | exec2 => exact opExec2_call
  | drop => exact opDrop_call
  | brk c => exact opStop_call (beq_self_eq_true c) fun _ => rfl
  | rst c => exact opStop_call (beq_self_eq_true c) beq_self_false_elim

theorem step_clock_mono (s : State) (o : Op) : s.clock ≤ (step s o).1.clock := by
  cases (step_call s o).ctxs with
  | same _ hk => exact Nat.le_of_eq hk.symm
  | slot _ _ _ _ _ _ hz => exact hz.clock

theorem step_ctxs_length (s : State) (o : Op) : (step s o).1.ctxs.length = s.ctxs.length := by
  cases (step_call s o).ctxs with
  | same hc _ => rw [hc]
  | slot _ _ _ _ _ hc _ => rw [hc, List.length_set]

/-- Contexts are never added or removed from the table: a slot that is filled after a call was filled before. -/
theorem step_ctx_before {x1 : Ctx} (h1 : (step s o).1.ctxs[c]? = some x1) :
    ∃ x, s.ctxs[c]? = some x := by
  have hc : c < s.ctxs.length := by
    rw [← step_ctxs_length s o]
    exact (List.getElem?_eq_some_iff.1 h1).1
  exact ⟨s.ctxs[c], List.getElem?_eq_getElem hc⟩

theorem step_ctx_after (o : Op) (h0 : s.ctxs[c]? = some x) : ∃ x1, (step s o).1.ctxs[c]? = some x1 := by
  have hc : c < (step s o).1.ctxs.length := by
    rw [step_ctxs_length]
    exact (List.getElem?_eq_some_iff.1 h0).1
  exact ⟨_, List.getElem?_eq_getElem hc⟩

theorem step_ctx {x1 : Ctx} (h0 : s.ctxs[c]? = some x)
    (h1 : (step s o).1.ctxs[c]? = some x1) : CtxStep s o c x x1 (step s o).1.clock := by
  cases (step_call s o).ctxs with
  | same hc hk => rw [hc, h0] at h1; cases h1; exact .refl (Nat.le_of_eq hk.symm)
  | slot c' y z _ hy hc hz =>
    rw [hc, List.getElem?_set] at h1
    split at h1
    · subst c'
      rw [h0] at hy
      split at h1 <;> cases h1
      cases hy
      exact hz
    · rw [h0] at h1; cases h1; exact .refl hz.clock

theorem step_untargeted {d : Nat} (h : targets o s d = false) : (step s o).1.ctxs[d]? = s.ctxs[d]? := by
  cases (step_call s o).ctxs with
  | same hc _ => rw [hc]
  | slot c _ _ ht _ hc _ =>
    rw [hc, List.getElem?_set_ne]
    intro hcd
    rw [hcd, h] at ht
    cases ht
end

theorem lookup_ctxVars {syms : List Sym} {vals : List Val} {name : String} {id : Nat} {v : Val}
    (h : syms.findIdx? (·.name == name) = some id) (hv : vals[id]? = some v) :
    lookupVar ((syms.map (·.name)).zip vals) name = v := by
  obtain ⟨hlt, hp, hmin⟩ := List.findIdx?_eq_some_iff_getElem.1 h
  obtain ⟨hlv, rfl⟩ := List.getElem?_eq_some_iff.1 hv
  have : ((syms.map (·.name)).zip vals).find? (·.1 == name) = some (syms[id].name, vals[id]) :=
    List.find?_eq_some_iff_getElem.2
      ⟨hp, id, by rw [List.length_zip, List.length_map]; omega, by simp, fun j hj => by simpa using hmin j hj⟩
  rw [lookupVar, this]

/-- `Lemmas.eval_var` (Lemmas/Interp.lean) where no iterator can shadow the name, from the definition: this file imports the model only -/
theorem eval_var (funcs : List Func) (depth fuel : Nat) (n : String) (st : St) (hit : st.iters = []) :
    eval funcs depth (fuel + 1) (.var n) st = (.ok (lookupVar st.vars n), st) := by
  simp [eval, bind, getSt, readVar, hit, liftM, monadLift, MonadLift.monadLift]

/-- the accessor that accepts a type -/
def accFor (ty : Ty) : Acc :=
  if ty.level != 0 then .t else
  match ty.major with
  | .bool => .b | .int => .i | .num => .n | .str => .l | .raw => .x | .tup => .u | .imag => .c | _ => .t

theorem matches_accFor {k : Acc} {ty : Ty} (h : k.matches ty = true) : k = accFor ty := by
  cases k <;> simp only [Acc.matches, Bool.and_eq_true, beq_iff_eq, bne_iff_ne, ne_eq] at h <;> simp [accFor, h]

end BlocV.C15
