/-
  The example programs of Proofs/C12.lean, and the closed facts about them that several of the examples there rest on,
  each evaluated once here (the well-formedness facts all in `ex_wf`).
-/
import BlocV.Spec.Roundtrip

namespace BlocV.C12
open BlocV.Parse BlocV.Unparse BlocV.Roundtrip

/-- `-A power 2 + (B * 0.3) <= "x\"y" and not true`: hypotheses are satisfiable, `norm` is not the identity -/
def exTree : PExpr :=
  .bin .band false
    (.bin .le false (.bin .add false (.un .neg false (.bin .exp false (.var (bytesOf "A")) (.int 2)))
      (.bin .mul true (.var (bytesOf "B")) (.num 0x3FD3333333333333))) (.str (bytesOf "x\"y")))
    (.un .bnot false (.kw (bytesOf "true")))

/-- `max(A, F(1,"x")).concat(T@2).set@3(tup(1, -B))`: built-in call, user function call, member call, item, `set@`,
tuple constructor, nested argument lists — outside the operator core, inside the theorem's domain. -/
def exCalls : PExpr :=
  .setm (.member (.call (bytesOf "max") [.var (bytesOf "A"), .fcall (bytesOf "F") [.int 1, .str (bytesOf "x")]])
      (bytesOf "concat") [.item (.var (bytesOf "T")) 2]) 3
    (.call (bytesOf "tup") [.int 1, .un .neg false (.var (bytesOf "B"))])

/-- `do (1 + 2);`: inside the region `doHead`, in the domain of `stmt_do_roundtrip` -/
def exDo : PExpr := .bin .add true (.int 1) (.int 2)

/-- `do -A power 2;`: `norm` is not the identity here (`-(A power 2)` comes back enclosed), the text is the same -/
def exDoNeg : PExpr := .un .neg false (.bin .exp false (.var (bytesOf "A")) (.int 2))

/-- `print A "x" (B + 1) T@1 not C` -/
def exItems : List PExpr :=
  [.var (bytesOf "A"), .str (bytesOf "x"), .bin .add true (.var (bytesOf "B")) (.int 1), .item (.var (bytesOf "T")) 1,
   .un .bnot false (.var (bytesOf "C"))]

/-- `A = -B power 2 , C:integer , print A "x" (B + 1)` -/
def exChain : PStmt :=
  .letS (bytesOf "A") (.un .neg false (.bin .exp false (.var (bytesOf "B")) (.int 2)))
    (some (.letn (bytesOf "C") (bytesOf "integer") (some (.print [.var (bytesOf "A"), .str (bytesOf "x"),
      .bin .add true (.var (bytesOf "B")) (.int 1)]))))

def exProg : List PStmt := [exChain, .doS exCalls, .ret (some (.call (bytesOf "max") [.var (bytesOf "A"), .int 2])), .raise (bytesOf "E")]

/-- `if -A power 2 < 0 then while B loop C = -1; end loop; else begin nop; exception when E then return -A power 2; end; end if;
function F(X:integer) return integer is begin return -A power 2; end;` -/
def exBlocks : List PStmt :=
  [.ifS [(.bin .lt false exDoNeg (.int 0), [.whileS (.var (bytesOf "B")) [.letS (bytesOf "C") (.un .neg false (.int 1)) none]])]
      (some [.begin [.nop] [(bytesOf "E", [.ret (some exDoNeg)])]]),
   .func (bytesOf "F") [(bytesOf "X", bytesOf "integer")] (bytesOf "integer") [.ret (some exDoNeg)] []]

/-- `for I in 1 to -A power 2 step 2 desc loop if … elsif … else … end if; end loop; forall E in T asc loop … end loop;
begin … exception when A then … when B then … end; function F(X:integer,Y) return integer is begin … exception when Z then … end;` -/
def exAll : List PStmt :=
  [.forS (bytesOf "I") (.int 1) exDoNeg (some (.int 2)) .desc
     [.ifS [(.var (bytesOf "A"), [.print [.var (bytesOf "I")]]), (.var (bytesOf "B"), [.brk, .cont])] (some [.nop])],
   .forall (bytesOf "E") (.var (bytesOf "T")) .asc [.doS exCalls],
   .whileS (.kw (bytesOf "true")) [.ifS [(.var (bytesOf "A"), [.raise (bytesOf "X")])] none],
   .begin [exChain] [(bytesOf "A", [.ret none]), (bytesOf "B", [.trace (.kw (bytesOf "false"))])],
   .func (bytesOf "F") [(bytesOf "X", bytesOf "integer"), (bytesOf "Y", [])] (bytesOf "integer")
     [.ret (some exDoNeg)] [(bytesOf "Z", [.ret (some (.int 0))])]]

/-- The well-formedness facts about the examples stand in one statement because each of them is mostly the two keyword tables
behind `reserved` (`bytesOf` of every word of `Gen.stmtKeywords` / `Gen.builtinKeywords`), and the kernel builds those once per
declaration. -/
theorem ex_wf : (wf exTree = true ∧ core exTree = true) ∧ (wf exCalls = true ∧ core exCalls = false) ∧ wfFlat exChain = true ∧
    wfFlatB exProg = true ∧ wfP exAll = true ∧ (wfArgs exItems = true ∧ itemsSep exItems = true) ∧
    nameOk (bytesOf "A") = true ∧ wf (.bin .add false (.int 1) (.var (bytesOf "B"))) = true ∧
    wf (.un .neg false (.var (bytesOf "X"))) = true := by decide +kernel

theorem exTree_wf : wf exTree = true ∧ core exTree = true := ex_wf.1
theorem exCalls_wf : wf exCalls = true ∧ core exCalls = false := ex_wf.2.1
theorem exChain_wf : wfFlat exChain = true := ex_wf.2.2.1
theorem exProg_wf : wfFlatB exProg = true := ex_wf.2.2.2.1
theorem exAll_wf : wfP exAll = true := ex_wf.2.2.2.2.1
theorem exItems_wf : wfArgs exItems = true ∧ itemsSep exItems = true := ex_wf.2.2.2.2.2.1
theorem nameA_ok : nameOk (bytesOf "A") = true := ex_wf.2.2.2.2.2.2.1
theorem onePlusB_wf : wf (.bin .add false (.int 1) (.var (bytesOf "B"))) = true := ex_wf.2.2.2.2.2.2.2.1
theorem negX_wf : wf (.un .neg false (.var (bytesOf "X"))) = true := ex_wf.2.2.2.2.2.2.2.2

theorem exAll_scan : tokensOf (unparseProgram exAll) = toksProgram exAll := by decide +kernel

end BlocV.C12
