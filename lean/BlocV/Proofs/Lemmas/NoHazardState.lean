/-
  For C01 (whole programs): the invariant `WfSt` of the interpreter's state (every held value deep-well-formed, every running
  `forall` pointing inside its table, distinct iterator names), what assignments and the entry, step and exit of a `forall` do to
  it, and the value-level pieces an expression / statement node uses (variable read and write through an iterator, `error`, `print`,
  conditions, unary and binary operators), each without hazard and with a well-formed result.
-/
import BlocV.Proofs.Lemmas.NoHazardMembers
import BlocV.Proofs.Lemmas.Vars
namespace BlocV.NHI
open BlocV.Lemmas
variable {bad : Hazard → Bool}

/-- **Well-formed state**: every value a variable, the saved return value or the private copy of a traversed temporary holds is
deep-well-formed (`okVal`); every running `forall` points INSIDE the table it traverses, as that table is now; the iterator
names on the control stack are distinct (`FORALLStatement::doit` refuses to re-enter a loop on a pending iterator). -/
structure WfSt (s : St) : Prop where
  vars : ∀ p ∈ s.vars, okVal p.2 = true
  ret : ∀ v, s.returned = some v → okVal v = true
  priv : ∀ b ∈ s.iters, okVal b.priv = true
  idx : ∀ b ∈ s.iters, b.idx < tableSize (s.iterTable b)
  nodup : (s.iters.map (·.it)).Nodup

/-- every table VARIABLE being traversed is among the names `L` the parser holds locked at this point of the text -/
def SrcIn (L : List String) (s : St) : Prop := ∀ b ∈ s.iters, ∀ t, b.src = some t → t ∈ L

/-- with `SrcIn L`, code accepted under the lock `L` keeps the size of every traversed table (`lock_all`, Lock.lean): `WfSt.idx` survives -/
def Inv (L : List String) (s : St) : Prop := WfSt s ∧ SrcIn L s

theorem wfSt_init : WfSt {} where
  vars := by intro p h; cases h
  ret := by intro v h; cases h
  priv := by intro b h; cases h
  idx := by intro b h; cases h
  nodup := List.nodup_nil

theorem okVal_lookupVar {s : St} (h : WfSt s) (n : String) : okVal (lookupVar s.vars n) = true := by
  unfold lookupVar
  split
  · rename_i v hf
    exact h.vars _ (List.mem_of_find?_eq_some hf)
  · exact okVal_null _

theorem okVars_setVar {vars : List (String × Val)} (h : ∀ p ∈ vars, okVal p.2 = true) (n : String) {v : Val} (hv : okVal v = true) :
    ∀ p ∈ setVar vars n v, okVal p.2 = true := fun p hp => by
  rcases mem_setVar hp with rfl | hp
  · exact hv
  · exact h p hp

/-- `Inv` reads `vars`, `returned` and `iters` only: each of its fields is, by unfolding, the same statement of both states -/
theorem Inv.frame {L : List String} {s : St} (h : Inv L s) {out : List Bytes} {budget : Nat} {lastErr : LastErr} :
    Inv L { s with out := out, budget := budget, lastErr := lastErr } :=
  ⟨⟨h.1.vars, h.1.ret, h.1.priv, h.1.idx, h.1.nodup⟩, h.2⟩

theorem Inv.setVar {L : List String} {s : St} (h : Inv L s) (n : String) (v : Val) (hv : okVal v = true)
    (hsz : ∀ b ∈ s.iters, b.src = some n → tableSize v = tableSize (lookupVar s.vars n)) :
    Inv L { s with vars := setVar s.vars n v } := by
  obtain ⟨⟨h1, h2, h3, h4, h5⟩, h6⟩ := h
  refine ⟨⟨okVars_setVar h1 n hv, h2, h3, fun b hb => ?_, h5⟩, h6⟩
  · rw [iterTable_setVar]
    split
    · rename_i hsrc
      rw [hsz b hb hsrc, ← iterTable_src hsrc]; exact h4 b hb
    · exact h4 b hb

theorem Inv.setVar_unlocked {L : List String} {s : St} (h : Inv L s) (n : String) (v : Val) (hv : okVal v = true) (hn : n ∉ L) :
    Inv L { s with vars := BlocV.setVar s.vars n v } :=
  h.setVar n v hv (fun b hb hs => absurd (h.2 b hb n hs) hn)

theorem Inv.setIdx {L : List String} {s : St} (h : Inv L s) {b : Iter} {rest : List Iter} (hit : s.iters = b :: rest) {j : Nat}
    (hj : j < tableSize (s.iterTable b)) : Inv L { s with iters := { b with idx := j } :: rest } := by
  obtain ⟨⟨h1, h2, h3, h4, h5⟩, h6⟩ := h
  unfold SrcIn at h6
  rw [hit] at h5
  rw [hit, List.forall_mem_cons] at h3 h4 h6
  exact ⟨⟨h1, h2, List.forall_mem_cons.2 h3, List.forall_mem_cons.2 ⟨hj, h4.2⟩, h5⟩, List.forall_mem_cons.2 h6⟩

theorem eq_of_nodup_it {l : List Iter} (h : (l.map (·.it)).Nodup) {x y : Iter} (hx : x ∈ l) (hy : y ∈ l) (e : x.it = y.it) : x = y :=
  have hp := List.pairwise_map.mp h
  List.Pairwise.forall_of_forall_of_flip (R := fun a b => a.it = b.it → a = b) (fun _ _ _ => rfl)
    (hp.imp fun hne e => absurd e hne) (hp.imp fun hne e => absurd e.symm hne) hx hy e

theorem Inv.setPriv {L : List String} {s : St} (h : Inv L s) {n : String} {b : Iter} (hb : b ∈ s.iters) (hbn : (b.it == n) = true)
    (hsrc : b.src = none) {tbl' : Val} (hok : okVal tbl' = true) (hsz : tableSize tbl' = tableSize b.priv) :
    Inv L { s with iters := s.iters.map fun x => if x.it == n then { x with priv := tbl' } else x } := by
  obtain ⟨⟨h1, h2, h3, h4, h5⟩, h6⟩ := h
  refine ⟨⟨h1, h2, List.forall_mem_map.2 fun y hy => ?_, List.forall_mem_map.2 fun y hy => ?_, ?_⟩,
    List.forall_mem_map.2 fun y hy t ht => h6 y hy t ?_⟩
  · split
    · exact hok
    · exact h3 y hy
  · have hy4 := h4 y hy
    split
    · rename_i hyn
      obtain rfl : y = b := eq_of_nodup_it h5 hy hb (by rw [eq_of_beq hyn, eq_of_beq hbn])
      rw [iterTable_priv hsrc] at hy4
      rw [iterTable_priv (b := { y with priv := tbl' }) hsrc, hsz]; exact hy4
    · exact hy4
  · have : ∀ x : Iter, (if x.it == n then { x with priv := tbl' } else x).it = x.it := fun x => by split <;> rfl
    show ((s.iters.map _).map Iter.it).Nodup
    simp only [List.map_map, Function.comp_def, this]; exact h5
  · split at ht <;> exact ht

theorem Inv.push {L L' : List String} {s : St} (h : Inv L s) (hsub : ∀ t ∈ L, t ∈ L') (b : Iter)
    (hname : s.iters.any (·.it == b.it) = false) (hpriv : okVal b.priv = true)
    (hidx : b.idx < tableSize (s.iterTable b)) (hsrc : ∀ t, b.src = some t → t ∈ L') :
    Inv L' { s with iters := b :: s.iters } := by
  obtain ⟨⟨h1, h2, h3, h4, h5⟩, h6⟩ := h
  refine ⟨⟨h1, h2, List.forall_mem_cons.2 ⟨hpriv, h3⟩, List.forall_mem_cons.2 ⟨hidx, h4⟩, ?_⟩,
    List.forall_mem_cons.2 ⟨hsrc, fun x hx t ht => hsub t (h6 x hx t ht)⟩⟩
  show ((b :: s.iters).map (·.it)).Nodup
  simp only [List.map_cons, List.nodup_cons, List.mem_map, not_exists, not_and]
  exact ⟨fun x hx e => List.any_eq_false.mp hname x hx (beq_iff_eq.mpr e), h5⟩

theorem forallExit_inv {L L' : List String} (it : String) (hit : it ∉ L) (r : Res Flow × St) (h : Inv L' r.2) {b : Iter}
    {rest : List Iter} (heq : r.2.iters = b :: rest) (hsrc : ∀ x ∈ rest, ∀ t, x.src = some t → t ∈ L) :
    Inv L (forallExit it r).2 := by
  unfold forallExit
  rw [heq]
  obtain ⟨⟨h1, h2, h3, h4, h5⟩, -⟩ := h
  rw [heq] at h3 h4 h5
  refine ⟨⟨okVars_setVar h1 it (okVal_null _), h2, (List.forall_mem_cons.1 h3).2, fun x hx => ?_, (List.nodup_cons.mp h5).2⟩, hsrc⟩
  -- a variable still being traversed is locked, so it is not the iterator that is reset
  have e : St.iterTable { r.2 with vars := setVar r.2.vars it (.null b.bak), iters := rest } x = r.2.iterTable x :=
    (iterTable_setVar r.2 it _ x).trans (if_neg fun e => hit (hsrc x hx it e))
  rw [e]; exact h4 x (List.mem_cons_of_mem _ hx)

theorem forallElem_nhr {tbl : Val} {i : Nat} (ht : okVal tbl = true) (hi : i < tableSize tbl) : NHR bad okV (forallElem tbl i) := by
  unfold forallElem
  split
  · rename_i t d es
    split
    · exact NHR.ok (okVals_getElem? _ _ _ (okVals_of_tab ht) ‹_›)
    · exact absurd hi (Nat.not_lt.2 (List.getElem?_eq_none_iff.1 ‹_›))
  · exact NHR.err

theorem okVal_iterTable {s : St} (h : WfSt s) {b : Iter} (hb : b ∈ s.iters) : okVal (s.iterTable b) = true := by
  cases hs : b.src with
  | some t => rw [iterTable_src hs]; exact okVal_lookupVar h _
  | none => rw [iterTable_priv hs]; exact h.priv b hb

theorem readVar_nhr {L : List String} {s : St} (h : Inv L s) (n : String) : NHR bad okV (readVar s n) := by
  unfold readVar
  split
  · rename_i b hf
    have hb := List.mem_of_find?_eq_some hf
    exact forallElem_nhr (okVal_iterTable h.1 hb) (h.1.idx b hb)
  · exact NHR.ok (okVal_lookupVar h.1 n)

theorem forallStep_nhr {tbl : Val} {i : Nat} {v : Val} (ht : okVal tbl = true) (hv : okVal v = true) (hi : i < tableSize tbl) :
    NHR bad okV (forallStep tbl i v) := by
  unfold forallStep
  split
  · rename_i t d es
    split
    · split
      · exact NHR.err
      · exact NHR.ok (okVal_tab_of ht (okVals_listPut _ _ _ (okVals_of_tab ht) hv))
    · exact absurd hi (Nat.not_lt.2 (List.getElem?_eq_none_iff.1 ‹_›))
  · exact NHR.err

theorem errorTuple_nhr (r : LastErr) : NHR bad okV (errorTuple r) := by
  unfold errorTuple
  have : (errWhat r).isHazard = false := by
    unfold errWhat
    repeat' split
    all_goals rfl
  split
  · exact NHR.ok (by simp [okV, okVal_tup, errDecl])
  · exact NHR.err
  · rename_i e; rw [e] at this; cases this
  · exact NHR.unm

theorem printVal_nb (v : Val) : nb bad (printVal v) := by
  refine nb_of_nh ?_
  fun_cases printVal v
  all_goals rfl

theorem condTaken_nb (v : Val) (hv : okVal v = true) : nb bad (condTaken v) := by
  refine nb_of_nh ?_
  unfold condTaken
  split
  · rfl
  · rename_i hn
    exact asBool_no_hazard (tabOk_of_okVal hv) (nn_of_not hn)

theorem okVal_of_fresh {v : Val} (h : v.fresh = true) : okVal v = true := by
  cases v
  case tab | tup => cases h
  all_goals rfl

theorem evalUn_nhr (op : UnOp) (a : Val) (ha : okVal a = true) : NHR bad okV (evalUn op a) := by
  refine NHR.mk' (evalUn_no_hazard_all op a) (fun v hv => ?_)
  rcases evalUn_prov op a v hv with rfl | h
  · exact ha
  · exact okVal_of_fresh h

theorem evalBin_nhr (op : BinOp) (a b : Val) (same : Bool) (ha : okVal a = true) (hb : okVal b = true) : NHR bad okV (evalBin op a b same) := by
  refine NHR.mk' (evalBin_no_hazard_all op a b same (tabOk_of_okVal ha) (tabOk_of_okVal hb)) (fun v hv => ?_)
  rcases evalBin_prov op a b same v hv with rfl | rfl | rfl | h
  · exact ha
  · exact hb
  · exact okVal_null _
  · exact okVal_of_fresh h
end BlocV.NHI
