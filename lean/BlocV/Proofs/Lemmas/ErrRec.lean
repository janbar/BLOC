/-
  The context's error record (`St.lastErr`) is changed by nothing but `docatch`. Code without exception clauses —
  however it ends, whatever functions (with whatever clauses of their own) it calls — leaves the record as it found it
  (`err_all`: expressions cannot contain statements; a callee runs in its own context and `finishCall` keeps the caller's record);
  and ALL code that ends without error leaves it as it found it (`ok_all`). Both are instances of `interp_all`.
-/
import BlocV.Proofs.Lemmas.Interp

namespace BlocV.Lemmas

/-- the error record is what it was -/
def KeepErr (s s' : St) : Prop := s'.lastErr = s.lastErr

theorem keepErr_rel : StRel KeepErr := .of_eq (·.lastErr)

def AllErr (funcs : List Func) (fuel : Nat) : Prop :=
  (∀ depth e, Pres KeepErr (eval funcs depth fuel e)) ∧
  (∀ depth name args, Pres KeepErr (callFunc funcs depth fuel name args)) ∧
  (∀ depth args, Pres KeepErr (evalArgs funcs depth fuel args)) ∧
  (∀ depth body, noClauseL body = true → Pres KeepErr (execBlock funcs depth fuel body [])) ∧
  (∀ depth l, noClauseL l = true → Pres KeepErr (execList funcs depth fuel l)) ∧
  (∀ depth st, noClauseS st = true → Pres KeepErr (exec funcs depth fuel st)) ∧
  (∀ depth es, Pres KeepErr (evalPrint funcs depth fuel es)) ∧
  (∀ depth rules, noClauseRules rules = true → Pres KeepErr (execIf funcs depth fuel rules))

theorem AllErr.eval {funcs : List Func} {fuel : Nat} (h : AllErr funcs fuel) :
    ∀ depth e, Pres KeepErr (BlocV.eval funcs depth fuel e) := h.1
theorem AllErr.execList {funcs : List Func} {fuel : Nat} (h : AllErr funcs fuel) :
    ∀ depth l, noClauseL l = true → Pres KeepErr (BlocV.execList funcs depth fuel l) := h.2.2.2.2.1

theorem forallExit_keepErr (it : String) (r : Res Flow × St) : KeepErr r.2 (forallExit it r).2 := by
  unfold forallExit; split <;> rfl

/-- `KeepErr` does not hold across an exception clause, and a call keeps the caller's record whatever the callee does. -/
theorem keepErr_rules : IRules (fun {_} x => Pres KeepErr x) True :=
  Pres.irules keepErr_rel (fun _ _ _ _ h _ => h) (fun _ _ => rfl) (fun h => (h trivial).elim)
    (fun _ _ _ _ _ => by unfold KeepErr; rw [finishCall_snd])
    fun it => Pres.forallRun keepErr_rel (fun _ _ => rfl) it fun _ _ => rfl

/-- Expressions (calls included) never change the caller's record; statements
without exception clauses neither — whatever the outcome. -/
theorem err_all (funcs : List Func) : ∀ fuel, AllErr funcs fuel := by
  intro fuel
  obtain ⟨hE, hC, hA, hB, hL, hS, hP, hI⟩ := interp_all keepErr_rules funcs fuel
  exact ⟨hE, hC, hA, fun d b h => hB d b [] fun _ => ⟨rfl, h⟩, fun d l h => hL d l fun _ => h, fun d st h => hS d st fun _ => h,
    hP, fun d r h => hI d r fun _ => h⟩

/-- when the computation ends without error the error record is what it was -/
structure OkKeeps {α} (x : EvalM α) : Prop where
  h : ∀ s a s', x s = (.ok a, s') → s'.lastErr = s.lastErr

theorem OkKeeps.of_pres {α} {x : EvalM α} (h : Pres KeepErr x) : OkKeeps x := ⟨fun _ _ _ hx => h.run hx⟩

theorem OkKeeps.bindRet {α β} {x : EvalM α} {f : α → EvalM β} (hx : OkKeeps x)
    (hf : ∀ a, (∃ s, (x s).1 = .ok a) → OkKeeps (f a)) : OkKeeps (x >>= f) :=
  ⟨fun s b s'' h => by
    obtain ⟨a, s1, hx1, hf1⟩ := bind_app_eq_ok h
    exact ((hf a ⟨s, by rw [hx1]⟩).h s1 b s'' hf1).trans (hx.h s a s1 hx1)⟩

theorem OkKeeps.mrules : MRules (fun {_} x => OkKeeps x) :=
  ⟨fun a => .of_pres (Pres.pure keepErr_rel a), OkKeeps.bindRet, fun r => .of_pres (Pres.lift keepErr_rel r),
    .of_pres (Pres.getSt keepErr_rel), fun c a => .of_pres (Pres.failE keepErr_rel c a)⟩

theorem OkKeeps.forallRun {body : EvalM Flow} (it : String) (desc : Bool) (k : Nat) (b : Iter) (hb : OkKeeps body) :
    OkKeeps (fun s1 => forallExit it (forallLoop body it desc k { s1 with iters := b :: s1.iters })) :=
  ⟨fun s1 a s' h => by
    have h1 := (forallExit_fst it _).symm.trans (congrArg Prod.fst h)
    rw [← show _ = s' from congrArg Prod.snd h]
    refine (forallExit_keepErr it _).trans (forallLoop_run (J := fun s => s.lastErr = s1.lastErr)
      (G := fun r => ∀ a, r.1 = .ok a → r.2.lastErr = s1.lastErr) (fun s hs a e => (hb.h s a _ (Prod.ext e rfl)).trans hs)
      (fun fl _ h => h fl rfl) (fun _ _ h _ _ _ => h) (fun _ _ _ _ h _ _ => h) k _ rfl a h1)⟩

/-- A block: the body ended without error, or a clause ended without error — then the record is set back to what it was
on ENTRY of the block (`handlerExit s.lastErr`, repo 8256736), whatever body and clause did to it in between. -/
theorem okKeeps_rules : IRules (fun {_} x => OkKeeps x) False where
  toMRules := OkKeeps.mrules
  quiet f h := .of_pres (Pres.modifySt fun s => (h s).2.2.2.1)
  setVar _ _ := .of_pres (Pres.modifySt fun _ => rfl)
  push _ := .of_pres (Pres.modifySt fun _ => rfl)
  tick hx := ⟨fun s0 a sf h => by
    have h : (if s0.budget == 0 then oof s0 else _) = _ := h
    split at h
    · cases h
    · exact hx.h (tick s0) a sf h⟩
  call _ _ _ _ := ⟨fun s a s' h => by rw [← show _ = s' from congrArg Prod.snd h, finishCall_snd]⟩
  forallRun := OkKeeps.forallRun
  block funcs depth fuel body catches hb _ _ := ⟨fun s a sf => by
    refine execBlock_cases (P := fun r => r = (.ok a, sf) → sf.lastErr = s.lastErr) (hb.h s a sf)
      fun _ _ _ _ _ _ _ _ h => ?_
    unfold handlerExit at h
    split at h
    · cases h
      rfl
    · rename_i hno
      exact (hno a sf h).elim⟩

def AllOk (funcs : List Func) (fuel : Nat) : Prop :=
  (∀ depth body catches, OkKeeps (execBlock funcs depth fuel body catches)) ∧
  (∀ depth l, OkKeeps (execList funcs depth fuel l)) ∧
  (∀ depth st, OkKeeps (exec funcs depth fuel st)) ∧
  (∀ depth rules, OkKeeps (execIf funcs depth fuel rules))

theorem AllOk.execList {funcs : List Func} {fuel : Nat} (h : AllOk funcs fuel) :
    ∀ depth l, OkKeeps (BlocV.execList funcs depth fuel l) := h.2.1

/-- Code that ends without error leaves the record as it found it, clauses or not: a clause that ends without error sets the record
back to what it was on entry of its block (`handlerExit`, repo 8256736), whatever the body or a failed inner clause left there. -/
theorem ok_all (funcs : List Func) : ∀ fuel, AllOk funcs fuel := by
  intro fuel
  obtain ⟨-, -, -, hB, hL, hS, -, hI⟩ := interp_all okKeeps_rules funcs fuel
  exact ⟨fun d b c => hB d b c False.elim, fun d l => hL d l False.elim, fun d st => hS d st False.elim,
    fun d r => hI d r False.elim⟩
end BlocV.Lemmas
