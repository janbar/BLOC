/-
  The model's `Int64`/`UInt64` arithmetic (Model/Num.lean) on mathematical integers: patterns, shifts, the
  square-and-multiply loop; then integer and decimal outcomes as value outcomes (`intRes`, `numRes`).
-/
import BlocV.Model.Ops
import BlocV.Spec.Arith

namespace BlocV.Lemmas

/-- The pattern of `x.toInt` is `(BitVec.ofInt 64 x.toInt).toNat`, and that bit vector is `x` itself. -/
theorem pattern_toInt (x : Int64) : Spec.pattern x.toInt = x.toUInt64.toNat :=
  (BitVec.toNat_ofInt (n := 64) x.toInt).symm.trans (congrArg BitVec.toNat (BitVec.ofInt_toInt (x := x.toBitVec)))

theorem toNat_of_toInt (x : Int64) : (x.toUInt64.toNat : Int) = x.toInt % 2 ^ 64 := by
  rw [← pattern_toInt]; exact Int.toNat_of_nonneg (Int.emod_nonneg _ (by decide))

theorem toInt_ne_zero {b : Int64} (hb : b ≠ 0) : b.toInt ≠ 0 :=
  fun h => hb (Int64.toInt_inj.mp (h.trans rfl))

theorem toNat_and_mask (x m : UInt64) (k : Nat) (hm : m.toNat = 2 ^ k - 1) : (x &&& m).toNat = x.toNat % 2 ^ k := by
  rw [UInt64.toNat_and, hm, Nat.and_two_pow_sub_one_eq_mod]

theorem toInt_toInt64 (u : UInt64) : u.toInt64.toInt = Spec.wrap u.toNat :=
  BitVec.toInt_eq_toNat_bmod u.toBitVec

theorem toNat_toUInt64_of_nonneg (n : Int64) (h : 0 ≤ n.toInt) : n.toUInt64.toNat = n.toInt.toNat :=
  Int64.toNat_toUInt64_of_le (Int64.le_iff_toInt_le.mpr h)

/-- The C range test `c < lo || c > hi` on `int64_t` is the range test on the values. -/
theorem ite_outside {α} (c lo hi : Int64) (a b : α) :
    (if c < lo || c > hi then a else b) = if lo.toInt ≤ c.toInt ∧ c.toInt ≤ hi.toInt then b else a := by
  simp only [Bool.or_eq_true, decide_eq_true_eq, GT.gt, Int64.lt_iff_toInt_lt]
  split <;> split <;> first | rfl | omega

theorem toInt_zero_sub (n : Int64) (h : n.toInt ≠ -2 ^ 63) : (0 - n).toInt = -n.toInt := by
  rw [Int64.toInt_sub]; simp
  have := Int64.le_toInt n
  have := Int64.toInt_lt n
  rw [Int.bmod_eq_of_le] <;> omega

theorem toInt_eq_wrap (x : Int64) : x.toInt = Spec.wrap x.toUInt64.toNat := toInt_toInt64 x.toUInt64

/-- `uint64_t(a) << m` for a shift count `0 ≤ m < 64`, on the pattern. -/
theorem shl_toInt (a m : Int64) (h0 : 0 ≤ m.toInt) (h : m.toInt < 64) :
    (a.toUInt64 <<< m.toUInt64).toInt64.toInt = Spec.wrap ((Spec.pattern a.toInt * 2 ^ m.toInt.toNat % 2 ^ 64 : Nat)) := by
  rw [toInt_toInt64, UInt64.toNat_shiftLeft, pattern_toInt, toNat_toUInt64_of_nonneg m h0,
    show m.toInt.toNat % 64 = m.toInt.toNat by omega, Nat.shiftLeft_eq]

/-- `uint64_t(a) >> m` for a shift count `0 ≤ m < 64`, on the pattern. -/
theorem shr_toInt (a m : Int64) (h0 : 0 ≤ m.toInt) (h : m.toInt < 64) :
    (a.toUInt64 >>> m.toUInt64).toInt64.toInt = Spec.wrap ((Spec.pattern a.toInt / 2 ^ m.toInt.toNat : Nat)) := by
  rw [toInt_toInt64, UInt64.toNat_shiftRight, pattern_toInt, toNat_toUInt64_of_nonneg m h0,
    show m.toInt.toNat % 64 = m.toInt.toNat by omega, Nat.shiftRight_eq_div_pow]

theorem powLoop_even_step (r b q M : Nat) : (r * ((b * b) % M) ^ q) % M = (r * b ^ (2 * q)) % M := by
  rw [Nat.mul_mod, Nat.pow_mod, Nat.mod_mod, ← Nat.pow_mod, ← Nat.mul_mod, Nat.pow_mul, Nat.pow_two]

theorem powLoop_odd_step (r b q M : Nat) : (((r * b) % M) * ((b * b) % M) ^ q) % M = (r * b ^ (2 * q + 1)) % M := by
  rw [powLoop_even_step, Nat.mod_mul_mod, Nat.pow_succ, Nat.mul_assoc, Nat.mul_comm b]

theorem and_one_beq (n : UInt64) : (n &&& 1 == 1) = (n.toNat % 2 == 1) := by
  rw [Bool.eq_iff_iff, beq_iff_eq, beq_iff_eq, ← UInt64.toNat_inj, toNat_and_mask n 1 1 rfl]
  rfl

/-- The square-and-multiply loop computes `r · b^n mod 2^64` whenever the fuel covers the bits of `n`. -/
theorem powLoop_spec : ∀ (fuel : Nat) (r b n : UInt64), n.toNat < 2 ^ fuel →
    (Num.powLoop fuel r b n).toNat = (r.toNat * b.toNat ^ n.toNat) % 2 ^ 64 := by
  -- with exponent 0 the loop returns `r`
  have base (r b : UInt64) : r.toNat = r.toNat * b.toNat ^ 0 % 2 ^ 64 := by
    rw [Nat.pow_zero, Nat.mul_one, Nat.mod_eq_of_lt r.toNat_lt]
  intro fuel
  induction fuel with
  | zero => intro r b n h; rw [show n.toNat = 0 by omega]; exact base r b
  | succ f ih =>
    intro r b n h
    unfold Num.powLoop
    split
    · next h0 => rw [show n = 0 by simpa using h0]; exact base r b
    · have hn : (n >>> 1).toNat = n.toNat / 2 := by
        rw [UInt64.toNat_shiftRight]; exact Nat.shiftRight_eq_div_pow _ 1
      rw [ih _ _ _ (by rw [hn]; omega), hn, UInt64.toNat_mul, and_one_beq]
      by_cases hodd : n.toNat % 2 = 1
      · rw [if_pos (by simpa using hodd), UInt64.toNat_mul, powLoop_odd_step, show 2 * (n.toNat / 2) + 1 = n.toNat by omega]
      · rw [if_neg (by simpa using hodd), powLoop_even_step, show 2 * (n.toNat / 2) = n.toNat by omega]

theorem ipow_3_39 : Num.ipow 3 39 = .ok 4052555153018976267 := by decide

theorem pow_emod (a M : Int) (k : Nat) : (a % M) ^ k % M = a ^ k % M := by
  induction k with
  | zero => simp
  | succ k ih =>
    rw [Int.pow_succ, Int.pow_succ, Int.mul_emod, ih, Int.emod_emod_of_dvd _ (Int.dvd_refl M), ← Int.mul_emod]

/-- An integer outcome as a value outcome. -/
def intRes : Res Int64 → Res Val
  | .ok r => .ok (.int r)
  | .err c a => .err c a
  | .haz h => .haz h
  | .unmodelled => .unmodelled

theorem bind_intRes (r : Res Int64) : (r >>= fun x => pure (Val.int x)) = intRes r := by cases r <;> rfl

/-- A decimal outcome as a value outcome. -/
def numRes : Res Num.F64 → Res Val
  | .ok r => .ok (.num r)
  | .err c a => .err c a
  | .haz h => .haz h
  | .unmodelled => .unmodelled

theorem bind_numRes (r : Res Num.F64) : (r >>= fun x => pure (Val.num x)) = numRes r := by cases r <;> rfl

end BlocV.Lemmas
