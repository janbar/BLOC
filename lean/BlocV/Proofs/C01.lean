/-
  C01 — any source text is either executed or rejected with an error; never a crash.

  No C-level hazard is reached by the operators of Model/Ops.lean (every operand value with the representation invariant
  `Val.tabOk`; `evalBin_hazard_witness` shows the invariant is needed), by expression trees, by the built-ins, by the whole
  interpreter (`exec_no_hazard…`, `run_no_hazard…`: hypotheses `WfSt`, `lockL` / `lockProgram`, `litL` / `litProgram`, `FuncsOk`, all
  explained below) and by whole source texts (`text_no_hazard_partial`: no hypothesis; `text_no_hazard`: the elaborated program calls
  neither `substr` nor `subraw`). Lemmas: Proofs/Lemmas/OpsCases.lean, BuiltinWalk.lean, BuiltinCases.lean, NoHazard*.lean.
-/
import BlocV.Proofs.Lemmas.NoHazardProgram
import BlocV.Proofs.Lemmas.BuiltinCases

namespace BlocV.C01

/-- `+x` never reaches a hazard: it returns the operand or raises INV_EXPRESSION. -/
theorem pos_no_hazard (a : Val) : (evalUn .pos a).isHazard = false := evalUn_no_hazard_all .pos a

/-- Unary operators (`-x`, `+x`, `~x`, `not x`; op_neg/op_pos/op_not/op_bnot.cpp): for EVERY operand value the
outcome is a value, INV_EXPRESSION, or an unmodelled complex cell — never a C-level hazard. No hypothesis at all:
the unary operators test `isNull()` before touching the payload. -/
theorem evalUn_no_hazard (op : UnOp) (a : Val) : (evalUn op a).isHazard = false := evalUn_no_hazard_all op a

example : evalUn .neg (.int (-9223372036854775808)) = .ok (.int (-9223372036854775808)) := by rfl
example : evalUn .not (.null Ty.none) = .ok (.null Ty.int) := rfl
example : evalUn .bnot (.tab { major := .int, level := 1 } [] [.int 1]) = .err Gen.EXC_RT_INV_EXPRESSION := rfl

/-- Binary operators (all 20: `+ - * / ** % & | ^ << >> == != < <= > >= and or xor`; op_*.cpp after the `fix:`
commits for overflow, INT64_MIN / −1, shift range and integer power): for EVERY pair of well-formed operand values
and either value of the aliasing flag, the outcome is a value, a BLOC runtime error or an unmodelled complex cell —
never a C-level hazard (no null-pointer dereference through a typed accessor, no signed overflow, no SIGFPE, no
undefined shift). -/
theorem evalBin_no_hazard (op : BinOp) (a b : Val) (same : Bool) (ha : a.tabOk = true) (hb : b.tabOk = true) :
    (evalBin op a b same).isHazard = false := evalBin_no_hazard_all op a b same ha hb

example : evalBin .add (.int 9223372036854775807) (.int 1) = .ok (.int (-9223372036854775808)) := by rfl
example : evalBin .div (.int (-9223372036854775808)) (.int (-1)) = .ok (.int (-9223372036854775808)) := by rfl
example : evalBin .pop (.int 1) (.int 64) = .ok (.int 0) := by rfl
example : evalBin .mod (.int 1) (.int 0) = .err Gen.EXC_RT_DIVIDE_BY_ZERO := by rfl
example : evalBin .lt (.null Ty.int) (.str [97]) = .ok (.null Ty.bool) := rfl
example : (Val.null Ty.int).tabOk = true ∧ (Val.tab { major := .int, level := 1 } [] [.int 1]).tabOk = true := ⟨rfl, rfl⟩

/-- The hypothesis of `evalBin_no_hazard` cannot be dropped: on an ill-formed "table of level 0" — a value no
`bloc::Value` can be — the model's typed accessor falls through to its null-pointer branch. (A fact about the
model's value type, not about the C++: see notes/NOTES-p0102.md.) -/
theorem evalBin_hazard_witness :
    (Val.tab Ty.int [] []).tabOk = false ∧ evalBin .lt (.tab Ty.int [] []) (.int 0) = .haz .nullDeref ∧
    evalBin .add (.tab Ty.int [] []) (.int 0) = .haz .nullDeref := ⟨rfl, rfl, rfl⟩

/-- `== != and or xor` do not use a typed accessor: no hazard for ANY operands, ill-formed ones included. -/
theorem evalBin_no_hazard_unconditional (op : BinOp) (hop : op = .eq ∨ op = .ne ∨ op = .band ∨ op = .bior ∨ op = .bxor)
    (a b : Val) (same : Bool) : (evalBin op a b same).isHazard = false := by
  rcases hop with rfl | rfl | rfl | rfl | rfl
  · exact (opEq_total same a b).1
  · exact (opNe_total same a b).1
  · exact opBand_no_hazard a (fun _ => .ok b) rfl
  · exact opBior_no_hazard a (fun _ => .ok b) rfl
  · exact opBxor_no_hazard a b

example : evalBin .eq (.tab Ty.int [] []) (.int 0) = .ok (.bool false) := rfl

/-- Laziness does not matter: `and` / `or` with an arbitrary computation as second operand reach a hazard only if
that computation does. -/
theorem logic_lazy_no_hazard (a : Val) (t : Unit → Res Val) (h : (t ()).isHazard = false) :
    (opBand a t).isHazard = false ∧ (opBior a t).isHazard = false :=
  ⟨opBand_no_hazard a t h, opBior_no_hazard a t h⟩

/-- Results stay well-formed: whatever a binary / unary operator returns is again a value satisfying the
representation invariant (it is one of the operands, a null of the second operand's type, or a fresh scalar). -/
theorem evalBin_ok_tabOk (op : BinOp) (a b v : Val) (same : Bool) (ha : a.tabOk = true) (hb : b.tabOk = true)
    (h : evalBin op a b same = .ok v) : v.tabOk = true :=
  (evalBin_prov op a b same v h).tabOk ha hb

theorem evalUn_ok_tabOk (op : UnOp) (a v : Val) (ha : a.tabOk = true) (h : evalUn op a = .ok v) : v.tabOk = true := by
  rcases evalUn_prov op a v h with rfl | h
  · exact ha
  · exact Val.tabOk_of_wf (fresh_wf h)

example : evalBin .add (.null Ty.none) (.str [97]) = .ok (.str [97]) := rfl

/-- An expression built from constants, variables and the unary / binary operators
(`LExpr`, evaluated by the value-level evaluator `LExpr.pure` of Model/Store.lean, `and`/`or` short-circuiting as in
op_band.cpp / op_bior.cpp), over variable and constant cells holding well-formed values, never reaches a hazard —
and its value, when there is one, is well-formed again. For ALL expression trees and ALL such environments. -/
theorem pure_no_hazard (vars csts : List Val) (hv : ∀ v ∈ vars, v.tabOk = true) (hc : ∀ v ∈ csts, v.tabOk = true)
    (e : LExpr) :
    (LExpr.pure vars csts e).isHazard = false ∧ ∀ v, LExpr.pure vars csts e = .ok v → v.tabOk = true := by
  induction e with
  | cst i => exact ⟨rfl, fun v h => Res.ok.inj h ▸ getD_tabOk csts i hc⟩
  | var i => exact ⟨rfl, fun v h => Res.ok.inj h ▸ getD_tabOk vars i hv⟩
  | un op e ih =>
    simp only [LExpr.pure]
    exact tabOk_pass ih fun v1 h1 => ⟨evalUn_no_hazard op v1, fun v h => evalUn_ok_tabOk op v1 v h1 h⟩
  | bin op a b iha ihb =>
    simp only [LExpr.pure]
    refine tabOk_pass iha fun v1 h1 => ?_
    split
    · exact ⟨evalBin_no_hazard op v1 _ false h1 rfl, fun v h => evalBin_ok_tabOk op v1 _ v false h1 rfl h⟩
    · exact tabOk_pass ihb fun v2 h2 => ⟨evalBin_no_hazard op v1 v2 false h1 h2, fun v h => evalBin_ok_tabOk op v1 v2 v false h1 h2 h⟩

example : LExpr.pure [.int 5] [.null Ty.none, .int 1] (.bin .add (.cst 1) (.un .neg (.var 0))) = .ok (.int (-4)) := by rfl

/-! ### built-in functions (Model/Builtins.lean, run in the `Res` monad) -/

/-- Built-ins never reach a hazard — every name `evalBuiltin` dispatches: `substr subraw lsubstr rsubstr strpos replace trim ltrim
rtrim upper lower strlen tokenize hex hash chr raw int b64enc b64dec str abs pow` and the 30 of `evalBuiltinX`. For ANY number of arguments, each an
arbitrary computation that does not itself reach a hazard and whose value is well-formed (`ArgsOk`), the outcome is a
value, a BLOC runtime error or an unmodelled cell, never a hazard: no typed accessor is applied to a null
(fix "null_number_builtins"), every decimal→integer conversion is range-checked (`castToInt`; `int(decimal)`:
`intOfDecimal_no_hazard`, fix "int_of_decimal_range"), and the signed index arithmetic of `substr`/`subraw` (`a + c`,
`c - a`) and of `hex` (`n += 1`) cannot overflow (fixes 3378b71: a position still negative after adding the length
selects nothing; 126118b: pad count clamped to 16), `abs` negates in `uint64_t` (22cd3e7) and `pow(integer, integer)`
is the exact `Num.ipow` of the `**` operator (512d78c). The only additional hypothesis, needed by `substr`/`subraw` alone,
is that the length of a string / byte array fits the `int64_t` it is stored into (`ArgsLen`), as every `size()` does. -/
theorem evalBuiltin_no_hazard (fmt : Num.F64 → Bytes) (name : String) (args : List (Res Val)) (r : Res Val)
    (h : ArgsOk args) (hl : name = "substr" ∨ name = "subraw" → ArgsLen args)
    (hr : evalBuiltin (m := Res) fmt name args = some r) : r.isHazard = false :=
  evalBuiltin_no_hazard_of fmt name args r h hl hr

example : evalBuiltin (m := Res) (fun _ => []) "chr" [.ok (.num 0x7ff8000000000000)] = some (.err Gen.EXC_RT_OUT_OF_RANGE) := rfl
example : ArgsOk [.ok (.null Ty.num), .err 5 []] :=
  List.forall_mem_cons.2 ⟨⟨rfl, fun _ h => Res.ok.inj h ▸ rfl⟩, List.forall_mem_singleton.2 ⟨rfl, nofun⟩⟩
example : ArgsOk [.ok (.str [97, 98]), .ok (.int (-9223372036854775808))] ∧
    ArgsLen [.ok (.str [97, 98]), .ok (.int (-9223372036854775808))] :=
  have hwf : ∀ v ∈ [Val.str [97, 98], .int (-9223372036854775808)], Lemmas.wfVal v = true := by decide
  ⟨Lemmas.argsOk_of_wf hwf, Lemmas.argsLen_of_wf hwf⟩

/-- The witnesses of the repaired findings C01.bi.substr.overflow, C01.bi.subraw.overflow, C01.bi.hex.overflow,
C01.bi.abs.overflow and C01.bi.pow.floatcast return values — in the model exactly as in the repaired build: a begin
position of INT64_MIN selects nothing, a pad count of INT64_MAX pads to 16 digits, abs(INT64_MIN) wraps to INT64_MIN,
pow(INT64_MAX, 5) is (2^63 − 1)^5 mod 2^64. -/
theorem evalBuiltin_repaired_witnesses :
    biSubstr (m := Res) [.ok (.str [97, 98]), .ok (.int (-9223372036854775808))] = .ok (.str []) ∧
    biSubraw (m := Res) [.ok (.raw [97, 98]), .ok (.int (-9223372036854775808))] = .ok (.raw []) ∧
    biHex (m := Res) [.ok (.int 0), .ok (.int 9223372036854775807)] = .ok (.str (List.replicate 16 48)) ∧
    biAbs (m := Res) [.ok (.int (-9223372036854775808))] = .ok (.int (-9223372036854775808)) ∧
    biPow (m := Res) [.ok (.int 9223372036854775807), .ok (.int 5)] = .ok (.int 9223372036854775807) :=
  ⟨rfl, rfl, rfl, rfl, rfl⟩

example : (biSubstr (m := Res) [.ok (.str [97, 98]), .ok (.int (-9223372036854775808))]).isHazard = false := by
  rw [evalBuiltin_repaired_witnesses.1]; rfl

/-- `int(decimal)` (builtin_int.cpp after the repair of the range test): the hazard branch of the model — the C cast
of a non-finite double — is unreachable, for every bit pattern. -/
theorem int_of_decimal_no_hazard (b : Num.F64) : (Num.intOfDecimal b).isHazard = false := intOfDecimal_no_hazard b

example : Num.intOfDecimal 0x7ff0000000000000 = .err Gen.EXC_RT_OUT_OF_RANGE := by decide
example : Num.intOfDecimal 0xc3e0000000000000 = .ok (-9223372036854775808) := by decide

/-! ### whole programs (Model/Interp.lean): statements, loops, blocks, calls, tables, members, `forall`, the error record

The theorems below are about the value-level interpreter as a whole — `execList` = `Executable::run`, and every function it is
mutually recursive with — not about single nodes. Helper lemmas: Proofs/Lemmas/NoHazardInterp.lean (the Hoare-style predicate
`NH`), NoHazardCalls.lean (every built-in run IN the interpreter's monad), NoHazardMembers.lean, NoHazardState.lean (the invariant
`WfSt`), NoHazardExec.lean (the loop runners, the mutual induction `nh_all`), NoHazardProgram.lean.

Hypotheses, all of them facts the C++ guarantees by construction and that the model's types do not enforce:
  * `WfSt s` — every value held by a variable / saved by `return` / kept as the private copy of a traversed temporary is
    deep-well-formed (`okVal`: every table anywhere inside carries a table type, every tuple has as many items as its declaration),
    every running `forall` points inside its table, iterator names on the control stack are distinct. True of the initial state
    (`wf_init`) and PRESERVED (second conjunct of the theorems).
  * `lockL L prog` — the parser accepted the text while the names `L` were locked (`Parser::parse` refuses with CONST_VIOLATION
    otherwise; `lockProgram` for a whole program), `SrcIn L s` — the table variables being traversed are among them.
  * `litL prog` / `litProgram prog` — the literals of the program are well-formed values; `FuncsOk funcs` — the same two facts for
    every function of the table (derived for `collectFuncs prog` by `NHI.funcsOk_collect`).
What is NOT excluded: no construct of `Expr` / `Stmt` is — operators, all 53 built-in names of `evalBuiltin` plus `tab` / `tup`,
members on tables / strings / bytes / tuples / nulls, `@N`, `error`, user functions with the recursion limit, `begin … when`,
`raise`, `for` (the re-entry `cur + step` is computed without wrap-around), `while`, `forall` over a variable and over a temporary
with write-through, `print`, `if`, `return` / `break` / `continue`; every fuel, every depth, every budget. -/

/-- the hazards that count in the `_partial` theorems: every one except `signedOverflow` -/
def notOverflow (h : Hazard) : Bool := h != .signedOverflow

/-- the initial state of a run is well-formed -/
theorem wf_init : NHI.WfSt {} := NHI.wfSt_init

/-- Built-ins inside the interpreter: EVERY name `evalBuiltin` dispatches (the 23 listed at `evalBuiltin_no_hazard` and the 30 of
`evalBuiltinX`: num isnum bool isnull typeof sign floor ceil sqrt exp log log10 sin cos tan asin acos atan sinh cosh tanh round max min
mod atan2 clamp pi ee phi), run in the interpreter's monad with ARBITRARY computations as argument thunks (each keeping an
invariant `I` of the state, reaching no hazard that counts and returning deep-well-formed values): no hazard that counts, `I` kept,
a deep-well-formed result. For `substr` / `subraw` the hazards that count must leave out `signedOverflow`. -/
theorem builtins_in_interp_no_hazard (bad : Hazard → Bool) (I : St → Prop) (fmt : Num.F64 → Bytes) (name : String)
    (hb : bad .signedOverflow = false ∨ (name ≠ "substr" ∧ name ≠ "subraw"))
    (args : List (EvalM Val)) (h : NHI.NArgs bad I args) (r : EvalM Val)
    (hr : evalBuiltin (m := EvalM) fmt name args = some r) : NHI.NH bad I NHI.okV r :=
  NHI.evalBuiltin_nh hb h hr

/-- Never a crash, for whole statement lists. For EVERY function table, lock set, depth, fuel,
statement list and state satisfying the hypotheses above: the run does not end in a hazard other than `signedOverflow`, and the final
state is well-formed again. By mutual induction over eval / callFunc / evalArgs / execBlock / execList / exec /
evalPrint / execIf and the three loop runners (`NHI.nh_all`).

`_partial` because of ONE residual hazard, kept in the conclusion rather than excluded by a syntactic side condition: the signed index
arithmetic of `substr` / `subraw` (`a + c`, `c - a` on `int64_t c = size()`), which the model reaches on a string / byte array of
2^63 bytes or more. Under these hypotheses the conclusion `(execList funcs depth fuel prog s).1.isHazard = false` (which
`exec_no_hazard` below proves for programs without `substr` / `subraw`) is FALSE of the model: `Val.str` is an unbounded list, 63 doublings `s = s + s` build such a string within any budget ≥ 64, and then
`substr(s, -1)` computes `sadd (-1) (Int64.ofNat (2^63))` = `.haz .signedOverflow`. It is not a defect of the library (no process
holds 2^63 bytes: the doublings end in `std::bad_alloc` / `length_error` long before), and the witness cannot be evaluated
(`decide +kernel` on a list of 2^63 elements) nor run. The invariant that would exclude it ("every string is shorter than 2^63") is
not preserved by the model's `+`, `replace`, `concat`, `b64enc`, which is why it is not part of `WfSt`. -/
theorem exec_no_hazard_partial (funcs : List Func) (hF : NHI.FuncsOk true funcs) (L : List String) (depth fuel : Nat) (prog : List Stmt) (s : St)
    (hl : lockL L prog = true) (hv : NHI.litL true prog = true) (hs : NHI.WfSt s) (hsrc : NHI.SrcIn L s) :
    (∀ h, (execList funcs depth fuel prog s).1 = .haz h → h = .signedOverflow) ∧
    NHI.WfSt (execList funcs depth fuel prog s).2 := by
  have h := (NHI.nh_all (bad := notOverflow) (sub := true) (.inl rfl) funcs hF fuel).execList L depth prog hl hv s ⟨hs, hsrc⟩
  exact ⟨fun x e => bne_eq_false_iff_eq.mp (h.1 x e), h.2.1.1⟩

/-- the same for one expression: its value, when there is one, is deep-well-formed -/
theorem eval_no_hazard_partial (funcs : List Func) (hF : NHI.FuncsOk true funcs) (L : List String) (depth fuel : Nat) (e : Expr) (s : St)
    (hl : lockE L e = true) (hv : NHI.litE true e = true) (hs : NHI.WfSt s) (hsrc : NHI.SrcIn L s) :
    (∀ h, (eval funcs depth fuel e s).1 = .haz h → h = .signedOverflow) ∧
    NHI.WfSt (eval funcs depth fuel e s).2 ∧ ∀ v, (eval funcs depth fuel e s).1 = .ok v → NHI.okVal v = true := by
  have h := (NHI.nh_all (bad := notOverflow) (sub := true) (.inl rfl) funcs hF fuel).eval L depth e hl hv s ⟨hs, hsrc⟩
  exact ⟨fun x e => bne_eq_false_iff_eq.mp (h.1 x e), h.2.1.1, h.2.2⟩

-- the hypotheses are satisfiable by a program that fills a table, traverses it writing through the iterator, calls members:
example : lockL [] [.letS "t" (.call "tab" [.lit (.int 2), .lit (.int 7)]),
    .forallS "e" (.var "t") .auto [.letS "e" (.bin .add (.var "e") (.lit (.int 1)))],
    .doS (.member .concat (.var "t") [.lit (.int 9)])] = true := by decide
example : NHI.litL true [.letS "t" (.call "tab" [.lit (.int 2), .lit (.int 7)]),
    .forallS "e" (.var "t") .auto [.letS "e" (.bin .add (.var "e") (.lit (.int 1)))],
    .doS (.member .concat (.var "t") [.lit (.int 9)])] = true := by
  simp [NHI.litL, NHI.litS, NHI.litE, NHI.litEs]
example : NHI.FuncsOk true [] ∧ NHI.SrcIn [] {} := ⟨fun _ h => (by cases h), fun _ h => (by cases h)⟩
/-- The lock hypothesis cannot be dropped: a body that deletes from the table it traverses — which `Parser::parse` refuses with
CONST_VIOLATION (`lockProgram = false`) — leaves the iterator pointing past the end, and reading it is the model's hazard `oob`.
Literals are fine and the state is the initial one, so `lockProgram` is the only hypothesis of `run_no_hazard_partial` that fails.
(A test on one program, by kernel evaluation.) -/
theorem lock_hypothesis_needed :
    let prog : List Stmt := [.letS "t" (.call "tab" [.lit (.int 2), .lit (.int 7)]),
      .forallS "e" (.var "t") .auto [.doS (.member .delete (.var "t") [.lit (.int 0)]),
        .doS (.member .delete (.var "t") [.lit (.int 0)]), .doS (.var "e")]]
    lockProgram prog = false ∧ NHI.litProgram true prog = true ∧
    (match (runProgram 20 prog).outcome with | .haz .oob => true | _ => false) = true := by decide +kernel

/-- The same for `runProgram` = `Parser::parse` + `Executable::run` of a WHOLE program: function
table collected from the program, symbols registered as typed nulls, top-level statement list run at depth 0. The only hypotheses
left are that the parser accepted the program under the lock discipline (`lockProgram`), that its literals are well-formed
(`litProgram`) and that the state the run starts from is well-formed with no `forall` running. -/
theorem run_no_hazard_partial (fuel : Nat) (prog : List Stmt) (init : St)
    (hl : lockProgram prog = true) (hv : NHI.litProgram true prog = true) (hs : NHI.WfSt init) (hi : init.iters = []) :
    (∀ h, (runProgram fuel prog init).outcome = .haz h → h = .signedOverflow) ∧ NHI.WfSt (runProgram fuel prog init).st := by
  have h := NHI.run_nb (bad := notOverflow) (sub := true) (.inl rfl) fuel prog init hl hv hs hi
  exact ⟨fun x e => bne_eq_false_iff_eq.mp (h.1 x e), h.2⟩

example : lockProgram [.funcS "f" [("x", Ty.int)] Ty.int [.returnS (some (.bin .mul (.var "x") (.lit (.int 2))))] [],
    .printS [.fcall "f" [.lit (.int 21)]]] = true ∧
    NHI.litProgram true [.funcS "f" [("x", Ty.int)] Ty.int [.returnS (some (.bin .mul (.var "x") (.lit (.int 2))))] [],
    .printS [.fcall "f" [.lit (.int 21)]]] = true := ⟨by decide, by simp [NHI.litProgram, NHI.litL, NHI.litS, NHI.litE, NHI.litEs, NHI.litCatches]⟩

/-! ### full strength for programs that never call `substr` / `subraw`; whole source texts

`NHI.litL false prog` (`NHI.litProgram false prog`) is `NHI.litL true prog` plus: no node `call "substr" …` / `call "subraw" …` anywhere
in the program, function bodies included. For such programs the `signedOverflow` escape is gone. -/

/-- The full statement, for every statement list that never calls `substr` / `subraw`: no hazard at all. -/
theorem exec_no_hazard (funcs : List Func) (hF : NHI.FuncsOk false funcs) (L : List String) (depth fuel : Nat) (prog : List Stmt) (s : St)
    (hl : lockL L prog = true) (hv : NHI.litL false prog = true) (hs : NHI.WfSt s) (hsrc : NHI.SrcIn L s) :
    (execList funcs depth fuel prog s).1.isHazard = false ∧ NHI.WfSt (execList funcs depth fuel prog s).2 := by
  have h := (NHI.nh_all (bad := fun _ => true) (sub := false) (.inr rfl) funcs hF fuel).execList L depth prog hl hv s ⟨hs, hsrc⟩
  exact ⟨NHI.nb_all h.1, h.2.1.1⟩

/-- The same for `runProgram` of a whole program. -/
theorem run_no_hazard (fuel : Nat) (prog : List Stmt) (init : St)
    (hl : lockProgram prog = true) (hv : NHI.litProgram false prog = true) (hs : NHI.WfSt init) (hi : init.iters = []) :
    (runProgram fuel prog init).outcome.isHazard = false ∧ NHI.WfSt (runProgram fuel prog init).st := by
  have h := NHI.run_nb (bad := fun _ => true) (sub := false) (.inr rfl) fuel prog init hl hv hs hi
  exact ⟨NHI.nb_all h.1, h.2⟩

example : lockL [] [.letS "t" (.call "tab" [.lit (.int 2), .lit (.int 7)]), .doS (.call "strlen" [.lit (.str [97])])] = true ∧
    NHI.litL false [.letS "t" (.call "tab" [.lit (.int 2), .lit (.int 7)]), .doS (.call "strlen" [.lit (.str [97])])] = true ∧
    NHI.litL false [.doS (.call "substr" [.lit (.str [97]), .lit (.int 0)])] = false ∧
    NHI.litL true [.doS (.call "substr" [.lit (.str [97]), .lit (.int 0)])] = true := by
  refine ⟨by decide, ?_, ?_, ?_⟩ <;> simp [NHI.litL, NHI.litS, NHI.litE, NHI.litEs]

/-- The elaborator only produces programs whose literals satisfy the invariant: every `Expr.lit` it emits is an
integer, a decimal, a string, `true` / `false`, `null` or the typed null of `int()` `num()` `bool()` `str()` `raw()`. For EVERY parse
tree (`Parse.PStmt` list) it accepts. -/
theorem elab_wf (p : List Parse.PStmt) (prog : List Stmt) (h : Elab.elabProgram p = .ok prog) : NHI.litProgram true prog = true :=
  (NHI.litProgram_eq_litL prog).trans (NHI.elabBlock_lit p prog h)

/-- Never a crash, for whole SOURCE TEXTS. The theorem is about `Stepwise.runText fuel src`
(Model/Stepwise.lean; what the driver's `src` command answers): the bytes through the reader + scanner + parser models
(`Parse.parseText`), the elaborator (`Elab.elabProgram`), the compile pass of `Stepwise.runBatch` (expression acceptance, `$` /
iterator constraints, FOR bounds), the parse-time lock (`lockProgram`), then `runProgram` from the initial state. For EVERY byte
list and every fuel the answer is one of
  * `rejected code` — a parse error of the scanner / parser (or a pseudo code of Model/Parse.lean: out of fuel, import / include,
    foreign exception in the parser — `Parse.eForeign`, the model's way of saying "`std::stoul` threw": an outcome, not a hazard,
    and one that no function of the parser model produces, item numbers ≥ 2^32 being refused as in the library after 7b31e38),
  * `unsupported what` — the text parses but holds a construct the interpreter model has no node for (`matches`, `set@`, `trace`,
    `put`, typed declarations, unknown built-ins / members / constants / declared types): the explicit fourth outcome,
  * `ran r` with `r.outcome = perr code` (refused by the compile pass or the lock) or `r.outcome = ran o` with `o` a value, a runtime
    error (out of fuel included), `unmodelled`, or — the only hazard left — `haz signedOverflow` (see `exec_no_hazard_partial`).
No hypothesis: well-formedness of the literals is `elab_wf`, the lock is tested by `runBatch`, the initial state is `wf_init`. -/
theorem text_no_hazard_partial (fuel : Nat) (src : Bytes) (r : Stepwise.Result) (hr : Stepwise.runText fuel src = .ran r)
    (h : Hazard) (hh : r.outcome = .ran (.haz h)) : h = .signedOverflow :=
  bne_eq_false_iff_eq.mp (NHI.runText_nb (bad := notOverflow) (sub := true) (.inl rfl) fuel src (NHI.frontEnd_lit src) r hr h hh)

/-- The full statement for texts whose elaborated program never calls `substr` / `subraw`: no hazard. -/
theorem text_no_hazard (fuel : Nat) (src : Bytes)
    (hsub : ∀ prog, Elab.frontEnd src = .ok (.ok prog) → NHI.litProgram false prog = true)
    (r : Stepwise.Result) (hr : Stepwise.runText fuel src = .ran r) (h : Hazard) : r.outcome ≠ .ran (.haz h) := by
  intro hh
  have := NHI.runText_nb (bad := fun _ => true) (sub := false) (.inr rfl) fuel src hsub r hr h hh
  simp at this

/-- The three kinds of answer of `runText` that reach the compile pass are inhabited (tests by kernel evaluation of the whole
pipeline on the bytes of three texts): a text with a `forall` writing through its iterator runs to completion; the text that deletes
from the table it traverses is REFUSED with CONST_VIOLATION (run without the lock test it ends in the hazard `oob`:
`lock_hypothesis_needed`); a text calling `substr` is outside the hypothesis of `text_no_hazard` and inside that
of `text_no_hazard_partial`. -/
theorem text_examples :
    (match Stepwise.runText 200 [116, 32, 61, 32, 116, 97, 98, 40, 50, 44, 32, 55, 41, 59, 10, 102, 111, 114, 97, 108, 108, 32, 101, 32, 105, 110, 32, 116, 32, 108, 111, 111, 112, 10, 32, 101, 32, 61, 32, 101, 32, 43, 32, 49, 59, 10, 101, 110, 100, 32, 108, 111, 111, 112, 59, 10, 112, 114, 105, 110, 116, 32, 116, 46, 97, 116, 40, 48, 41, 59, 10] with | .ran r => r.outcome.ranOk | _ => false) = true ∧
    (match Stepwise.runText 200 [116, 32, 61, 32, 116, 97, 98, 40, 50, 44, 32, 55, 41, 59, 10, 102, 111, 114, 97, 108, 108, 32, 101, 32, 105, 110, 32, 116, 32, 108, 111, 111, 112, 10, 32, 116, 46, 100, 101, 108, 101, 116, 101, 40, 48, 41, 59, 10, 32, 112, 114, 105, 110, 116, 32, 101, 59, 10, 101, 110, 100, 32, 108, 111, 111, 112, 59, 10] with | .ran r => r.outcome.perrCode | _ => none) = some Gen.EXC_PARSE_CONST_VIOLATION_S ∧
    (match Elab.frontEnd [112, 114, 105, 110, 116, 32, 115, 117, 98, 115, 116, 114, 40, 34, 104, 101, 108, 108, 111, 34, 44, 32, 49, 44, 32, 51, 41, 59, 10] with | .ok (.ok prog) => (NHI.litProgram false prog, NHI.litProgram true prog) | _ => (true, false)) = (false, true) ∧
    (match Elab.frontEnd [116, 32, 61, 32, 116, 97, 98, 40, 50, 44, 32, 55, 41, 59, 10, 102, 111, 114, 97, 108, 108, 32, 101, 32, 105, 110, 32, 116, 32, 108, 111, 111, 112, 10, 32, 101, 32, 61, 32, 101, 32, 43, 32, 49, 59, 10, 101, 110, 100, 32, 108, 111, 111, 112, 59, 10, 112, 114, 105, 110, 116, 32, 116, 46, 97, 116, 40, 48, 41, 59, 10] with | .ok (.ok prog) => NHI.litProgram false prog | _ => false) = true := by
  decide +kernel

end BlocV.C01
