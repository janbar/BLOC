/-
  C14 — cloned contexts are independent, also when run concurrently on several threads.

  Model: Model/World.lean (shared immutable programs + the shared mutable
  cells extracted from the source + per-context state; one step = one top-level statement run by
  `exec` of Model/Interp.lean).

  SCOPE, said once and meant for every theorem below: this is schedule-independence OF THE MODEL at
  statement granularity. "Thread" here is "context whose steps are interleaved with the steps of other
  contexts in any order". That real threads, interleaving at the granularity of machine instructions,
  cannot do more is the data-race-freedom assumption; it is exactly what the recorded races
  (`_level`, the error record, the RNG statics, `_type_volatile`) break. (`Error::what`'s buffer is not
  one of them: the pinned tree has fix 97cdad4, which made it `thread_local`; it is per-thread state, `whatBuf`
  of the context, and no exception to anything below.)
  The C++ memory model, the allocator and stdio locking are outside. Script-visible exceptions to
  independence, documented as shared by design: `random()` and module objects — nothing else.
-/
import BlocV.Model.World
import BlocV.Proofs.C05
import BlocV.Proofs.Lemmas.World
import BlocV.Proofs.Lemmas.InterpEqns

namespace BlocV.C14
open BlocV.World BlocV.Lemmas

/-- Every `mutable` member / non-const static / shared heap cell that extract/shared.py finds in
/repo/blocc is assigned to a kind of the model, and every `thread_local` static to a per-thread
kind. A new shared mutable field makes this fail — and so does `Error::what`'s buffer if it loses its
`thread_local`: it then reappears in `Gen.sharedCells`, where `cellKind` does not know it. -/
theorem all_shared_cells_classified :
    Gen.sharedCells.all (fun c => (cellKind c).isSome) = true ∧
    Gen.threadLocalCells.all (fun c => (threadCellKind c).isSome) = true :=
  cells_table.1

/-- the lists have 30 shared cells and 1 per-thread cell -/
example : Gen.sharedCells.length = 30 ∧ Gen.threadLocalCells.length = 1 := by decide

/-- The `what` buffer is per-thread state: listed as `thread_local`, not among the shared cells, and
no shared kind stands for it. (False of a tree without fix 97cdad4, where the buffer is a shared static.) -/
theorem what_buffer_is_thread_local :
    Gen.threadLocalCells.filter (fun c => threadCellKind c == some .whatBuffer) = [("blocc/exception.h", "buf")] ∧
    Gen.sharedCells.all (fun c => c.1 != "blocc/exception.h") = true ∧
    cellKind ("blocc/exception.h", "buf") = none :=
  cells_table.2.1

/-- non-vacuity / sensitivity: with the cell back among the shared ones (the tree before the fix, or
a later removal of `thread_local`) the classification obligation is false -/
example : (("blocc/exception.h", "buf") :: Gen.sharedCells).all (fun c => (cellKind c).isSome) = false := by
  rw [List.all_cons, what_buffer_is_thread_local.2.2]
  rfl

/-- No kind is stale: each one still has a cell in the source (shared kinds in the shared list,
per-thread kinds in the `thread_local` list). -/
theorem every_kind_has_a_cell (k : SharedKind) : Gen.sharedCells.any (fun c => cellKind c == some k) = true := by
  cases k <;> exact cells_table.2.2.1 _ (by decide)

theorem every_thread_kind_has_a_cell (k : ThreadKind) :
    Gen.threadLocalCells.any (fun c => threadCellKind c == some k) = true := by
  cases k <;> decide +kernel

example : Gen.threadLocalCells.map threadCellKind = [some .whatBuffer] := by decide +kernel

/-- The shared cells a step writes are where the property says they are: the error record and `_level`,
nothing else (the `what` buffer of exception.h is not in this list, `what_buffer_is_thread_local`; the record's own
message copy `bloc_error_msg` is). -/
theorem written_cells :
    Gen.sharedCells.filter (fun c => match cellKind c with | some k => writtenKinds.contains k | none => false) =
      [("blocc/bloc_capi.cpp", "bloc_error"), ("blocc/bloc_capi.cpp", "bloc_error_msg"), ("blocc/statement.h", "_level")] :=
  cells_table.2.2.2

/-- At clone time the clone holds the original's variables (names, values, types)
and function declarations; it has no saved return value, no output and no run of its own; the
original and every other context are exactly as before, and so is every shared cell. (Nor does it
inherit per-thread state: its `what` buffer is empty.) -/
theorem clone_copies (w : World) (src dst : CtxId) (s : Ctx) (h : w.ctxs src = some s) :
    (∃ d, (apply w (.clone src dst)).ctxs dst = some d ∧ d.st.vars = s.st.vars ∧ d.funcs = s.funcs ∧
          d.st.returned = none ∧ d.st.out = [] ∧ d.running = false ∧ d.result = none ∧ d.whatBuf = none) ∧
    (∀ e, e ≠ dst → (apply w (.clone src dst)).ctxs e = w.ctxs e) ∧
    (apply w (.clone src dst)).shared = w.shared ∧ (apply w (.clone src dst)).progs = w.progs := by
  refine ⟨⟨cloneCtx s, clone_ctx w src dst s h, rfl, rfl, rfl, rfl, rfl, rfl, rfl⟩, apply_other w (.clone src dst), ?_, apply_progs w _⟩
  rw [apply_eq]
  rfl

/-- `function F(P) return P + 1; X = 5; Y = F(X); print Y;` -/
def demoProg : List Stmt :=
  [.funcS "F" [("P", Ty.int)] Ty.int [.returnS (some (.bin .add (.var "P") (.lit (.int 1))))] [],
   .letS "X" (.lit (.int 5)),
   .letS "Y" (.fcall "F" [.var "X"]),
   .printS [.var "Y"]]

def demoWorld : World := run (initWorld [demoProg] 50) [.compile 0 0, .clone 0 1, .clone 0 2]

/-- non-vacuity of `clone_copies`: clone 1 holds the original's two variables and its function -/
example : ((demoWorld.ctxs 1).map fun c => (c.st.vars.map (·.1), c.funcs.map (·.name))) = some (["X", "Y"], ["F"]) := by
  decide

/-- Whatever an operation on context `op.target` does, it leaves alone: the
programs, every OTHER context (variables, functions, saved value, output, run state, and the `what`
buffer of the thread that runs it), and every shared cell whose kind is not one of `writtenKinds` =
{`_level`, error record} — in particular the constant cells, the RNG, the registry. `Error::what`'s
buffer is no exception: it is not a shared cell (`what_buffer_is_thread_local`), a step writes only the
buffer of its own context. -/
theorem footprint (w : World) (op : Op) :
    (apply w op).progs = w.progs ∧ (apply w op).fuel = w.fuel ∧
    (∀ d, d ≠ op.target → (apply w op).ctxs d = w.ctxs d) ∧
    (∀ k, k ∉ writtenKinds → (apply w op).shared k = w.shared k) :=
  ⟨apply_progs w op, apply_fuel w op, apply_other w op, apply_shared_other w op⟩

/-- The statement step, as the property states it: a step of context `c` writes only `c`'s own state and
the listed shared cells. -/
theorem step_footprint (w : World) (c : CtxId) :
    (∀ d, d ≠ c → (step w c).ctxs d = w.ctxs d) ∧ (step w c).progs = w.progs ∧
    (∀ k, k ∉ writtenKinds → (step w c).shared k = w.shared k) :=
  ⟨apply_other w (.step c), apply_progs w _, apply_shared_other w _⟩

/-- What an operation makes of its target context depends only on that context
(for `clone`: on the source), the immutable programs and the fuel — not on any other context and not
on ANY shared mutable cell: `w` and `w'` may differ in every shared cell. In particular which handler
an error reaches (`BEGINStatement::docatch` reading the name through `Error::what()`) depends on the
thread's own buffer only, so a handled user exception cannot miss its handler because of what another
context does (`handler_found_under_every_schedule`). -/
theorem reads_footprint (w w' : World) (op : Op)
    (ht : w.ctxs op.target = w'.ctxs op.target) (hp : w.progs = w'.progs) (hf : w.fuel = w'.fuel)
    (hs : ∀ s d, op = .clone s d → w.ctxs s = w'.ctxs s) :
    (apply w op).ctxs op.target = (apply w' op).ctxs op.target := by
  rw [apply_target, apply_target, ← hp, ← hf, ← ht]
  congr 1
  cases op with
  | clone s d => exact hs s d rfl
  | _ => exact ht

/-- Steps of two different contexts commute on everything script-visible: every
context (variables, functions, results, outputs), the programs, and every shared cell outside
`writtenKinds` = {`_level`, error record}. (Those two differ only in the ORDER of log entries / in
which error was recorded last — see `level_writes_benign` and `error_record_is_last_writer`; the
`what` buffers are part of the contexts and commute with them.) -/
theorem steps_commute (w : World) (c d : CtxId) (h : c ≠ d) :
    (∀ e, (step (step w c) d).ctxs e = (step (step w d) c).ctxs e) ∧
    (step (step w c) d).progs = (step (step w d) c).progs ∧
    (∀ k, k ∉ writtenKinds → (step (step w c) d).shared k = (step (step w d) c).shared k) := by
  refine ⟨fun e => congrFun (apply_comm w (.step c) (.step d) h h (Ne.symm h)) e, ?_, fun k hk => ?_⟩
  · simp only [step, apply_progs]
  · simp only [step, apply_shared_other _ _ k hk]

/-- the sequential run: `n` consecutive statement steps of one context, nobody else moves -/
def alone (w : World) (c : CtxId) (n : Nat) : World := run w (List.replicate n (.step c))

theorem target_step (d : CtxId) : (Op.step d).target = d := rfl

theorem filter_steps (c : CtxId) (sched : List CtxId) :
    (sched.map Op.step).filter (fun op => op.target == c) = List.replicate (sched.count c) (Op.step c) := by
  rw [List.filter_map]
  show (sched.filter (· == c)).map Op.step = _
  rw [List.filter_beq, List.map_replicate]

/-- For EVERY schedule — any finite sequence of context ids, each
occurrence one statement step of that context; any number of contexts, in particular 2..8 clones of
one original running the same or different programs — every context ends with exactly the
variables, function declarations, saved return value, result (ok / error code and argument), printed
output, position and `what` buffer that its own steps alone produce: its sequential run of the same
length. In particular every error is handled by the handler the sequential run selects: the statement
needs no exclusion for "a handled user exception can miss its handler" (finding C14.what_static_buffer,
closed by fix 97cdad4, which the pinned tree has). -/
theorem interleaving_eq_sequential (w : World) (sched : List CtxId) (c : CtxId) :
    (run w (sched.map Op.step)).ctxs c = (alone w c (sched.count c)).ctxs c := by
  have := (run_filter_target c (sched.map Op.step) (by simp) w w ⟨rfl, rfl, rfl⟩).1
  rwa [filter_steps] at this

/-- A context that is not running ignores steps: once its run is over, more steps change nothing. -/
theorem alone_done (w : World) (c : CtxId) (x : Ctx) (n m : Nat) (h : (alone w c n).ctxs c = some x)
    (hr : x.running = false) (hle : n ≤ m) : (alone w c m).ctxs c = some x := by
  obtain ⟨k, rfl⟩ := Nat.exists_eq_add_of_le hle
  rw [alone, ← List.replicate_append_replicate, run_append]
  exact (run_steps c k _ x h).trans (congrArg some (stepsCtx_idle _ _ x hr k))

/-- … so two COMPLETE schedules (in each, the context got to the end of its run) give the context
the same final state, however differently they interleave it with the others. -/
theorem complete_schedules_agree (w : World) (s1 s2 : List CtxId) (c : CtxId) (x y : Ctx)
    (h1 : (run w (s1.map Op.step)).ctxs c = some x) (hx : x.running = false)
    (h2 : (run w (s2.map Op.step)).ctxs c = some y) (hy : y.running = false) : x = y := by
  rw [interleaving_eq_sequential] at h1 h2
  rcases Nat.le_total (s1.count c) (s2.count c) with hle | hle
  · exact Option.some.inj ((alone_done w c x _ _ h1 hx hle).symm.trans h2)
  · exact Option.some.inj (h1.symm.trans (alone_done w c y _ _ h2 hy hle))

/-- Purging or freeing another context `o` (the original, say) at ANY
point of ANY sequence of operations that does not clone over `c` (`hno`: a clone INTO `c` would make `c` a copy
of its source, possibly of `o`) changes nothing for context `c`: it keeps working with its
variables and functions, and ends as if `o` had been left alone. -/
theorem purge_free_independent (w : World) (pre post : List Op) (c o : CtxId) (ho : o ≠ c)
    (hno : ∀ s, Op.clone s c ∉ pre ++ post) :
    (run w (pre ++ [.purge o] ++ post)).ctxs c = (run w (pre ++ post)).ctxs c ∧
    (run w (pre ++ [.free o] ++ post)).ctxs c = (run w (pre ++ post)).ctxs c ∧
    (run w (pre ++ [.purge o, .free o] ++ post)).ctxs c = (run w (pre ++ post)).ctxs c := by
  refine ⟨others_ops_independent w pre _ post c hno ?_, others_ops_independent w pre _ post c hno ?_,
    others_ops_independent w pre _ post c hno ?_⟩ <;> simp [Op.target, ho]

/-- No operation of the model writes a constant cell … -/
theorem const_cells_never_written (w : World) (ops : List Op) :
    (run w ops).shared .constValue = w.shared .constValue :=
  run_invariant (P := fun v => v.shared .constValue = w.shared .constValue)
    (fun v op _ hv => (apply_shared_other v op _ (by decide)).trans hv) w rfl

/-- … and that is what the storage discipline guarantees (C05 `eval_frame`): two contexts whose store
views share the SAME constant cells `cs` (all carrying the LVALUE flag) and own their variables and
temporaries — evaluating any expression in one leaves `cs`, hence the other's view of every literal,
exactly as it was. -/
theorem const_cells_frame (cs : List Cell) (varsA poolA : List Cell) (wmA : Nat) (e : LExpr) (ℓ : Loc) (σ' : Store)
    (hcs : ∀ c ∈ cs, c.lv = true) (hv : ∀ c ∈ varsA, c.lv = true)
    (he : evalL e { vars := varsA, csts := cs, pool := poolA, wm := wmA } = .ok (ℓ, σ')) :
    σ'.csts = cs :=
  (C05.eval_frame e _ σ' ℓ ⟨hv, hcs⟩ he).1.2

/-- the level a node receives when every run starts at exec level `b` -/
def refLevel (b : Nat) (progs : List (List Stmt)) : StmtRef → Nat
  | .prog pid (i :: rel) => match (progs.getD pid [])[i]? with
    | some s => levelOf b s rel
    | none => b
  | .prog _ [] => b
  | .fn f rel => levelOf 0 (.beginS f.body f.catches) rel

def LevelInv (b : Nat) (progs : List (List Stmt)) (log : List (StmtRef × Nat)) : Prop :=
  ∀ r v, (r, v) ∈ log → v = refLevel b progs r

theorem stepCtx_levels (progs : List (List Stmt)) (fuel : Nat) (ctx : Ctx) (r : StmtRef) (v : Nat)
    (h : (r, v) ∈ (stepCtx progs fuel ctx).2.1) : v = refLevel ctx.execLevel progs r := by
  rcases (stepCtx_frame progs fuel ctx).2.2 with e | ⟨stmt, hstmt, e⟩ <;> rw [e] at h
  · cases h
  · rcases List.mem_append.mp h with hm | hm
    · obtain ⟨rel, _, he⟩ := List.mem_map.mp hm
      cases he
      simp only [refLevel, hstmt]
    · simp only [List.mem_flatten, List.mem_map] at hm
      obtain ⟨l, ⟨f, _, rfl⟩, hin⟩ := hm
      obtain ⟨rel, _, he⟩ := List.mem_map.mp hin
      cases he
      rfl

/-- every live context starts its runs at exec level `b` -/
def SameBase (b : Nat) (w : World) : Prop := ∀ c x, w.ctxs c = some x → x.execLevel = b

theorem sameBase_apply (w : World) (op : Op) (h : SameBase 0 w) : SameBase 0 (apply w op) := by
  intro c y hy
  rcases apply_ctx_cases w op c y hy with ⟨x, _, hx, _, he⟩ | ⟨_, x, hx, rfl⟩ | ⟨_, _, _, _, rfl⟩
  · exact he.trans (h c x hx)
  · exact h c x hx
  · rfl

/-- ASSUMPTION, stated exactly: every context enters its runs with
the same exec-stack depth (`SameBase 0`: the stack is empty between runs — true unless a foreign
exception skipped an `execEnd`; a fresh clone always starts at 0). Then every write any context
ever performs on a statement node stores the value `refLevel` = (number of enclosing `begin` blocks
of the node): a function of the node alone. Concurrent writers of one node therefore write the SAME
value, and a reader (`Context::onRuntimeError` comparing `stmt->level()` with its own depth) sees
that value whichever write it observes. -/
theorem level_writes_benign (ops : List Op) (w : World) (log0 : List (StmtRef × Nat))
    (hb : SameBase 0 w) (hs : w.shared .stmtLevel = .levels log0) (hi : LevelInv 0 w.progs log0) :
    ∃ log, (run w ops).shared .stmtLevel = .levels log ∧ LevelInv 0 w.progs log := by
  refine (run_invariant (ops := ops) (P := fun v => v.progs = w.progs ∧ SameBase 0 v ∧
    ∃ log, v.shared .stmtLevel = .levels log ∧ LevelInv 0 w.progs log) ?_ w ⟨rfl, hb, log0, hs, hi⟩).2.2
  intro v op _ ⟨hp, hbv, log, hl, hiv⟩
  obtain ⟨ws, e, hws⟩ := apply_levels v op log hl
  refine ⟨(apply_progs v op).trans hp, sameBase_apply v op hbv, _, e, fun r n hm => ?_⟩
  rcases List.mem_append.mp hm with hm | hm
  · rcases hws with rfl | ⟨c, x, hx, rfl⟩
    · cases hm
    · exact hp ▸ hbv c x hx ▸ stepCtx_levels _ _ x r n hm
  · exact hiv r n hm

/-- Both halves in one statement: over ANY sequence of operations from a
world in which every exec stack is empty between runs, the constant cells are never written and all
writes to one statement node's `_level` carry the same value. With the `what` buffer per thread, the
only shared write that is NOT benign is the error record (`error_record_is_last_writer`). -/
theorem shared_writes_benign (w : World) (ops : List Op) (log0 : List (StmtRef × Nat))
    (hb : SameBase 0 w) (hs : w.shared .stmtLevel = .levels log0) (hi : LevelInv 0 w.progs log0) :
    (run w ops).shared .constValue = w.shared .constValue ∧
    ∃ log, (run w ops).shared .stmtLevel = .levels log ∧
      ∀ r v v', (r, v) ∈ log → (r, v') ∈ log → v = v' := by
  refine ⟨const_cells_never_written w ops, ?_⟩
  obtain ⟨log, h1, h2⟩ := level_writes_benign ops w log0 hb hs hi
  exact ⟨log, h1, fun r v v' a b => (h2 r v a).trans (h2 r v' b).symm⟩

/-- non-vacuity: the initial world satisfies the three hypotheses -/
example : SameBase 0 (initWorld [demoProg]) ∧ (initWorld [demoProg]).shared .stmtLevel = .levels [] ∧
    LevelInv 0 (initWorld [demoProg]).progs [] := by
  exact ⟨fun c x h => initWorld_ctx h ▸ rfl, rfl, fun r v h => nomatch h⟩

/-- The assumption is needed: a context whose exec stack is one deep between runs (execLevel 1)
and a fresh one, running the same statement, store DIFFERENT levels into the same node. -/
example :
    let p : List Stmt := [.nop]
    let w : World := { initWorld [p] 5 with
      ctxs := fun c => if c = 0 then some { running := true, execLevel := 1 } else if c = 1 then some { running := true } else none }
    (match (run w [.step 0, .step 1]).shared .stmtLevel with
     | .levels log => log.map (·.2)
     | _ => []) = [0, 1] := by
  decide +kernel

def errDemo : World :=
  { initWorld [[.raiseS "E1"], [.raiseS "DIVIDE_BY_ZERO"]] 5 with
    ctxs := fun c => if c = 0 then some { running := true, prog := 0 } else if c = 1 then some { running := true, prog := 1 } else none }

def recordedCode (w : World) : Option Nat :=
  match w.shared .errorRecord with
  | .lastError (some (c, _)) => some c
  | _ => none

/-- **The error record is NOT benign** (finding C14.error_record_process_wide): `bloc_error` is a
single process-wide cell; after two contexts failed, the record holds the error of whichever failed
last — `bloc_errno()` / `bloc_strerror()` of a failed `bloc_execute2` depend on the schedule, in the
model already. The buffer the message is formatted into is NOT part of this (it is `thread_local`, fix 97cdad4):
each context's `what` buffer holds its own error under both schedules. -/
theorem error_record_is_last_writer :
    recordedCode (run errDemo [.step 0, .step 1]) = some Gen.EXC_RT_DIVIDE_BY_ZERO ∧
    recordedCode (run errDemo [.step 1, .step 0]) = some Gen.EXC_RT_USER_S ∧
    -- … while each context's own result is the same under both schedules
    ((run errDemo [.step 0, .step 1]).ctxs 0).map (·.running) = ((run errDemo [.step 1, .step 0]).ctxs 0).map (·.running) ∧
    -- … and so is the `what` buffer of each: its own error, whoever failed last
    (∀ ops ∈ [[Op.step 0, .step 1], [.step 1, .step 0]],
      ((run errDemo ops).ctxs 0).map (fun c => c.whatBuf.map (·.1)) = some (some Gen.EXC_RT_USER_S) ∧
      ((run errDemo ops).ctxs 1).map (fun c => c.whatBuf.map (·.1)) = some (some Gen.EXC_RT_DIVIDE_BY_ZERO)) := by
  decide +kernel

/-- A step of context `c` (any operation on it) leaves the `what` buffer of every other context
alone: corollary of `footprint`, the buffer being part of the context. -/
theorem what_buffer_private (w : World) (op : Op) (d : CtxId) (h : d ≠ op.target) :
    ((apply w op).ctxs d).map (·.whatBuf) = (w.ctxs d).map (·.whatBuf) := by
  rw [(footprint w op).2.2.1 d h]

/-- non-vacuity: in `errDemo` context 1 fails AFTER context 0 did; context 0's buffer still holds
context 0's error (USER, argument "E1"), context 1's its own -/
example :
    ((run errDemo [.step 0]).ctxs 0).map (·.whatBuf) = some (some (Gen.EXC_RT_USER_S, "E1".toUTF8.toList)) ∧
    ((run errDemo [.step 0, .step 1]).ctxs 0).map (·.whatBuf) = some (some (Gen.EXC_RT_USER_S, "E1".toUTF8.toList)) ∧
    ((run errDemo [.step 0, .step 1]).ctxs 1).map (fun c => c.whatBuf.map (·.1)) = some (some Gen.EXC_RT_DIVIDE_BY_ZERO) := by
  decide +kernel

/-- Two contexts, each raising its OWN user exception inside a block that handles exactly that name
(one round of the stress witness of finding C14.what_static_buffer, closed by fix 97cdad4). -/
def whatDemo : World :=
  let p (e : String) : List Stmt :=
    [.letS "N" (.lit (.int 0)),
     .beginS [.raiseS e] [(e, [.letS "N" (.bin .add (.var "N") (.lit (.int 1)))])],
     .returnS (some (.var "N"))]
  { initWorld [p "NAMEA", p "NAMEBBBBBBBBBBBBBBB"] 50 with
    ctxs := fun c => if c = 0 then some { running := true, prog := 0 } else if c = 1 then some { running := true, prog := 1 } else none }

/-- the run ended normally and handed `v` to the host -/
def returnedVal (x : Ctx) (v : Val) : Bool :=
  match x.result with
  | some (.ok (some r)) => r == v
  | _ => false

/-- **Every schedule selects the right handler** (false of a tree without fix 97cdad4: there the
clause name is compared with a buffer another thread can overwrite). General form: `interleaving_eq_sequential`;
here for the witness, over ALL 20 interleavings of the two 3-statement runs: each context ends `ok`
having counted its one handled exception, no error recorded, no `what` buffer left behind. -/
theorem handler_found_under_every_schedule :
    ∀ sched ∈ [[0,0,0,1,1,1],[0,0,1,0,1,1],[0,0,1,1,0,1],[0,0,1,1,1,0],[0,1,0,0,1,1],[0,1,0,1,0,1],[0,1,0,1,1,0],
               [0,1,1,0,0,1],[0,1,1,0,1,0],[0,1,1,1,0,0],[1,0,0,0,1,1],[1,0,0,1,0,1],[1,0,0,1,1,0],[1,0,1,0,0,1],
               [1,0,1,0,1,0],[1,0,1,1,0,0],[1,1,0,0,0,1],[1,1,0,0,1,0],[1,1,0,1,0,0],[1,1,1,0,0,0]],
      let w := run whatDemo (sched.map Op.step)
      recordedCode w = none ∧
      ∀ c ∈ [0, 1], ((w.ctxs c).map fun x => (x.running, returnedVal x (.int 1), x.whatBuf.isNone)) =
        some (false, true, true) := by
  decide +kernel

/-- the witness discriminates: had context 0's clause been compared with context 1's name (what the
shared buffer could make the code do), the run would have ended with the unhandled USER error, which
the error record and the `what` buffer then show -/
example :
    let p : List Stmt := [.beginS [.raiseS "NAMEA"] [("NAMEBBBBBBBBBBBBBBB", [.nop])], .returnS (some (.lit (.int 1)))]
    let w : World := { initWorld [p] 50 with ctxs := fun c => if c = 0 then some { running := true } else none }
    let w' := run w [.step 0, .step 0]
    (recordedCode w', (w'.ctxs 0).map fun x => (x.running, returnedVal x (.int 1), x.whatBuf.map (·.1))) =
      (some Gen.EXC_RT_USER_S, some (false, false, some Gen.EXC_RT_USER_S)) := by
  decide +kernel

theorem linked_declare (l : List Sig) (fs : List Func) (prog : List Stmt) (h : linked l fs = true) :
    linked l (declare fs prog) = true :=
  linked_iff.mpr ((linked_iff.mp h).trans (sigs_declare prog fs).1)

/-- A call node compiled against a table with signatures `l` holds the
index of (name, arity) in `l`. Run in ANY context whose table continues `l` position by position and
holds each signature once, the entry at that index (what the C++ calls: `getDeclaration(_id)`) is the
first entry with that name and arity (what `callFunc` of Model/Interp.lean calls). So for linked runs
the by-name semantics of the model is the by-index semantics of the code. (The proof does not use `nd`: the index
in `l` is where the signature FIRST occurs in the running table, which is what the look-up by name finds.) -/
theorem index_call_eq_name_call (l : List Sig) (fs : List Func) (name : String) (arity : Nat)
    (hl : linked l fs = true) (nd : (sigs fs).Nodup) (hm : (name, arity) ∈ l) :
    callByIndex l fs name arity = callByName fs name arity :=
  callByIndex_eq_callByName hl hm

/-- non-vacuity: three overloads of AREA and a function declared after them; a call of AREA/2 compiled
against that table finds AREA/2 in a table that went on growing -/
def overProg : List Stmt :=
  [.funcS "AREA" [] Ty.int [.returnS (some (.lit (.int 1)))] [],
   .funcS "AREA" [("W", Ty.int)] Ty.int [.returnS (some (.bin .mul (.var "W") (.var "W")))] [],
   .funcS "AREA" [("W", Ty.int), ("H", Ty.int)] Ty.int [.returnS (some (.bin .mul (.var "W") (.var "H")))] [],
   .funcS "G" [("X", Ty.int)] Ty.int [.returnS (some (.bin .add (.fcall "AREA" [.var "X", .lit (.int 5)]) (.fcall "AREA" [])))] [],
   .letS "Q" (.fcall "G" [.lit (.int 2)]),
   .returnS (some (.var "Q"))]

example : sigs (declare [] overProg) = [("AREA", 0), ("AREA", 1), ("AREA", 2), ("G", 1)] ∧
    linked (sigs (declare [] overProg)) (declare (declare [] overProg) demoProg) = true ∧
    (callByIndex (sigs (declare [] overProg)) (declare (declare [] overProg) demoProg) "AREA" 2).map sigOf = some ("AREA", 2) := by
  decide +kernel

/-- After `clone src dst` the clone's function table IS the original's:
same length, the same declaration (name, parameters — hence arity —, return type, body, handlers,
private symbols) at EVERY index, overloads included, in the same order. Consequently (i) every
executable and function body linked against the original's table is linked against the clone's, (ii) a
call node (index `i`) reaches the same function in both, and (iii) so does the model's lookup by name
and arity. -/
theorem clone_copies_functions (w : World) (src dst : CtxId) (s : Ctx) (h : w.ctxs src = some s) :
    ∃ d, (apply w (.clone src dst)).ctxs dst = some d ∧
      d.funcs.length = s.funcs.length ∧ (∀ i : Nat, d.funcs[i]? = s.funcs[i]?) ∧
      (∀ l, linked l d.funcs = linked l s.funcs) ∧
      (∀ l name arity, callByIndex l d.funcs name arity = callByIndex l s.funcs name arity) ∧
      (∀ name arity, callByName d.funcs name arity = callByName s.funcs name arity) :=
  ⟨_, clone_ctx w src dst s h, rfl, fun _ => rfl, fun _ => rfl, fun _ _ _ => rfl, fun _ _ => rfl⟩

/-- non-vacuity, and the table really has overloads: the clone of a context that compiled `overProg`
has AREA/0, AREA/1, AREA/2, G/1 at indices 0..3 -/
example : ((run (initWorld [overProg] 50) [.compile 0 0, .clone 0 1]).ctxs 1).map (fun c => sigs c.funcs) =
    some [("AREA", 0), ("AREA", 1), ("AREA", 2), ("G", 1)] := by
  decide +kernel

/-- Why "every declaration, in order" is what must be proved — the counter-model. With the table copy
of seeded mutation C14-m3 (skip a declaration whose NAME is already there) the clone of `overProg`'s
context loses AREA/1 and AREA/2, G moves from index 3 to index 1, the table is no longer linked, and
the call node `AREA(x, 5)` (index 2) reaches nothing while `G(2)` (index 3) is past the end. -/
theorem reset_skipping_names_is_not_a_copy :
    let fs := declare [] overProg
    let bad := resetSkippingNames fs
    sigs bad = [("AREA", 0), ("G", 1)] ∧ linked (sigs fs) bad = false ∧
    (callByIndex (sigs fs) bad "AREA" 1).map sigOf = some ("G", 1) ∧
    callByIndex (sigs fs) bad "AREA" 2 = none ∧ callByIndex (sigs fs) bad "G" 1 = none ∧
    (callByIndex (sigs fs) fs "AREA" 2).map sigOf = some ("AREA", 2) := by
  decide +kernel

/-- the instrumentation of `LWorld` does not change the world -/
theorem applyL_world (lw : LWorld) (op : Op) : (applyL lw op).w = apply lw.w op := by
  fun_cases applyL lw op
  all_goals rfl

theorem runL_world (ops : List Op) : ∀ lw : LWorld, (runL lw ops).w = run lw.w ops :=
  fun _ => (List.foldl_hom LWorld.w fun lw op => (applyL_world lw op).symm).symm

/-- Whatever executable is linked in the source — its compile-time function
table `l` and symbol table `lv` are continued by the source's — is linked in the clone. -/
theorem clone_keeps_linked (w : World) (src dst : CtxId) (s : Ctx) (h : w.ctxs src = some s)
    (l : List Sig) (lv : List String) (hl : linked l s.funcs = true) (hv : symLinked lv s.st.vars = true) :
    ∃ d, (apply w (.clone src dst)).ctxs dst = some d ∧ linked l d.funcs = true ∧ symLinked lv d.st.vars = true :=
  ⟨_, clone_ctx w src dst s h, hl, hv⟩

example : ∃ d, (apply demoWorld (.clone 0 5)).ctxs 5 = some d ∧ linked [("F", 1)] d.funcs = true ∧ symLinked ["X", "Y"] d.st.vars = true :=
  clone_keeps_linked demoWorld 0 5 _ rfl _ _ (by decide) (by decide)

/-- The documented use is linked, for EVERY program: compile in the original, clone, run the shared
executable in the clone (and in the original) — the instrumentation flag stays true. -/
theorem shared_executable_linked (progs : List (List Stmt)) (fuel pid : Nat) (d : CtxId) :
    (runL (initLWorld progs fuel) [.compile 0 pid, .clone 0 d, .start d pid, .start 0 pid]).linkedAll = true := by
  by_cases hd : d = 0
  · subst hd
    simp [runL, applyL, apply, initLWorld, initWorld, upd, cloneCtx, linked_self, symLinked_self]
  · simp [runL, applyL, apply, initLWorld, initWorld, upd, cloneCtx, linked_self, symLinked_self, Ne.symm hd]

example : (runL (initLWorld [overProg] 50) [.compile 0 0, .clone 0 3, .start 3 0, .start 0 0]).linkedAll = true :=
  shared_executable_linked _ _ _ _

/-- **Compiling keeps symbol slots in place**: `registerSymbol` appends new symbols to the storage pool and
never moves one — an executable whose compile-time symbol table the context continues is still linked
after the context compiled any further program (the symbol-slot counterpart of `linked_declare`). -/
theorem symLinked_compile (w : World) (c : CtxId) (pid : Nat) (x : Ctx) (lv : List String) (hx : w.ctxs c = some x)
    (hl : symLinked lv x.st.vars = true) :
    ∃ y, (apply w (.compile c pid)).ctxs c = some y ∧ symLinked lv y.st.vars = true := by
  simp only [apply, hx, upd_same]
  refine ⟨_, rfl, ?_⟩
  rw [symLinked_iff] at hl ⊢
  exact hl.trans (names_register_prefix _ _)

example : ((apply demoWorld (.compile 1 0)).ctxs 1).map (fun y => symLinked ["X", "Y"] y.st.vars) = some true := by
  decide +kernel

/-- A context is linked to what it compiled itself: `compile c pid` then `start c pid` leaves the flag as
it was, for every world, context and program. -/
theorem own_executable_linked (lw : LWorld) (c : CtxId) (pid : Nat) (x : Ctx) (hx : lw.w.ctxs c = some x) :
    (runL lw [.compile c pid, .start c pid]).linkedAll = lw.linkedAll := by
  simp [runL, applyL, apply, hx, upd, linked_self, symLinked_self]

example : (runL (initLWorld [overProg, demoProg] 50) [.compile 0 0, .clone 0 1, .compile 1 1, .start 1 1]).linkedAll = true := by
  decide +kernel

/-- What the flag means at a `start`: the executable's compile-time function table and symbol table are
continued by the running context's — so (`reachable_index_call_eq_name_call`) every call node of the
executable reaches, by index, the function the model reaches by name. -/
theorem linkedAll_start (lw : LWorld) (c : CtxId) (pid : Nat) (x : Ctx) (l : List Sig × List String)
    (hx : lw.w.ctxs c = some x) (hl : lw.link pid = some l) (h : (applyL lw (.start c pid)).linkedAll = true) :
    lw.linkedAll = true ∧ linked l.1 x.funcs = true ∧ symLinked l.2 x.st.vars = true := by
  simp only [applyL, hx, hl, Bool.and_eq_true] at h
  exact ⟨h.1.1, h.1.2, h.2⟩

example : (applyL (runL (initLWorld [overProg] 50) [.compile 0 0, .clone 0 3]) (.start 3 0)).linkedAll = true := by
  decide +kernel

/-- non-vacuity of the flag: the shared executable compiled in the original is linked in the clone;
after the ORIGINAL declared one more function and compiled a second program against the longer table,
that second executable is NOT linked in the old clone (index 4 does not exist there) -/
example :
    (runL (initLWorld [overProg, demoProg] 50) [.compile 0 0, .clone 0 1, .start 1 0]).linkedAll = true ∧
    (runL (initLWorld [overProg, demoProg] 50) [.compile 0 0, .clone 0 1, .compile 0 1, .start 1 1]).linkedAll = false ∧
    (runL (initLWorld [overProg, demoProg] 50) [.compile 0 0, .clone 0 1, .compile 0 1, .start 0 1, .start 1 0]).linkedAll = true := by
  decide +kernel

/-- non-vacuity: a compile and a break of context 0 inserted into clone 1's run of `demoProg` -/
example : (run demoWorld ([.start 1 0, .step 1] ++ [.compile 0 0, .host 0 .brk] ++ [.step 1, .step 1, .step 1, .step 1])).ctxs 1 =
    (run demoWorld ([.start 1 0, .step 1] ++ [.step 1, .step 1, .step 1, .step 1])).ctxs 1 :=
  others_ops_independent demoWorld _ _ _ 1 (by simp) (by decide)

/-- After `clone src dst` (src ≠ dst), whatever is compiled into
ONE of the two — new functions, more overloads, REDEFINITIONS of functions the other one uses — and
whatever else is done to it (`ops`, all targeting that one), the OTHER one keeps exactly the table it
had: the clone keeps the old body after the original redefined the function, and the original keeps
its own after the clone did. (The C++ shares the `Functor` objects between the two tables, but a
redefinition swaps a NEW object into the redefining table's entry — `createOrReplace` — and never
writes through the shared pointer.) -/
theorem clone_independent_functions (w : World) (src dst : CtxId) (s : Ctx) (hne : src ≠ dst)
    (h : w.ctxs src = some s) (ops : List Op) :
    -- the original goes on: the clone keeps what it copied
    ((∀ op ∈ ops, op.target = src) →
      ((run (apply w (.clone src dst)) ops).ctxs dst).map (·.funcs) = some s.funcs) ∧
    -- the clone goes on: the original keeps what it had
    ((∀ op ∈ ops, op.target = dst) →
      (run (apply w (.clone src dst)) ops).ctxs src = some s) := by
  constructor <;> intro hops
  · rw [run_others _ ops dst fun op hop => hops op hop ▸ hne, clone_ctx w src dst s h]
    rfl
  · rw [run_others _ ops src fun op hop => hops op hop ▸ hne.symm, apply_other w (.clone src dst) src hne, h]

/-- a program that REDEFINES `F` of `demoProg` (other body) and adds an overload `F/2` -/
def redefProg : List Stmt :=
  [.funcS "F" [("P", Ty.int)] Ty.int [.returnS (some (.bin .mul (.var "P") (.lit (.int 100))))] [],
   .funcS "F" [("P", Ty.int), ("Q", Ty.int)] Ty.int [.returnS (some (.var "Q"))] [],
   .letS "Y" (.fcall "F" [.lit (.int 5)])]

/-- non-vacuity, both directions, by running: the original redefines F after the clone was taken — the
clone still computes F(5) = 6 with the OLD body, the original 500; and vice versa -/
example :
    let w := run (initWorld [demoProg, redefProg] 50) [.compile 0 0, .clone 0 1, .compile 0 1, .start 0 1, .start 1 0]
    let w' := run w [.step 0, .step 1, .step 0, .step 1, .step 0, .step 1, .step 0, .step 1, .step 1]
    ((w'.ctxs 0).map fun c => (lookupVar c.st.vars "Y" == .int 500, sigs c.funcs)) = some (true, [("F", 1), ("F", 2)]) ∧
    ((w'.ctxs 1).map fun c => (lookupVar c.st.vars "Y" == .int 6, sigs c.funcs)) = some (true, [("F", 1)]) := by
  decide +kernel

example :
    let w := run (initWorld [demoProg, redefProg] 50) [.compile 0 0, .clone 0 1, .compile 1 1, .start 1 1, .start 0 0]
    let w' := run w [.step 0, .step 1, .step 0, .step 1, .step 0, .step 1, .step 0, .step 1, .step 0]
    ((w'.ctxs 1).map fun c => (lookupVar c.st.vars "Y" == .int 500, sigs c.funcs)) = some (true, [("F", 1), ("F", 2)]) ∧
    ((w'.ctxs 0).map fun c => (lookupVar c.st.vars "Y" == .int 6, sigs c.funcs)) = some (true, [("F", 1)]) := by
  decide +kernel

/-- The stop condition (`_returnCondition` of the root: set by a top-level
`return` or by `bloc_break`, cleared by `bloc_reset_stop`) is per context:
(1) a clone never inherits it — cloned from an original with a PENDING return / break it starts clear,
    with no saved value, and the original keeps its own;
(2) breaking, resetting, returning in any OTHER context `o` at any point of any history (that does not clone
    over `c`) changes nothing for `c` (in particular: functions called in `c` run to their end — seeded C14-m4 made them
    test the original's condition);
(3) and vice versa: nothing done to the clone touches the original's condition. -/
theorem clone_stop_independent (w : World) (src dst : CtxId) (s : Ctx) (h : w.ctxs src = some s) :
    (∃ d, (apply w (.clone src dst)).ctxs dst = some d ∧ d.retPending = false ∧ d.st.returned = none ∧ d.running = false) ∧
    (src ≠ dst → (apply w (.clone src dst)).ctxs src = some s) ∧
    (∀ (w0 : World) (pre post : List Op) (c o : CtxId) (hc : HostCall), o ≠ c → (∀ s', Op.clone s' c ∉ pre ++ post) →
      (run w0 (pre ++ [.host o hc] ++ post)).ctxs c = (run w0 (pre ++ post)).ctxs c) := by
  refine ⟨?_, ?_, ?_⟩
  · exact ⟨cloneCtx s, clone_ctx w src dst s h, rfl, rfl, rfl⟩
  · intro hne
    rw [apply_other w (.clone src dst) src hne, h]
  · intro w0 pre post c o hc ho hno
    exact others_ops_independent w0 pre [.host o hc] post c hno (by simp [Op.target, ho])

/-- the last run ended normally without handing a value to the host -/
def endedOkNone (x : Ctx) : Bool :=
  match x.result with
  | some (.ok none) => true
  | _ => false

/-- non-vacuity: the original ran `return 1` (return pending), THEN is cloned; the clone runs
`demoProg` to its end (Y = 6) while the original's next run returns at once; breaking the original in
the middle of the clone's run changes nothing for the clone -/
example :
    let w := run (initWorld [demoProg, [.returnS (some (.lit (.int 1)))]] 50)
      [.compile 0 0, .compile 0 1, .start 0 1, .step 0, .clone 0 1, .start 1 0, .step 1, .step 1, .host 0 .brk, .start 0 0,
       .step 1, .step 1, .step 1]
    ((w.ctxs 0).map fun c => (c.retPending, c.running, endedOkNone c, lookupVar c.st.vars "Y" == .null Ty.int)) =
      some (true, false, true, true) ∧
    ((w.ctxs 1).map fun c => (c.retPending, c.running, lookupVar c.st.vars "Y" == .int 6, c.st.output)) =
      some (false, false, true, [54, 10]) := by
  decide +kernel

/-- a break that arrives DURING a run ends it at the next statement boundary, successfully; after
`bloc_reset_stop` the context runs again -/
example :
    let w := run demoWorld [.start 0 0, .step 0, .step 0, .host 0 .brk, .step 0, .step 0]
    let w' := run w [.host 0 .resetStop, .start 0 0, .step 0, .step 0, .step 0, .step 0, .step 0]
    ((w.ctxs 0).map fun c => (c.running, endedOkNone c, lookupVar c.st.vars "Y" == .null Ty.int, c.retPending)) =
      some (false, true, true, true) ∧
    ((w'.ctxs 0).map fun c => (c.running, lookupVar c.st.vars "Y" == .int 6, c.retPending)) = some (false, true, false) := by
  decide +kernel

/-- A host call changes the one flag it names and nothing else of the context: variables, declarations,
saved value, output, run state, result. -/
theorem host_frame (h : HostCall) (x : Ctx) :
    (hostCtx h x).st = x.st ∧ (hostCtx h x).funcs = x.funcs ∧ (hostCtx h x).running = x.running ∧
    (hostCtx h x).result = x.result ∧ (hostCtx h x).pc = x.pc ∧ (hostCtx h x).prog = x.prog ∧
    (hostCtx h x).execLevel = x.execLevel ∧ (hostCtx h x).whatBuf = x.whatBuf := by
  cases h <;> exact ⟨rfl, rfl, rfl, rfl, rfl, rfl, rfl, rfl⟩

example : hostCtx .brk { retPending := false, trusted := true } = { retPending := true, trusted := true } := rfl

/-- `Executable::run` entered while the stop condition is pending (`if (ctx.returnCondition()) return 0;`):
the call succeeds at once, hands no value to the host, executes nothing — variables, declarations and
output stay — and the condition stays pending until `bloc_reset_stop`; after the reset the same `start`
begins a real run. -/
theorem start_while_pending (w : World) (c : CtxId) (pid : Nat) (x : Ctx) (hx : w.ctxs c = some x)
    (hr : x.running = false) (hp : x.retPending = true) :
    (∃ y, (apply w (.start c pid)).ctxs c = some y ∧ y.running = false ∧ endedOkNone y = true ∧ y.retPending = true ∧
      y.st.vars = x.st.vars ∧ y.st.out = x.st.out ∧ y.funcs = x.funcs) ∧
    (∃ z, (run w [.host c .resetStop, .start c pid]).ctxs c = some z ∧ z.running = true ∧ z.pc = 0 ∧ z.prog = pid ∧
      z.retPending = false ∧ z.st.vars = x.st.vars ∧ z.funcs = x.funcs) := by
  constructor
  · simp only [apply, hx, hr, hp, Bool.false_eq_true, if_false, if_true, upd_same]
    exact ⟨_, rfl, rfl, rfl, rfl, rfl, rfl, rfl⟩
  · simp only [run, List.foldl_cons, List.foldl_nil, apply, hx, upd_same, hostCtx, hr, Bool.false_eq_true, if_false]
    exact ⟨_, rfl, rfl, rfl, rfl, rfl, rfl, rfl⟩

example : ((run (initWorld [[.returnS (some (.lit (.int 1)))], demoProg] 50) [.compile 0 0, .compile 0 1, .start 0 0, .step 0]).ctxs 0).map
    (fun x => (x.running, x.retPending)) = some (false, true) := by
  decide +kernel

/-- After `clone src dst` (src ≠ dst) the original may be purged, freed,
or both, at once or at any later point of any history (`pre`/`post`: operations on any contexts, none cloning
over `dst`): the
clone still holds the variables and the declarations it copied, and everything it does afterwards —
compiling, running shared executables that call the copied functions — ends exactly as if the original
had been left alone. (In the C++ the clone's table shares the `Functor` objects through
`shared_ptr`: they survive the original's manager; fixes 137dbae / 4769647 were needed for the call
contexts and the destructor order.) -/
theorem purge_original_keeps_clone (w : World) (src dst : CtxId) (s : Ctx) (hne : src ≠ dst) (h : w.ctxs src = some s)
    (pre post : List Op) (hno : ∀ s', Op.clone s' dst ∉ pre ++ post) :
    (∀ kill ∈ [[Op.purge src], [Op.free src], [Op.purge src, Op.free src]],
      (run (apply w (.clone src dst)) (pre ++ kill ++ post)).ctxs dst = (run (apply w (.clone src dst)) (pre ++ post)).ctxs dst) ∧
    (∀ kill ∈ [[Op.purge src], [Op.free src], [Op.purge src, Op.free src]],
      ((run (apply w (.clone src dst)) kill).ctxs dst).map (fun d => (d.st.vars, d.funcs)) = some (s.st.vars, s.funcs)) := by
  have hk : ∀ kill ∈ [[Op.purge src], [Op.free src], [Op.purge src, Op.free src]], ∀ op ∈ kill, op.target ≠ dst := by
    simp [Op.target, hne]
  refine ⟨fun kill hm => others_ops_independent _ pre kill post dst hno (hk kill hm), fun kill hm => ?_⟩
  rw [run_others _ kill dst (hk kill hm), clone_ctx w src dst s h]
  rfl

/-- non-vacuity: `overProg` compiled in the original, cloned, the original purged and freed BEFORE the
clone runs the shared executable: G(2) = AREA(2,5) + AREA() = 11 through the copied table -/
example :
    let w := run (initWorld [overProg] 50) [.compile 0 0, .clone 0 1, .purge 0, .free 0, .start 1 0,
      .step 1, .step 1, .step 1, .step 1, .step 1, .step 1]
    (w.ctxs 0).isNone = true ∧
    ((w.ctxs 1).map fun c => (c.running, returnedVal c (.int 11), sigs c.funcs)) =
      some (false, true, [("AREA", 0), ("AREA", 1), ("AREA", 2), ("G", 1)]) := by
  decide +kernel

/-- What else `clone` copies and does not copy (`Context::clone`, member by member — `cloneCtx`): the
trusted flag IS copied, the trace flag is NOT (a new context does not trace), nor are the value saved
by `return`, the output buffer, a run in progress, the exec stack, the running `forall`s, the thread's
`what` buffer; `purge` keeps the trusted flag and clears the trace flag. -/
theorem clone_flags (w : World) (src dst : CtxId) (s : Ctx) (h : w.ctxs src = some s) :
    (∃ d, (apply w (.clone src dst)).ctxs dst = some d ∧ d.trusted = s.trusted ∧ d.trace = false ∧
      d.execLevel = 0 ∧ d.st.iters = [] ∧ d.pc = 0 ∧ d.whatBuf = none) ∧
    (∃ p, (apply w (.purge src)).ctxs src = some p ∧ p.trusted = s.trusted ∧ p.trace = false ∧ p.retPending = false ∧
      p.funcs = [] ∧ p.st.vars = []) := by
  constructor
  · exact ⟨cloneCtx s, clone_ctx w src dst s h, rfl, rfl, rfl, rfl, rfl, rfl⟩
  · exact ⟨purgeCtx s, (apply_target w (.purge src)).trans (congrArg (Option.map purgeCtx) h), rfl, rfl, rfl, rfl, rfl⟩

example :
    let w := run demoWorld [.host 0 (.trusted true), .host 0 (.trace true), .clone 0 3, .purge 0]
    ((w.ctxs 3).map fun c => (c.trusted, c.trace)) = some (true, false) ∧
    ((w.ctxs 0).map fun c => (c.trusted, c.trace)) = some (true, false) ∧
    ((w.ctxs 1).map fun c => (c.trusted, c.trace)) = some (false, false) := by
  decide +kernel

/-- every table of the world holds each signature once -/
def TablesNodup (w : World) : Prop := ∀ c x, w.ctxs c = some x → (sigs x.funcs).Nodup

/-- **The hypothesis of `index_call_eq_name_call` holds in every reachable world**: no operation ever
puts a signature twice into a table (`createOrReplace` replaces in place or appends a NEW signature;
`clone` copies a table that has the property; `purge` empties). -/
theorem tablesNodup_apply (w : World) (op : Op) (h : TablesNodup w) : TablesNodup (apply w op) := by
  intro c y hy
  rcases apply_ctx_cases w op c y hy with ⟨x, prog, hx, hf, _⟩ | ⟨_, x, _, rfl⟩ | ⟨s, sx, _, hsx, rfl⟩
  · exact hf ▸ (sigs_declare prog _).2 (h c x hx)
  · exact List.nodup_nil
  · exact h s sx hsx

theorem tablesNodup_run (ops : List Op) : ∀ w, TablesNodup w → TablesNodup (run w ops) :=
  run_invariant fun w op _ => tablesNodup_apply w op

theorem tablesNodup_init (progs : List (List Stmt)) (fuel : Nat) : TablesNodup (initWorld progs fuel) :=
  fun _ _ hx => initWorld_ctx hx ▸ List.nodup_nil

/-- non-vacuity: the world after compiling the overload program, cloning, redefining in the clone -/
example : TablesNodup (run (initWorld [overProg, demoProg] 50) [.compile 0 0, .clone 0 1, .compile 1 1, .start 1 0, .step 1]) :=
  tablesNodup_run _ _ (tablesNodup_init _ _)

/-- **An executable linked in a context stays linked there** (function-table part) through everything
that can happen to the context except a purge, its release, or its replacement by a clone of another
context: compiling more programs, running any executables (re-installing declarations), host calls,
and every operation on other contexts. -/
theorem linked_preserved (w : World) (op : Op) (c : CtxId) (x : Ctx) (l : List Sig) (hx : w.ctxs c = some x)
    (hl : linked l x.funcs = true) (hp : op ≠ .purge c) (hf : op ≠ .free c) (hk : ∀ s, op ≠ .clone s c) :
    ∃ y, (apply w op).ctxs c = some y ∧ linked l y.funcs = true := by
  cases hy : (apply w op).ctxs c with
  | none =>
    rcases apply_none w op c hy with e | e
    · rw [hx] at e; cases e
    · exact absurd e hf
  | some y =>
    rcases apply_ctx_cases w op c y hy with ⟨x', prog, hx', hfy, _⟩ | ⟨ho, _⟩ | ⟨s, _, ho, _⟩
    · rw [hx] at hx'; cases hx'
      exact ⟨y, rfl, hfy ▸ linked_declare l _ prog hl⟩
    · exact absurd ho hp
    · exact absurd ho (hk s)

/-- … over whole histories: no purge / free of `c`, no clone into `c`. -/
theorem linked_preserved_run (l : List Sig) (c : CtxId) (ops : List Op) : ∀ (w : World) (x : Ctx), w.ctxs c = some x →
    linked l x.funcs = true → Op.purge c ∉ ops → Op.free c ∉ ops → (∀ s, Op.clone s c ∉ ops) →
    ∃ y, (run w ops).ctxs c = some y ∧ linked l y.funcs = true := by
  intro w x hx hl hp hf hk
  exact run_invariant (P := fun v => ∃ y, v.ctxs c = some y ∧ linked l y.funcs = true)
    (fun v op hop ⟨y, hy, hly⟩ => linked_preserved v op c y l hy hly (fun e => hp (e ▸ hop)) (fun e => hf (e ▸ hop))
      fun s e => hk s (e ▸ hop)) w ⟨x, hx, hl⟩

/-- non-vacuity: clone 1 of `demoWorld` is linked to the table [F/1]; the history below (it compiles the
redefinition + overload, runs, is interrupted) has no purge / free / clone into 1 — and F/1 is still at index 0 after it -/
example : ((demoWorld.ctxs 1).map fun x => linked [("F", 1)] x.funcs) = some true ∧
    (((run { demoWorld with progs := [demoProg, redefProg] } [.compile 1 1, .start 1 1, .step 1, .step 1, .host 1 .brk, .purge 0]).ctxs 1).map
      fun y => (linked [("F", 1)] y.funcs, sigs y.funcs)) = some (true, [("F", 1), ("F", 2)]) := by
  decide +kernel

/-- **index = name in every reachable world**: `index_call_eq_name_call` without its table hypothesis —
in any world reached from a fresh process by ANY operations, for any context and any executable linked
there, the entry the C++ calls (by index) is the function the model calls (by name and arity). -/
theorem reachable_index_call_eq_name_call (progs : List (List Stmt)) (fuel : Nat) (ops : List Op) (c : CtxId) (x : Ctx)
    (l : List Sig) (name : String) (arity : Nat) (hx : (run (initWorld progs fuel) ops).ctxs c = some x)
    (hl : linked l x.funcs = true) (hm : (name, arity) ∈ l) :
    callByIndex l x.funcs name arity = callByName x.funcs name arity :=
  index_call_eq_name_call l x.funcs name arity hl (tablesNodup_run ops _ (tablesNodup_init progs fuel) c x hx) hm

example : ((run (initWorld [overProg] 50) [.compile 0 0, .clone 0 1, .purge 0]).ctxs 1).map
    (fun x => (linked [("AREA", 0), ("AREA", 1), ("AREA", 2), ("G", 1)] x.funcs,
               (callByIndex [("AREA", 0), ("AREA", 1), ("AREA", 2), ("G", 1)] x.funcs "AREA" 2).map sigOf,
               (callByName x.funcs "AREA" 2).map sigOf)) = some (true, some ("AREA", 2), some ("AREA", 2)) := by
  decide +kernel

/-! ### World ↔ Interp: a stepped run IS `runProgram`

`stepCtx` hands statement number `pc` to `exec` with fuel `w.fuel - pc - 1` — the fuel `execList` of
Model/Interp.lean has left when it reaches that statement — so the equality below is exact: same
outcome, same state, also when the fuel runs out. -/

/-- context `y` is what a finished run with interpreter result `r` leaves -/
def Finished (fs : List Func) (r : Res Flow × St) (y : Ctx) : Prop :=
  y.running = false ∧ y.result = some (outcomeOf r) ∧ y.st = r.2 ∧ y.funcs = fs

theorem stepOutcome_finished (x : Ctx) (lw : List (StmtRef × Nat)) (r : Res Flow × St)
    (hn : ∀ s', r ≠ (.ok .norm, s')) : Finished x.funcs r (stepOutcome x lw r).1 := by
  rcases r with ⟨r, s'⟩
  cases r with
  | ok fl =>
    cases fl with
    | norm => exact absurd rfl (hn s')
    | _ => exact ⟨rfl, rfl, rfl, rfl⟩
  | _ => exact ⟨rfl, rfl, rfl, rfl⟩

/-- A running context stepped `n` times, at least once per remaining statement and once to notice the end, is
what a finished `execList` of the remaining statements leaves — when the declarations among them re-install
what the table holds. -/
theorem steps_eq_execList (progs : List (List Stmt)) (fuel : Nat) : ∀ (n : Nat) (rest : List Stmt) (x : Ctx),
    x.running = true → x.retPending = false → (progs.getD x.prog []).drop x.pc = rest →
    (∀ s ∈ rest, reinstall x.funcs s = some x.funcs) → rest.length < n →
    Finished x.funcs (execList x.funcs 0 (fuel - x.pc) rest x.st) (stepsCtx progs fuel n x)
  | 0, _, _, _, _, _, _, hn => absurd hn (Nat.not_lt_zero _)
  | m + 1, rest, x, hr, hp, hd, hst, hn => by
    -- a context that is finished after this step stays as it is
    have fin : ∀ {r y}, Finished x.funcs r y → Finished x.funcs r (stepsCtx progs fuel m y) :=
      fun h => (stepsCtx_idle progs fuel _ h.1 m).symm ▸ h
    rw [stepsCtx, stepCtx, if_neg (by rw [hr]; decide), if_neg (by rw [hp]; decide), ← List.head?_drop, hd]
    cases hf : fuel - x.pc with
    | zero => exact fin (by rw [execList_zero]; exact ⟨rfl, rfl, rfl, rfl⟩)
    | succ f =>
      cases rest with
      | nil => exact fin (by rw [execList_nil]; exact ⟨rfl, rfl, rfl, rfl⟩)
      | cons s rest' =>
        dsimp only [List.head?_cons]
        rw [hst s List.mem_cons_self]
        by_cases hnorm : ∃ s', exec x.funcs 0 f s x.st = (.ok .norm, s')
        · obtain ⟨s', he⟩ := hnorm
          rw [execList_cons_norm rest' he, he]
          have := steps_eq_execList progs fuel m rest' { x with st := s', pc := x.pc + 1 } hr hp
            (by rw [← List.tail_drop, hd]; rfl) (fun t ht => hst t (List.mem_cons_of_mem _ ht)) (Nat.lt_of_succ_lt_succ hn)
          rwa [show fuel - (x.pc + 1) = f by omega] at this
        · have hn' : ∀ s', exec x.funcs 0 f s x.st ≠ (.ok .norm, s') := fun s' h => hnorm ⟨s', h⟩
          rw [execList_cons_stop rest' hn']
          exact fin (stepOutcome_finished x _ _ hn')

/-- `w`'s context `d` is about to run `prog` (executable `pid`) from the state `runProgram` starts
from: the declarations of `prog` in its table, every variable of `prog` a typed null -/
def ReadyToRun (w : World) (d : CtxId) (prog : List Stmt) : Prop :=
  ∃ x, w.ctxs d = some x ∧ x.running = true ∧ x.retPending = false ∧ x.pc = 0 ∧
    w.progs.getD x.prog [] = prog ∧ x.funcs = collectFuncs prog ∧ x.st = progInit prog {}

/-- Executing a declaration of `prog` puts back what compiling `prog` had put into the table
(`FUNCTIONStatement::doit` is then a no-op, as `exec` of Model/Interp.lean has it). True of a program
that declares each signature once and whose function bodies call only functions declared before them
(what the parser accepts); FALSE of a program that declares one signature twice — there the first
declaration is in force until the second one is executed, which `runProgram` does not model. -/
def StableDecls (prog : List Stmt) : Prop :=
  ∀ s ∈ prog, reinstall (collectFuncs prog) s = some (collectFuncs prog)

/-- A program without function declarations has nothing to re-install: for those `world_run_eq_runProgram`
and its companions hold unconditionally. -/
theorem stableDecls_of_noDecl (prog : List Stmt)
    (h : ∀ s ∈ prog, ∀ n ps rt b c, s ≠ .funcS n ps rt b c) : StableDecls prog := by
  intro s hs
  cases s with
  | funcS n ps rt b c => exact absurd rfl (h _ hs n ps rt b c)
  | _ => rfl

example : StableDecls [.letS "X" (.lit (.int 5)), .printS [.var "X"], .returnS (some (.var "X"))] :=
  stableDecls_of_noDecl _ (by simp)

/-- Every program whose declarations are well formed (each signature once, bodies call
what is declared so far — checkable by evaluation: `wfDecls [] prog`) satisfies the hypothesis of
`world_run_eq_runProgram` and its companions. -/
theorem stableDecls_of_wf (prog : List Stmt) (h : wfDecls [] prog = true) : StableDecls prog :=
  -- `collectFuncs prog` is `declare [] prog`: the same fold, by `rfl`
  reinstall_stable_of_wf prog _ ((sigs_declare prog []).2 List.nodup_nil) [] h (List.prefix_refl _)

example : wfDecls [] demoProg = true ∧ wfDecls [] overProg = true := by decide +kernel

/-- **World ↔ Interp, the core.** A context that is ready to run `prog`, stepped to the end of its run
(`n` steps, at least one per statement and one to notice the end) with nobody else moving, ends with
EXACTLY the outcome and the state `runProgram` of Model/Interp.lean computes with the same fuel: result
handed to the host, variables, saved value, output, remaining budget. -/
theorem ready_run_eq_runProgram (w : World) (d : CtxId) (prog : List Stmt) (h : ReadyToRun w d prog)
    (hsd : StableDecls prog) (n : Nat) (hn : prog.length + 1 ≤ n) :
    ∃ y, (alone w d n).ctxs d = some y ∧ y.running = false ∧
      y.result = some (runProgram w.fuel prog).outcome ∧ y.st = (runProgram w.fuel prog).st ∧
      y.funcs = collectFuncs prog := by
  obtain ⟨x, hx, hr, hp, hpc, hprog, hf, hst⟩ := h
  have fin := steps_eq_execList w.progs w.fuel n prog x hr hp (by rw [hpc, hprog]; rfl) (by rw [hf]; exact hsd) hn
  rw [hpc, Nat.sub_zero, hf, hst] at fin
  obtain ⟨e1, e2⟩ := runProgram_eq_execList w.fuel prog {}
  exact ⟨_, run_steps d n w x hx, e1 ▸ e2 ▸ fin⟩

/-- **World ↔ Interp under every schedule.** The same, with the steps of `d` interleaved in ANY way
with steps of any other contexts (`sched`: any list of context ids in which `d` occurs often enough):
what a clone computes on its thread is `runProgram` — the semantics C04–C08 are proved about. -/
theorem interleaved_run_eq_runProgram (w : World) (d : CtxId) (prog : List Stmt) (h : ReadyToRun w d prog)
    (hsd : StableDecls prog) (sched : List CtxId) (hn : prog.length + 1 ≤ sched.count d) :
    ∃ y, (run w (sched.map Op.step)).ctxs d = some y ∧ y.running = false ∧
      y.result = some (runProgram w.fuel prog).outcome ∧ y.st = (runProgram w.fuel prog).st := by
  rw [interleaving_eq_sequential]
  obtain ⟨y, hy, h1, h2, h3, _⟩ := ready_run_eq_runProgram w d prog h hsd _ hn
  exact ⟨y, hy, h1, h2, h3⟩

/-- The original after `compile` + `start` is ready … -/
theorem original_ready (fuel : Nat) (prog : List Stmt) :
    ReadyToRun (run (initWorld [prog] fuel) [.compile 0 0, .start 0 0]) 0 prog := by
  -- what `compile` leaves in a fresh context is `collectFuncs prog` (= `declare [] prog`) and `progInit prog {}`, by `rfl`
  exact ⟨{ st := progInit prog {}, funcs := collectFuncs prog, running := true }, rfl, rfl, rfl, rfl, rfl, rfl, rfl⟩

/-- … and so is every clone `d` of the compiled original (clone, then `start` of the SHARED
executable in the clone — nothing is compiled in the clone), whatever is done afterwards to other
contexts: more clones, their starts, their steps, purge / free of the original (`more`). -/
theorem clone_ready (fuel : Nat) (prog : List Stmt) (d : CtxId) (more : List Op)
    (hm : ∀ op ∈ more, op.target ≠ d) :
    ReadyToRun (run (initWorld [prog] fuel) ([.compile 0 0, .clone 0 d, .start d 0] ++ more)) d prog := by
  rw [run_append]
  have := run_others (run (initWorld [prog] fuel) [.compile 0 0, .clone 0 d, .start d 0]) more d hm
  have hc : (run (initWorld [prog] fuel) [.compile 0 0, .clone 0 d, .start d 0]).ctxs d =
      some { st := progInit prog {}, funcs := collectFuncs prog, running := true } := by
    have h := apply_target (apply (apply (initWorld [prog] fuel) (.compile 0 0)) (.clone 0 d)) (.start d 0)
    rw [show (Op.start d 0).target = d from rfl, show (Op.start d 0).source = d from rfl, clone_ctx _ 0 d _ rfl] at h
    -- the compiled original holds `collectFuncs prog` and `progInit prog {}`, as in `original_ready`
    exact h
  refine ⟨_, this.trans hc, rfl, rfl, rfl, ?_, rfl, rfl⟩
  rw [run_progs, run_progs]; rfl

/-- Exact, no fuel slack: the single-context
`World.run` of a program IS `Interp.runProgram`. -/
theorem world_run_eq_runProgram (fuel : Nat) (prog : List Stmt) (hsd : StableDecls prog) (n : Nat) (hn : prog.length + 1 ≤ n) :
    ∃ y, (run (initWorld [prog] fuel) ([.compile 0 0, .start 0 0] ++ List.replicate n (.step 0))).ctxs 0 = some y ∧
      y.running = false ∧ y.result = some (runProgram fuel prog).outcome ∧ y.st = (runProgram fuel prog).st ∧
      y.funcs = collectFuncs prog := by
  rw [run_append]
  exact ready_run_eq_runProgram _ 0 prog (original_ready fuel prog) hsd n hn

/-- `k` clones of one compiled original, all running the shared
executable under ANY interleaving of their statement steps (and of steps of the original): every clone
whose run got to its end ends with `runProgram`'s outcome and state. -/
theorem clones_run_eq_runProgram (fuel : Nat) (prog : List Stmt) (hsd : StableDecls prog) (d : CtxId) (more : List Op)
    (hm : ∀ op ∈ more, op.target ≠ d) (sched : List CtxId) (hn : prog.length + 1 ≤ sched.count d) :
    ∃ y, (run (initWorld [prog] fuel) ([.compile 0 0, .clone 0 d, .start d 0] ++ more ++ sched.map Op.step)).ctxs d = some y ∧
      y.running = false ∧ y.result = some (runProgram fuel prog).outcome ∧ y.st = (runProgram fuel prog).st := by
  rw [run_append]
  have := interleaved_run_eq_runProgram _ d prog (clone_ready fuel prog d more hm) hsd sched hn
  rwa [run_fuel] at this

/-- `demoProg` and `overProg` (three overloads, a function calling two of them) satisfy the hypothesis -/
theorem stable_demoProg : StableDecls demoProg := stableDecls_of_wf _ (by decide +kernel)

theorem stable_overProg : StableDecls overProg := stableDecls_of_wf _ (by decide +kernel)

def redeclProg : List Stmt :=
  [.funcS "F" [] Ty.int [.returnS (some (.lit (.int 1)))] [],
   .letS "X" (.fcall "F" []),
   .funcS "F" [] Ty.int [.returnS (some (.lit (.int 2)))] [],
   .letS "Y" (.fcall "F" [])]

/-- The hypothesis is needed, and where it fails the CODE agrees with `World`, not with `runProgram`: a
program that declares F twice with a call in between. Executing the first declaration puts the first
body back (`FUNCTIONStatement::doit`), so X = 1 and Y = 2 (checked on the real library: family
`redecl` of vlib/props/c14.py); `runProgram` of Model/Interp.lean resolves both calls in the table the
compilation left (second body): X = 2. -/
theorem stableDecls_needed :
    let w := run (initWorld [redeclProg] 50) ([.compile 0 0, .start 0 0] ++ List.replicate 5 (.step 0))
    ((w.ctxs 0).map fun c => (c.running, lookupVar c.st.vars "X" == .int 1, lookupVar c.st.vars "Y" == .int 2)) = some (false, true, true) ∧
    (lookupVar (runProgram 50 redeclProg).st.vars "X" == .int 2) = true ∧
    (lookupVar (runProgram 50 redeclProg).st.vars "Y" == .int 2) = true := by
  decide +kernel

/-- … and the criterion rejects it (F/0 is declared twice) -/
example : wfDecls [] redeclProg = false := by decide +kernel

/-- **A declaration statement re-installs its function where it is executed — and only there.** Clone 1
redefines F (`redefProg`: F(p) = 100·p) and runs it (Y = 500); then it runs the OLD shared executable
`demoProg`, whose first statement is the declaration of the old F: clone 1's F/1 is the old one again
(Y = 6), the overload F/2 it added stays, and the original — which never ran `redefProg` — was never
affected. -/
theorem old_executable_reinstalls_its_functions :
    let w := run (initWorld [demoProg, redefProg] 50)
      ([.compile 0 0, .clone 0 1, .compile 1 1, .start 1 1, .step 1, .step 1, .step 1, .step 1] )
    let w' := run w ([.start 1 0, .step 1, .step 1, .step 1, .step 1, .step 1, .start 0 0, .step 0, .step 0, .step 0, .step 0, .step 0])
    ((w.ctxs 1).map fun c => (lookupVar c.st.vars "Y" == .int 500, sigs c.funcs)) = some (true, [("F", 1), ("F", 2)]) ∧
    ((w'.ctxs 1).map fun c => (c.running, lookupVar c.st.vars "Y" == .int 6, sigs c.funcs)) = some (false, true, [("F", 1), ("F", 2)]) ∧
    ((w'.ctxs 0).map fun c => (c.running, lookupVar c.st.vars "Y" == .int 6, sigs c.funcs)) = some (false, true, [("F", 1)]) := by
  decide +kernel

/-- non-vacuity: `demoProg` (4 statements) — original and two clones, the clones started after
everything was set up, 15 interleaved steps: clone 2 ends as `runProgram` says (Y = 6, "6\n") -/
example : (runProgram 50 demoProg).st.output = [54, 10] ∧
    lookupVar (runProgram 50 demoProg).st.vars "Y" == .int 6 := by
  decide +kernel

example : ∃ y, (run (initWorld [demoProg] 50) ([.compile 0 0, .clone 0 2, .start 2 0] ++ [.clone 0 1, .start 1 0, .purge 0] ++
      ([2, 0, 1, 1, 2, 0, 0, 2, 1, 1, 0, 2, 2, 1, 0].map Op.step))).ctxs 2 = some y ∧
    y.running = false ∧ y.result = some (runProgram 50 demoProg).outcome ∧ y.st = (runProgram 50 demoProg).st :=
  clones_run_eq_runProgram 50 demoProg stable_demoProg 2 _ (by decide) _ (by decide)

/-- The same for every well-formed program — the hypothesis discharged by evaluation of
`wfDecls [] prog` (true of every program the generators of the correspondence produce except the
family `redecl`, which exists to show the difference). -/
theorem world_run_eq_runProgram_wf (fuel : Nat) (prog : List Stmt) (hwf : wfDecls [] prog = true) (n : Nat) (hn : prog.length + 1 ≤ n) :
    ∃ y, (run (initWorld [prog] fuel) ([.compile 0 0, .start 0 0] ++ List.replicate n (.step 0))).ctxs 0 = some y ∧
      y.running = false ∧ y.result = some (runProgram fuel prog).outcome ∧ y.st = (runProgram fuel prog).st ∧
      y.funcs = collectFuncs prog :=
  world_run_eq_runProgram fuel prog (stableDecls_of_wf prog hwf) n hn

theorem clones_run_eq_runProgram_wf (fuel : Nat) (prog : List Stmt) (hwf : wfDecls [] prog = true) (d : CtxId) (more : List Op)
    (hm : ∀ op ∈ more, op.target ≠ d) (sched : List CtxId) (hn : prog.length + 1 ≤ sched.count d) :
    ∃ y, (run (initWorld [prog] fuel) ([.compile 0 0, .clone 0 d, .start d 0] ++ more ++ sched.map Op.step)).ctxs d = some y ∧
      y.running = false ∧ y.result = some (runProgram fuel prog).outcome ∧ y.st = (runProgram fuel prog).st :=
  clones_run_eq_runProgram fuel prog (stableDecls_of_wf prog hwf) d more hm sched hn

example : ∃ y, (run (initWorld [overProg] 50) ([.compile 0 0, .start 0 0] ++ List.replicate 9 (.step 0))).ctxs 0 = some y ∧
    y.running = false ∧ y.result = some (runProgram 50 overProg).outcome ∧ y.st = (runProgram 50 overProg).st ∧
    y.funcs = collectFuncs overProg :=
  world_run_eq_runProgram_wf 50 overProg (by decide +kernel) 9 (by decide)

/-- Three contexts (original + two clones) running `demoProg` under an interleaved schedule: each
ends with Y = 6 and the output "6\n" of its own. -/
def demoRun : World :=
  run demoWorld ([.start 0 0, .start 1 0, .start 2 0] ++ [2, 0, 1, 1, 2, 0, 0, 2, 1, 1, 0, 2, 2, 1, 0].map Op.step)

example : ((demoRun.ctxs 1).map fun c => (c.running, lookupVar c.st.vars "Y" == .int 6, c.st.output)) =
    some (false, true, [54, 10]) := by
  decide +kernel

example : ((demoRun.ctxs 2).map fun c => (c.running, lookupVar c.st.vars "Y" == .int 6, c.st.output)) =
    some (false, true, [54, 10]) := by
  decide +kernel

/-- freeing the original in the middle changes nothing for clone 1 -/
example :
    ((run demoWorld ([.start 1 0, .step 1, .step 1, .purge 0, .step 1, .free 0, .step 1, .step 1])).ctxs 1).map
      (fun c => (c.running, lookupVar c.st.vars "Y" == .int 6, c.st.output)) = some (false, true, [54, 10]) := by
  decide +kernel

end BlocV.C14
