/-
  C17 — every module object is destroyed exactly once, after its last reference is gone.
  Property theorems about the handle reference counter of blocc/complex.cpp (Model/Plugin.lean, parts H, S and M) and
  about the object language on top of it (Model/ObjProg.lean). The invariants: Proofs/Lemmas/Handle.lean (`Inv` of the
  counter, `Owned` of the contexts), Lemmas/Method.lean (`MInv` of the modules); the refinement: Lemmas/Refine.lean.
-/
import BlocV.Proofs.Lemmas.Method
import BlocV.Proofs.Lemmas.Refine

namespace BlocV.Proofs.C17
open BlocV.Plugin BlocV.Plugin.H BlocV.Proofs.Handle

/-- After ANY sequence of handle operations that the class survives (no null dereference),
for every object created so far that the module has not been asked to destroy, the shared counter equals the number of
live handles referring to it, and that number is positive. -/
theorem refs_eq_live_handles (ops : List HOp) (s : HState) (h : run HState.init ops = .ok s) (o : Nat)
    (ho : o < s.nobj) (hf : s.freed o = false) : s.cnt o = (refs s o : Int) ∧ 0 < refs s o :=
  let hi := run_inv init_inv h
  ⟨(hi.live o ho hf).1, (hi.live o ho hf).2.1⟩

example : ∃ s, run HState.init [.new, .copy 0, .new, .assign 2 0, .dtor 1] = .ok s ∧ s.nobj = 2 ∧ s.freed 0 = false ∧ refs s 0 = 2 := by
  refine ⟨_, rfl, ?_⟩; decide +kernel

/-- The module's destructor has been called once for an object whose
counter was deleted, never for the others; so never twice. -/
theorem destroy_at_most_once (ops : List HOp) (s : HState) (h : run HState.init ops = .ok s) (o : Nat) (ho : o < s.nobj) :
    s.destroyed o ≤ 1 ∧ (s.destroyed o = 1 ↔ s.freed o = true) ∧ (s.destroyed o = 1 ↔ refs s o = 0) :=
  (run_inv init_inv h).destroyed_iff ho

example : ∃ s, run HState.init [.new, .copy 0, .dtor 0, .dtor 1] = .ok s ∧ s.destroyed 0 = 1 := ⟨_, rfl, by decide +kernel⟩

/-- An operation makes the module destroy an object only if, before it, exactly one live
handle referred to the object (counter = 1), and afterwards none does. -/
theorem destroy_at_zero_only (ops : List HOp) (s s' : HState) (op : HOp) (h : run HState.init ops = .ok s)
    (hs : step s op = .ok s') (o : Nat) (ho : o < s.nobj) (hd : s'.destroyed o ≠ s.destroyed o) :
    s.cnt o = 1 ∧ refs s o = 1 ∧ refs s' o = 0 ∧ s'.destroyed o = s.destroyed o + 1 := by
  obtain ⟨hi', he, _⟩ := step_spec (run_inv init_inv h) hs
  obtain ⟨h1, h2, h3, h4⟩ := he.destroyed_ne ho hd
  exact ⟨h1, h2, (hi'.dead o (Nat.lt_of_lt_of_le ho he.nobj_le) h3).1, h4⟩

example : ∃ s s', run HState.init [.new, .copy 0, .dtor 0] = .ok s ∧ step s (.dtor 1) = .ok s' ∧ s'.destroyed 0 ≠ s.destroyed 0 :=
  ⟨_, _, rfl, rfl, by decide +kernel⟩

/-- At the handle level: once every handle that was ever constructed has been destructed, every
object the factory created has been handed back to its module exactly once. -/
theorem no_leak_at_quiescence (ops : List HOp) (s : HState) (h : run HState.init ops = .ok s)
    (hq : quiescent s = true) (o : Nat) (ho : o < s.nobj) : s.destroyed o = 1 :=
  (run_inv init_inv h).destroyed_of_quiescent hq ho

example : ∃ s, run HState.init [.new, .new, .copy 0, .assign 0 1, .dtor 0, .dtor 1, .dtor 2] = .ok s ∧ quiescent s = true ∧ s.nobj = 2 :=
  ⟨_, rfl, by decide +kernel⟩

/-- The class never touches a deleted counter: the only C-level hazard of any operation sequence is the null
dereference (a malformed sequence naming a destructed handle aside). -/
theorem no_dangling_counter (ops : List HOp) (s : HState) (op : HOp) (h : run HState.init ops = .ok s) :
    step s op ≠ .error .dangling :=
  step_ne_dangling (run_inv init_inv h) op

/-! ### store level: every history of context operations is a history of handle operations -/

theorem sstep_inv {s s' : S.SState} (hi : Inv s.h) (op : S.SOp) (h : S.sstep s op = .ok s') : Inv s'.h :=
  sstep_preserves h (fun hi hs _ => (step_spec hi hs).1) hi

theorem srun_inv {ops : List S.SOp} {s s' : S.SState} (h : S.srun s ops = .ok s') (hi : Inv s.h) : Inv s'.h :=
  srun_preserves sstep_inv h hi

/-- Whatever contexts do with values holding objects (construct, `Value::clone`, `Value::_clear`,
move to another owner, runtime contexts of calls, release of a root context with everything cached under it): no object is ever destroyed twice, an object is destroyed iff no live handle shares
it, and if no handle is left every object was destroyed exactly once. -/
theorem store_destroy_exactly (ops : List S.SOp) (s : S.SState) (h : S.srun S.SState.init ops = .ok s) (o : Nat)
    (ho : o < s.h.nobj) :
    s.h.destroyed o ≤ 1 ∧ (s.h.destroyed o = 1 ↔ refs s.h o = 0) ∧ (quiescent s.h = true → s.h.destroyed o = 1) :=
  have hi := srun_inv h init_inv
  ⟨(hi.destroyed_iff ho).1, (hi.destroyed_iff ho).2.2, fun hq => hi.destroyed_of_quiescent hq ho⟩

/-- At the context level: for EVERY history of store-level operations, once
every context has been released no handle is left, and every object the factory created has been handed back to its
module exactly once. (`FunctorManager::createEnv` hands the runtime context of a call whose argument raises back to the
function's cache — the repair of finding C17.createEnv_arg_throw_leaks_context, status `fixed` in known_findings.json —,
so no operation loses a context and the ownership invariant `Owned` — every handle not yet destructed belongs to a live
context — holds without exception.) -/
theorem no_leak_at_quiescence_ctx (ops : List S.SOp) (s : S.SState) (h : S.srun S.SState.init ops = .ok s)
    (hr : S.allReleased s = true) : quiescent s.h = true ∧ ∀ o, o < s.h.nobj → s.h.destroyed o = 1 := by
  have hq := owned_allReleased_quiescent (srun_preserves sstep_owned h owned_init) hr
  exact ⟨hq, fun o ho => (store_destroy_exactly ops s h o ho).2.2 hq⟩

/-! `failedCallOps`: a call that fails while its arguments are bound (the runtime context of the failing call —
context 1, holding a copy of the object in a parameter slot — stays cached under root 0), and the caller drops its
reference first: the object is destroyed by the release of the root, exactly once. `twoRootsOps`: an object of root 0,
copied into root 1 and into a runtime context cached under root 1, outlives the release of root 0 and goes with root 1. -/

def failedCallOps : List S.SOp := [.newCtx, .construct 0, .childCtx 0, .clone 0 1, .clear 0, .release 0]
def twoRootsOps : List S.SOp :=
  [.newCtx, .construct 0, .newCtx, .clone 0 1, .childCtx 1, .clone 1 2, .release 0, .give 2 1, .construct 2, .release 1]

def endsWith (ops : List S.SOp) (released : Bool) (nobj : Nat) (destroyed : List Nat) : Bool :=
  match S.srun S.SState.init ops with
  | .ok s => S.allReleased s == released && s.h.nobj == nobj && (List.range nobj).map s.h.destroyed == destroyed
  | .error _ => false

example : endsWith failedCallOps true 1 [1] = true := by decide +kernel
example : endsWith twoRootsOps true 2 [1, 1] = true := by decide +kernel
/-- not vacuous the other way either: while the root is live the object held by the cached runtime context is not destroyed -/
example : endsWith (failedCallOps.take 5) false 1 [0] = true := by decide +kernel

section PartM
open BlocV.Plugin.M BlocV.Proofs.Method

/-- After ANY history of module-level operations (constructions of objects of any
modules, failing constructors, every store-level operation — copies, clears, moves, calls' runtime contexts, release of
contexts —, method calls compiled for any module on any value), every execution of a method the modules have seen was
on an object that had been created and not yet destroyed at that moment (the `pos` events before it contain its
`create` and no `destroy`), and the object belongs to the module whose method it is. The receiver check of
`MemberMETHODExpression::value` is `mstep … (.method …)`: `receiver_check` below says what it does. -/
theorem method_on_live_matching_object (ops : List MOp) (s : MState) (h : mrun MState.init ops = .ok s)
    (c : Call) (hc : c ∈ s.calls) :
    c.pos ≤ s.s.h.log.length ∧ Ev.create c.o ∈ s.s.h.log.take c.pos ∧ Ev.destroy c.o ∉ s.s.h.log.take c.pos ∧
    s.modOf[c.o]? = some c.m :=
  (mrun_inv minv_init h).calls c hc

/-- a history in which a method of module 1 is tried on an object of module 0 (refused), a method of module 0 runs on
it, the object is destroyed and a later object of module 1 gets its call -/
def methOps : List MOp :=
  [.store .newCtx, .construct 0 0, .method 0 1 "id" [], .method 0 0 "id" [], .store (.clone 0 0), .store (.clear 0),
   .method 1 0 "peer" ["O:vmod#1"], .store (.clear 1), .constructFail 0 1, .construct 0 1, .method 2 1 "id" [], .store (.release 0)]

example : ∃ s, mrun MState.init methOps = .ok s ∧
    s.calls = [⟨0, 0, 1, "id", []⟩, ⟨0, 0, 1, "peer", ["O:vmod#1"]⟩, ⟨1, 1, 3, "id", []⟩] ∧ s.refused = 1 ∧ s.failed = 1 ∧
    s.modOf = [0, 1] := ⟨_, rfl, by decide +kernel⟩

/-- **The receiver check** (member_complex.cpp:56-60): on a value holding a live handle of object `o`, a method compiled
for module `m` is executed iff `o` was created by module `m`; otherwise the module is not called at all (the script gets
the run-time error `EXC_RT_BAD_COMPLEX_S`). In both cases no handle, counter or context changes. -/
theorem receiver_check (s : MState) (i m : Nat) (name : String) (args : List String) (o : Nat)
    (hu : s.unloaded = false) (hl : liveSlot s.s.h i = some (.ref o)) :
    (s.modOf[o]? = some m → mstep s (.method i m name args) = .ok { s with calls := s.calls ++ [⟨o, m, s.s.h.log.length, name, args⟩] }) ∧
    (s.modOf[o]? ≠ some m → mstep s (.method i m name args) = .ok { s with refused := s.refused + 1 }) := by
  constructor
  · intro hm; simp [mstep, mstepLoaded, hu, hl, hm]
  · intro hm; simp [mstep, mstepLoaded, hu, hl, hm]

example : ∃ s, mrun MState.init (methOps.take 2) = .ok s ∧ s.unloaded = false ∧ liveSlot s.s.h 0 = some (.ref 0) ∧ s.modOf[0]? ≠ some 1 :=
  ⟨_, rfl, by decide +kernel⟩

set_option linter.unusedVariables false in
/-- One method-call expression of the script makes the module see at most one call, and that
call carries exactly the method name and the argument list of the expression, on exactly the object the receiver value
holds; nothing else changes (a method call by itself creates and destroys nothing). -/
theorem args_passed_verbatim (s s' : MState) (i m : Nat) (name : String) (args : List String)
    (hu : s.unloaded = false) (h : mstep s (.method i m name args) = .ok s') :
    s'.s = s.s ∧ s'.modOf = s.modOf ∧
    ((s'.calls = s.calls ∧ s'.refused = s.refused + 1) ∨
     (∃ o, liveSlot s.s.h i = some (.ref o) ∧ s'.calls = s.calls ++ [⟨o, m, s.s.h.log.length, name, args⟩] ∧ s'.refused = s.refused)) := by
  cases mstep_eff h with
  | call _ hl _ => exact ⟨rfl, rfl, .inr ⟨_, hl, rfl, rfl⟩⟩
  | refused => exact ⟨rfl, rfl, .inl ⟨rfl, rfl⟩⟩

example : ∃ s s', mrun MState.init (methOps.take 6) = .ok s ∧ s.unloaded = false ∧ mstep s (.method 1 0 "peer" ["O:vmod#1"]) = .ok s' ∧
    s'.calls = s.calls ++ [⟨0, 0, 1, "peer", ["O:vmod#1"]⟩] := ⟨_, _, rfl, rfl, rfl, by decide +kernel⟩

/-- the constructor calls of a history that produced an object / that failed -/
def ctorOk : MOp → Bool
  | .construct _ _ => true
  | _ => false
def ctorFailed : MOp → Bool
  | .constructFail _ _ => true
  | _ => false

def isDeinit : MOp → Bool
  | .deinit => true
  | _ => false

theorem mrun_counts {ops : List MOp} {s s' : MState} (hu : s.unloaded = false)
    (hnd : ∀ op ∈ ops, isDeinit op = false) (h : mrun s ops = .ok s') :
    s'.modOf.length = s.modOf.length + (ops.filter ctorOk).length ∧
    s'.failed = s.failed + (ops.filter ctorFailed).length ∧ s'.unloaded = false := by
  induction ops generalizing s with
  | nil => cases h; simp [hu]
  | cons op rest ih =>
    simp only [mrun] at h
    split at h
    next s1 h1 =>
      have hstep : s1.modOf.length = s.modOf.length + (if ctorOk op then 1 else 0) ∧
          s1.failed = s.failed + (if ctorFailed op then 1 else 0) ∧ s1.unloaded = false := by
        cases mstep_eff h1 with
        | construct => exact ⟨List.length_append, rfl, hu⟩
        | noModule hu' => exact absurd (hu ▸ hu') Bool.false_ne_true
        | store | failed | call | refused => exact ⟨rfl, rfl, hu⟩
        | deinit | deinitAgain => exact absurd (hnd .deinit (List.mem_cons_self ..)) (by decide)
      obtain ⟨a, b, c⟩ := ih hstep.2.2 (fun o ho => hnd o (List.mem_cons_of_mem _ ho)) h
      simp only [← List.countP_eq_length_filter, List.countP_cons] at a b ⊢
      exact ⟨by omega, by omega, c⟩
    · cases h

/-- For every history: an object exists exactly for every constructor call that SUCCEEDED — a
constructor that returns nothing or raises creates no object, has no handle and will never meet the destructor
(`failed` only counts it; exact while the modules stay loaded: after `bloc_deinit_plugins` EVERY constructor call fails); the
module's destructor is called only for objects that were created, at most once each;
and once every context is released, exactly once for each: the `create` and `destroy` events of the log pair up. -/
theorem destroy_iff_created (ops : List MOp) (s : MState) (h : mrun MState.init ops = .ok s) :
    ((∀ op ∈ ops, isDeinit op = false) → s.s.h.nobj = (ops.filter ctorOk).length ∧ s.failed = (ops.filter ctorFailed).length) ∧
    (∀ o, Ev.create o ∈ s.s.h.log ↔ o < s.s.h.nobj) ∧
    (∀ o, Ev.destroy o ∈ s.s.h.log → Ev.create o ∈ s.s.h.log) ∧
    (∀ o, s.s.h.log.count (Ev.destroy o) ≤ 1) ∧
    (S.allReleased s.s = true → ∀ o, Ev.create o ∈ s.s.h.log → s.s.h.log.count (Ev.destroy o) = 1) := by
  have hm := mrun_inv minv_init h
  refine ⟨fun hnd =>
            -- the objects are the entries of the module table, which grows at a successful construction only
            have hc := mrun_counts rfl hnd h
            ⟨hm.mods.symm.trans (hc.1.trans (Nat.zero_add _)), hc.2.1.trans (Nat.zero_add _)⟩,
          (logOk_iff.mp hm.log).1,
          fun o hd => hm.log.created o (hm.log.destroyed o hd).2, ?_, ?_⟩
  · intro o
    by_cases ho : o < s.s.h.nobj
    · rw [hm.log.destroyCount o ho]; exact (hm.inv.destroyed_iff ho).1
    · rw [List.count_eq_zero.mpr fun hd => ho (hm.log.destroyed o hd).2]; exact Nat.zero_le _
  · intro hr o hcre
    have ho := hm.log.createdOnly o hcre
    obtain ⟨sops, hs⟩ := mrun_srun h
    rw [hm.log.destroyCount o ho]
    exact (no_leak_at_quiescence_ctx sops _ hs hr).2 o ho

example : ∃ s, mrun MState.init methOps = .ok s ∧ S.allReleased s.s = true ∧ s.s.h.nobj = 2 ∧ s.failed = 1 ∧
    s.s.h.log = [.create 0, .destroy 0, .create 1, .destroy 1] := ⟨_, rfl, by decide +kernel⟩

/-- Once no handle is left (every context that held objects was released — the use the
header documents: "call it on program exit"), unloading the modules is harmless: whatever the host and old executables
do afterwards, no operation calls through the deleted module instance, and no handle ever appears again (every
constructor call fails). -/
theorem deinit_after_release_safe (s : MState) (hq : quiescent s.s.h = true) (hu : s.unloaded = true) (ops : List MOp) :
    mrun s ops ≠ .error .nullDeref ∧ ∀ s', mrun s ops = .ok s' → quiescent s'.s.h = true ∧ s'.unloaded = true := by
  induction ops generalizing s with
  | nil => exact ⟨fun h => (nomatch h), fun s' h => by cases h; exact ⟨hq, hu⟩⟩
  | cons op rest ih =>
    simp only [mrun, mstep, hu, ↓reduceIte]
    rcases mstepUnloaded_quiescent hq op with h1 | ⟨s1, h1, a, b⟩
    · rw [h1]; exact ⟨fun h => (nomatch h), fun _ h => (nomatch h)⟩
    · rw [h1]; exact ih s1 (a ▸ hq) (b ▸ hu)

/-! … and the full statement "unloading is always harmless" is FALSE for the code: with an object still referenced,
the release that follows calls `destroyObject` through a null module instance (finding
C17.deinit_with_live_objects_null_call; the same four steps crash the library: probe case `dq3`, UBSan member call on
null pointer). The documented order is fine. -/

def mrunErr (ops : List MOp) : Option HErr :=
  match mrun MState.init ops with
  | .error e => some e
  | .ok _ => none

example : mrunErr [.store .newCtx, .construct 0 0, .deinit, .store (.release 0)] = some .nullDeref := by decide +kernel
example : mrunErr [.store .newCtx, .construct 0 0, .deinit, .method 0 0 "id" []] = some .nullDeref := by decide +kernel
example : mrunErr [.store .newCtx, .construct 0 0, .store (.release 0), .deinit] = none := by decide +kernel
example : ∃ s, mrun MState.init [.store .newCtx, .construct 0 0, .store (.release 0), .deinit, .store .newCtx, .construct 1 0] = .ok s ∧
    quiescent s.s.h = true ∧ s.unloaded = true ∧ s.failed = 1 ∧ s.s.h.log = [.create 0, .destroy 0] := ⟨_, rfl, by decide +kernel⟩

end PartM

section Refinement
open BlocV.ObjProg BlocV.Proofs.Refine

/-- Whatever one instruction of the object language (Model/ObjProg.lean: constructor, copy,
typed null, `self`, `spawn`, `id`, `peer`, table construction / `put` / `at`, temporary, call, call whose argument
raises, return, raise, begin…exception, loop — with every nesting and every call depth `fuel` allows), a block, a loop
or a call does to the store, it does through a SEQUENCE OF STORE-LEVEL OPERATIONS: there is a list of `SOp`s that takes
the store before to the store after. Also on every error exit (run-time error, uncaught exception, argument that
raises, model hazard). So every theorem about ALL `SOp` histories is a theorem about all programs. -/
theorem objprog_refines_store (funcs : List Func) (root fuel : Nat) :
    (∀ ins st fr, ∃ ops, S.srun st.s ops = .ok (exec funcs root fuel ins st fr).1.s) ∧
    (∀ is st fr, ∃ ops, S.srun st.s ops = .ok (execList funcs root fuel is st fr).1.s) ∧
    (∀ n body st fr, ∃ ops, S.srun st.s ops = .ok (execLoop funcs root fuel n body st fr).1.s) ∧
    (∀ x f args thr st fr, ∃ ops, S.srun st.s ops = .ok (doCall funcs root fuel x f args thr st fr).1.s) :=
  have h := exec_refines funcs root fuel
  ⟨h.exec, h.list, h.loop, h.call⟩

/-- a program on which the statement is not trivial: an object, a copy, a call that returns its parameter, a temporary —
the store after it is reached by store-level operations and holds 2 objects -/
def demoFuncs : List Func := [⟨"H", 1, [.ret "P1"]⟩]
def demoProg : List Instr := [.new "A" 1, .cp "B" "A", .call "C" "H" ["A"], .tmp 3]
def demoSt : St := { s := { S.SState.init with ctxs := [.live], root := [0] }, evs := [], cache := [] }

/- (Concrete runs of `exec` are not evaluated here by `decide`: the event strings make kernel evaluation of a whole
program very slow. The compiled model runs 500+ generated programs per check run against the library: driver command `obj`.) -/
example : ∃ ops, S.srun demoSt.s ops = .ok (execList demoFuncs 0 8 demoProg demoSt ⟨0, []⟩).1.s :=
  (objprog_refines_store demoFuncs 0 8).2.1 demoProg demoSt ⟨0, []⟩

/-- **Program-level lifetime theorem** (corollary of the refinement and of `store_destroy_exactly` /
`no_leak_at_quiescence_ctx`): start from any store the host can have produced, run ANY program, then let the host do
anything (run more programs, clone, purge, free: any `SOp`s). No object is ever destroyed twice, an object is destroyed
iff no live handle shares it, and once every context is released every object ever created — by this program, before
it or after it — has been handed to its module's destructor exactly once. -/
theorem objprog_lifetime (funcs : List Func) (root fuel : Nat) (prog : List Instr) (st : St) (fr : Frame)
    (pre post : List S.SOp) (hpre : S.srun S.SState.init pre = .ok st.s) (s : S.SState)
    (hpost : S.srun (execList funcs root fuel prog st fr).1.s post = .ok s) (o : Nat) (ho : o < s.h.nobj) :
    s.h.destroyed o ≤ 1 ∧ (s.h.destroyed o = 1 ↔ refs s.h o = 0) ∧ (S.allReleased s = true → s.h.destroyed o = 1) := by
  obtain ⟨all, hall⟩ : Reach S.SState.init s :=
    .trans ⟨pre, hpre⟩ (.trans ((exec_refines funcs root fuel).list prog st fr) ⟨post, hpost⟩)
  have h1 := store_destroy_exactly all s hall o ho
  exact ⟨h1.1, h1.2.1, fun hr => (no_leak_at_quiescence_ctx all s hall hr).2 o ho⟩

/-- the hypotheses are satisfiable: `demoSt` is what `newCtx` makes of the empty store; any program; no further host step -/
example : ∃ s, S.srun (execList demoFuncs 0 8 demoProg demoSt ⟨0, []⟩).1.s [] = .ok s := ⟨_, rfl⟩
example : S.srun S.SState.init [.newCtx] = .ok demoSt.s := rfl

/-- **Method events of the object language are on live objects.** Every instruction of Model/ObjProg.lean that emits a
method event on the value of a variable (`id`, `peer`, `self`, `spawn`, `fall`, the failing argument of `callThrow`) does so
under the guard `objOf st h = some o` on the handle `h` the receiver value holds (`tmp` and `mthrow` emit theirs on the
object the same instruction has just constructed, without a guard). In any store a host and programs can have
produced (`pre` is any `SOp` history; by `objprog_refines_store` every state inside a program is such a store) the guard
means: `o` was created, its counter has not been deleted, the module has not been asked to destroy it, and at least the
receiver's own handle shares it. (All objects of the object language belong to the one module `vmod`; the two-module
receiver check is `method_on_live_matching_object` / `receiver_check` on part M.) -/
theorem objprog_method_receiver_live (pre : List S.SOp) (st : St) (hpre : S.srun S.SState.init pre = .ok st.s)
    (h o : Nat) (hg : objOf st h = some o) :
    o < st.s.h.nobj ∧ st.s.h.freed o = false ∧ st.s.h.destroyed o = 0 ∧ 0 < refs st.s.h o := by
  have hi := srun_inv hpre init_inv
  unfold objOf at hg
  split at hg
  next o' hs =>
    cases hg
    obtain ⟨hb, hf, _, hp, hd⟩ := hi.of_mem (List.mem_of_getElem? hs)
    exact ⟨hb, hf, hd, hp⟩
  · cases hg

example : ∃ st : St, S.srun S.SState.init [.newCtx, .construct 0] = .ok st.s ∧ objOf st 0 = some 0 :=
  ⟨{ s := _, evs := [], cache := [] }, rfl, by decide +kernel⟩

/-- the returned-value slot of a context (`Context::saveReturned` / `dropReturned`, a host that runs `return X` programs
again and again without taking the value): replacing or dropping the kept value is a sequence of store operations too,
so `objprog_lifetime` covers hosts that never call `bloc_drop_returned` -/
theorem returned_slot_refines_store (st st' : St) (old r : Option V) (v : V) :
    (saveReturned st old v = .ok (st', r) → ∃ ops, S.srun st.s ops = .ok st'.s) ∧
    (dropReturned st old = .ok (st', r) → ∃ ops, S.srun st.s ops = .ok st'.s) :=
  ⟨saveReturned_reach, dropReturned_reach⟩

example : saveReturned demoSt none .null = .ok (demoSt, some .null) := rfl

end Refinement

/-! ### the hazard of the class: a moved-from handle cannot be destructed

The full statement "every well-formed sequence of the seven operations is survived" is FALSE for the code as it is:
the move constructor and `swap(Complex&&)` leave a handle with `_refcount == nullptr`, and the destructor, the copy
constructor, `operator=` and `swap(Complex&&)` dereference `_refcount` unconditionally. Witnesses (known finding
C17.moved_from_handle_null_deref; unreachable from scripts: libblocc itself only uses the copy constructor and the
destructor): -/
example : runErr [.new, .move 0, .dtor 0] = some .nullDeref := by decide +kernel
example : runErr [.new, .new, .swapMove 0 1, .dtor 1] = some .nullDeref := by decide +kernel
example : runErr [.new, .move 0, .copy 0] = some .nullDeref := by decide +kernel
example : runErr [.new, .new, .move 0, .assign 1 0] = some .nullDeref := by decide +kernel

end BlocV.Proofs.C17
