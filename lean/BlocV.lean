import BlocV.Gen.Errors
import BlocV.Gen.Consts
import BlocV.Gen.Keywords
import BlocV.Model.Basic
import BlocV.Model.Num
import BlocV.Model.Ops
import BlocV.Model.Typing
import BlocV.Model.Builtins
import BlocV.Model.Fmt
import BlocV.Gen.Sigs
import BlocV.Proto
import BlocV.Spec.Arith
import BlocV.Proofs.Lemmas.Basics
import BlocV.Proofs.Lemmas.Res
import BlocV.Proofs.Lemmas.Int64
import BlocV.Proofs.C03
import BlocV.Spec.Kleene
import BlocV.Proofs.C04
import BlocV.Proofs.C10
import BlocV.Model.Lex
import BlocV.Spec.Lex
import BlocV.Proofs.Lemmas.Lex
import BlocV.Proofs.C13
import BlocV.Model.Mod.Csv
import BlocV.Model.Mod.Utf8
import BlocV.Spec.Csv
import BlocV.Spec.Utf8
import BlocV.DrvC18
import BlocV.Proofs.Lemmas.Csv
import BlocV.Proofs.Lemmas.Utf8
import BlocV.Proofs.C18
import BlocV.Model.Interp
import BlocV.SExp
import BlocV.Proofs.C06
import BlocV.Proofs.C07
import BlocV.Proofs.C08
import BlocV.Model.Store
import BlocV.Proofs.C05
import BlocV.Proofs.C02
import BlocV.Proofs.C01
import BlocV.Model.Cli
import BlocV.Spec.Cli
import BlocV.DrvC19
import BlocV.Proofs.C19
import BlocV.Model.Plugin
import BlocV.Model.ObjProg
import BlocV.DrvC1617
import BlocV.Proofs.Lemmas.Handle
import BlocV.Proofs.C16
import BlocV.Proofs.C17
import BlocV.Spec.Plugin
import BlocV.Proofs.Lemmas.Perm
import BlocV.Spec.Loops
import BlocV.Proofs.Lemmas.Vars
import BlocV.Model.Parse
import BlocV.Model.Unparse
import BlocV.Spec.Roundtrip
import BlocV.DrvC12
import BlocV.Proofs.C12
import BlocV.Proofs.Lemmas.Parse
import BlocV.Gen.Shared
import BlocV.Model.World
import BlocV.DrvC14
import BlocV.Proofs.C14
import BlocV.Model.CApi
import BlocV.DrvC15
import BlocV.Proofs.Lemmas.CApi
import BlocV.Proofs.C15
import BlocV.Model.Members
import BlocV.Spec.Containers
import BlocV.KF.C09
import BlocV.DrvC09
import BlocV.Proofs.Lemmas.MemberEqs
import BlocV.Proofs.Lemmas.Containers
import BlocV.Proofs.C09
import BlocV.Model.ParseCtx
import BlocV.Proofs.Lemmas.ParseCtx
import BlocV.Proofs.C11
import BlocV.DrvC11
import BlocV.Spec.Float
import BlocV.Proofs.Lemmas.Float
import BlocV.Proofs.Lemmas.Fmt
import BlocV.Proofs.Lemmas.Store
import BlocV.Spec.Text
import BlocV.Proofs.Lemmas.Bytes
import BlocV.Proofs.Lemmas.Base64
import BlocV.Proofs.Lemmas.Digits
import BlocV.Proofs.Lemmas.NoHazard
import BlocV.Proofs.Lemmas.Text
import BlocV.Proofs.Lemmas.OpsCases
import BlocV.Proofs.Lemmas.BuiltinWalk
import BlocV.Proofs.Lemmas.BuiltinCases
import BlocV.Proofs.Lemmas.Loops
import BlocV.Proofs.Lemmas.Interp
import BlocV.Spec.FileSpec
import BlocV.Model.Mod.File
import BlocV.Model.Mod.Sqlite
import BlocV.DrvC18F
import BlocV.Proofs.Lemmas.FileMod
import BlocV.Proofs.C18F
import BlocV.Model.Elab
import BlocV.Model.Safety
import BlocV.DrvFE
import BlocV.Proofs.Lemmas.Typing
import BlocV.Proofs.Lemmas.ParseStmt
import BlocV.Model.Stepwise
import BlocV.Proofs.Lemmas.TypeSound
import BlocV.Model.StoreX
import BlocV.DrvC05
import BlocV.Proofs.Lemmas.StoreX
import BlocV.Proofs.Lemmas.ParseBlock
import BlocV.Proofs.Lemmas.ParseSize
import BlocV.Proofs.Lemmas.ParseExamples
import BlocV.Proofs.Lemmas.ContainersRefine
import BlocV.Model.Mod.FileAbs
import BlocV.Proofs.Lemmas.Utf8Ill
import BlocV.Proofs.Lemmas.Utf8Ops
import BlocV.Proofs.Lemmas.FileSeq
import BlocV.Model.Mod.CsvPlugin
import BlocV.Proofs.Lemmas.Lock
import BlocV.Proofs.Lemmas.Scan
import BlocV.Proofs.Lemmas.CliInterp
import BlocV.Proofs.Lemmas.World
import BlocV.Proofs.Lemmas.Cli
import BlocV.Proofs.Lemmas.ErrRec
import BlocV.Proofs.Lemmas.InterpEqns
import BlocV.Proofs.Lemmas.CountDown
import BlocV.Model.Session
import BlocV.Proofs.Lemmas.ParseSim
import BlocV.DrvC11S
import BlocV.Proofs.Lemmas.Method
import BlocV.Proofs.Lemmas.Refine
import BlocV.Proofs.Lemmas.CApiSeq
import BlocV.Model.LexReaders
import BlocV.Proofs.Lemmas.LexReaders
import BlocV.DrvC13
import BlocV.Model.GenEval
import BlocV.Proofs.Lemmas.GenOps
import BlocV.Proofs.C02G
import BlocV.Spec.SqliteSpec
import BlocV.Model.Mod.SqliteAbs
import BlocV.Proofs.Lemmas.SqliteSeq
import BlocV.Proofs.Lemmas.FileDir
import BlocV.Model.Mod.Utf8Case
import BlocV.Proofs.Lemmas.Utf8Case
import BlocV.Proofs.Lemmas.LexLiteral
import BlocV.Proofs.Lemmas.SafetyFlags
import BlocV.KF.C02
